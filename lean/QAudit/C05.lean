import QProps.C05
/-! generated by harness/common.py:write_audit on every run -/
#print axioms QM.C05.dyk_sweep_invariant
#print axioms QM.C05.dyk_sweepMode_invariant
#print axioms QM.C05.iter_total
#print axioms QM.C05.dyk_invariant
#print axioms QM.C05.dyk_history_steps
#print axioms QM.C05.dyk_run_none_iff
#print axioms QM.C05.dyk_stop_zero_fixed
#print axioms QM.C05.dyk_fixed_is_projection
#print axioms QM.C05.dyk_fixed_nearest_partial
#print axioms QM.C05.dyk_order_independent_partial
#print axioms QM.C05.dyk_sweep_physical
#print axioms QM.C05.dyk_fix_physical
#print axioms QM.C05.dyk_lyapunov_step
#print axioms QM.C05.dyk_lyapunov_iter
#print axioms QM.C05.dyk_bounded_summable
#print axioms QM.C05.dyk_stop_exists
#print axioms QM.C05.dyk_run_returns_min
#print axioms QM.C05.dyk_terminates
#print axioms QM.C05.dyk_sweep_gap
#print axioms QM.C05.dyk_returned_physical
#print axioms QM.C05.isProj_gate_eq
#print axioms QM.C05.dyk_iter_approx_vi
#print axioms QM.C05.dyk_run_congr
#print axioms QM.C05.dyk_history_lists
#print axioms QM.C05.dyk_returned_approx_vi_partial
#print axioms QM.C05.isProj_psd
#print axioms QM.C05.projIneqCore_eq_psdProj
#print axioms QM.C05.dyk_run_tapped
#print axioms QM.C05.dyk_runMode_tapped
#print axioms QM.C05.isProj_psd_blocks
#print axioms QM.C05.povm_projIneq_eq_psdProjBlocks
#print axioms QM.C05.isProj_psd_choi
#print axioms QM.C05.isProj_psd_blocks_choi
#print axioms QM.C05.gen_loop_frame
#print axioms QM.C05.isProj_povm_eq
#print axioms QM.C05.isProj_mprocess_eq
#print axioms QM.C05.isProj_univ
#print axioms QM.C05.gen_sweep_bodies
#print axioms QM.C05.gen_stop_rule
#print axioms QM.C05.dyk_runMode_orders
#print axioms QM.C05.isProj_state_eq
