import QProps.C12
/-! generated by harness/common.py:write_audit on every run -/
#print axioms QM.C12.wse_value_formula
#print axioms QM.C12.wse_taylor
#print axioms QM.C12.simple_taylor
#print axioms QM.C12.resolve_some
#print axioms QM.C12.zip_sum_eq_dotBlocks
#print axioms QM.C12.fast_bil_eq_generic
#print axioms QM.C12.fast_bil_eq_generic_noweights
#print axioms QM.C12.fast_eq_generic_value
#print axioms QM.C12.fast_eq_generic_grad
#print axioms QM.C12.fast_eq_generic_value_noweights
#print axioms QM.C12.fast_eq_generic_grad_noweights
#print axioms QM.C12.wseHessHalf_symm
#print axioms QM.C12.weightsByMode_eq
#print axioms QM.C12.inv_cov_weight_entries
#print axioms QM.C12.invCovWeight_symm
#print axioms QM.C12.symOk_of_symm
#print axioms QM.C12.configureGen_eq
#print axioms QM.C12.validWs_invCov
#print axioms QM.C12.configure_ok
#print axioms QM.C12.generic_mode_takes_effect
#print axioms QM.C12.setWeightsFast_ok
#print axioms QM.C12.calcExt_idem
#print axioms QM.C12.fast_mode_takes_effect
#print axioms QM.C12.wre_option_weights_installed
#print axioms QM.C12.wre_identity_resets_weights
#print axioms QM.C12.configureFast_empty_custom_raises
#print axioms QM.C12.fast_eq_generic_after_configure
#print axioms QM.C12.symmetrise_of_inverse
#print axioms QM.C12.covMat_symm
#print axioms QM.C12.extractedFor_symm
#print axioms QM.C12.inv_cov_weight_is_inverse
#print axioms QM.C12.gen_wse_branches
#print axioms QM.C12.weightsByMode_eq_generated
#print axioms QM.C12.configureFast_eq_generated
#print axioms QM.C12.gen_fast_cache_discipline
#print axioms QM.C12.gen_wre_modes_handled
#print axioms QM.C12.gen_wse_accepted_handled
#print axioms QM.C12.gen_unbiased_flag
#print axioms QM.C12.extractedFor_denominator
#print axioms QM.C12.truncQ_eq
#print axioms QM.C12.roundVarz_of_lt
#print axioms QM.C12.roundVarz_of_ge
#print axioms QM.C12.roundVarz_of_le
#print axioms QM.C12.relEntVec_eq_relEnt
#print axioms QM.C12.relEntGradVec_eq_relEntGrad
#print axioms QM.C12.relEntGrad_add
#print axioms QM.C12.relEntGrad_smul
#print axioms QM.C12.lincomb_length
#print axioms QM.C12.relEntGrad_zero
#print axioms QM.C12.relEntGrad_lincomb
#print axioms QM.C12.fastWre_eq_generic
#print axioms QM.C12.fastWre_noweights
#print axioms QM.C12.relEntVecTerms_sum
#print axioms QM.C12.relEntGradVecTerms_sum
#print axioms QM.C12.configureWre_fast_custom
#print axioms QM.C12.fastWre_configured
#print axioms QM.C12.wre_weighted_fast_eq_generic
#print axioms QM.C12.wre_weighted_fast_grad_eq_generic
#print axioms QM.C12.Away.value
#print axioms QM.C12.Away.grad
#print axioms QM.C12.Away.p_pos
#print axioms QM.C12.Away.eventually
#print axioms QM.C12.AwayOrSkipped.mem
#print axioms QM.C12.list_sum_hasDerivAt
#print axioms QM.C12.line_hasDerivAt
#print axioms QM.C12.const_div_line_hasDerivAt
#print axioms QM.C12.term_hasDerivAt
#print axioms QM.C12.valueTerm_hasDerivAt
#print axioms QM.C12.gradTerm_hasDerivAt
#print axioms QM.C12.wre_gradient_hasDerivAt_mixed
#print axioms QM.C12.wre_hessian_hasDerivAt_mixed
#print axioms QM.C12.wre_value_formula_mixed
#print axioms QM.C12.relEnt_region_q_below
#print axioms QM.C12.relEnt_region_p_clipped
#print axioms QM.C12.relEnt_region_ratio_clipped
#print axioms QM.C12.lossAt_eq_wreSum
#print axioms QM.C12.wre_loss_hasDerivAt
#print axioms QM.C12.wre_loss_grad_hasDerivAt
