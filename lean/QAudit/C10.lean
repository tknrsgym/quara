import QProps.C10
/-! generated by harness/common.py:write_audit on every run -/
#print axioms QM.C10.selection_table
#print axioms QM.C10.selection_physical_iff
#print axioms QM.C10.selection_order_from_template
#print axioms QM.C10.selection_keeps_installed
#print axioms QM.C10.gen_selection_table
#print axioms QM.C10.gen_physical_arguments
#print axioms QM.C10.gen_stop_modes
#print axioms QM.C10.gen_proj_orders
#print axioms QM.C10.gen_line_search_constants
#print axioms QM.C10.gen_update_formulas
#print axioms QM.C10.gen_update_terms
#print axioms QM.C10.gen_error_value_terms
#print axioms QM.C10.gen_pgdb_next_point
#print axioms QM.C10.gen_option_checks
#print axioms QM.C10.option_sufficient_gives_hypotheses
#print axioms QM.C10.ple_eq_proj_of_lin
#print axioms QM.C10.ple_pointwise
#print axioms QM.C10.lmeLoop_spec
#print axioms QM.C10.lme_estimates_from_selected_projection
#print axioms QM.C10.lme_estimates_satisfy_projection_invariant
#print axioms QM.C10.lme_validation_first_failure
#print axioms QM.C10.gen_estimator_glue
#print axioms QM.C10.dyk_stop_accuracy
#print axioms QM.C10.projPhysical_def
#print axioms QM.C10.proj_physical_accuracy
#print axioms QM.C10.dyk_sum_invariant
#print axioms QM.C10.dyk_stationary_is_nearest
#print axioms QM.C10.dyk_zero_value_is_stationary
#print axioms QM.C10.pgdb_step_feasible
#print axioms QM.C10.pgdb_iterates_feasible
#print axioms QM.C10.pgdb_estimate_feasible
#print axioms QM.C10.pgdb_estimate_approx_feasible
#print axioms QM.C10.proj_physical_lands_in_threshold_set
#print axioms QM.C10.pgdb_estimate_physical_to_threshold
#print axioms QM.C10.exact_data_minimiser
#print axioms QM.C10.weighted_exact_data_minimiser
#print axioms QM.C10.pgdb_truth_is_fixed_partial
#print axioms QM.C10.pgdb_run_from_stationary_point
#print axioms QM.C10.pgdm_result_is_projection
#print axioms QM.C10.fista_result_is_projection
#print axioms QM.C10.momentum_fista_optimize_result
#print axioms QM.C10.projection_output_feasible
