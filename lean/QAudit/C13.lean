import QProps.C13
/-! generated by harness/common.py:write_audit on every run -/
#print axioms QM.C13.cache_transparent
#print axioms QM.C13.cache_transparent_all
#print axioms QM.C13.cache_history_irrelevant
#print axioms QM.C13.get_builds_group
#print axioms QM.C13.get_other_unchanged
#print axioms QM.C13.delete_only_key
#print axioms QM.C13.delete_bbc_noMethod
#print axioms QM.C13.loss_fields_current
#print axioms QM.C13.loss_weights_after
#print axioms QM.C13.fast_ext_follows_weights
#print axioms QM.C13.fast_obs_eq_gen
#print axioms QM.C13.gen_reuse_refines_fresh
#print axioms QM.C13.fast_reuse_refines_fresh
#print axioms QM.C13.reuse_refines_fresh_history
#print axioms QM.C13.fast_uses_current_dataset_weights
#print axioms QM.C13.algo_qt_current
#print axioms QM.C13.algo_proj_is_first
#print axioms QM.C13.algo_reuse_eq_fresh_iff
#print axioms QM.C13.algo_reuse_refines_fresh_fails
#print axioms QM.C13.algo_ctor_proj_kept
#print axioms QM.C13.atol_restore_neutral
#print axioms QM.C13.atol_bracket_invisible
#print axioms QM.C13.atol_bad_set_neutral
#print axioms QM.C13.ctorEps_explicit
#print axioms QM.C13.ctorEps_default_captures
#print axioms QM.C13.interleaving_independent
#print axioms QM.C13.interleaved_cache_transparent
#print axioms QM.C13.interleaved_loss_reuse_refines_fresh
#print axioms QM.C13.projEq_arg_unchanged_of_copy
#print axioms QM.C13.projEq_arg_overwritten_of_view
#print axioms QM.C13.csTables_evaluated
#print axioms QM.C13.classTables_evaluated
#print axioms QM.C13.gen_cache_attrs
#print axioms QM.C13.gen_getters_match_model
#print axioms QM.C13.gen_deletes_match_model
#print axioms QM.C13.gen_cs_writes_only_caches
#print axioms QM.C13.gen_writers_declared
#print axioms QM.C13.gen_no_memo_decorators
#print axioms QM.C13.gen_inplace_declared
#print axioms QM.C13.gen_param_writes_declared
#print axioms QM.C13.gen_projEq_arg_unchanged
#print axioms QM.C13.gen_modes_handled
#print axioms QM.C13.gen_loss_wiring
#print axioms QM.C13.gen_cache_follows_source
#print axioms QM.C13.gen_pgd_shape
