import QProps.C01
/-! generated by harness/common.py:write_audit on every run -/
#print axioms QM.C01.isClose_exact
#print axioms QM.C01.traceOne_verdict_iff
#print axioms QM.C01.traceOne_exact_iff_rtol_zero
#print axioms QM.C01.identitySum_exact_iff_rtol_zero
#print axioms QM.C01.numpy_default_rtol_fails
#print axioms QM.C01.traceOne_exact_fails_of_default_rtol
#print axioms QM.C01.identitySum_exact_fails_of_default_rtol
#print axioms QM.C01.tp_row_iff
#print axioms QM.C01.psdVerdict_eigs_iff
#print axioms QM.C01.psdVerdict_iff
#print axioms QM.C01.psdVerdict_eigs_iff_posSemidef_exact_partial
#print axioms QM.C01.isClose_atol_mono
#print axioms QM.C01.traceOne_mono
#print axioms QM.C01.identitySum_mono
#print axioms QM.C01.tp_row_mono
#print axioms QM.C01.psdEig_atol_mono
#print axioms QM.C01.closeCC_mono
#print axioms QM.C01.physical_eq_and
#print axioms QM.C01.physical_one_tolerance
#print axioms QM.C01.statePhysical_iff
#print axioms QM.C01.gatePhysical_iff
#print axioms QM.C01.mk_ok_iff_physical
#print axioms QM.C01.mk_raises_iff
#print axioms QM.C01.povmIdentitySum_iff
#print axioms QM.C01.povmIdentitySum_offdiag_exact
#print axioms QM.C01.povmPsd_iff
#print axioms QM.C01.povmPhysical_iff
#print axioms QM.C01.mpSumTp_eq
#print axioms QM.C01.mpCp_iff
#print axioms QM.C01.mpPhysical_iff
#print axioms QM.C01.subverdicts_mono
#print axioms QM.C01.physical_mono
#print axioms QM.C01.mkWith_iff
#print axioms QM.C01.state_ctor_iff
#print axioms QM.C01.gate_ctor_iff
#print axioms QM.C01.povm_ctor_iff
#print axioms QM.C01.mprocess_ctor_iff
#print axioms QM.C01.traceOne_exact_fails
#print axioms QM.C01.identitySum_exact_fails
#print axioms QM.C01.psdVerdict_eigs_sandwich
#print axioms QM.C01.psdVerdict_sandwich_matrix
#print axioms QM.C01.statePhysical_sandwich_matrix
#print axioms QM.C01.gatePhysical_sandwich_matrix
#print axioms QM.C01.generated_is_physical_iff
#print axioms QM.C01.generated_ctor_raises_iff
#print axioms QM.C01.mk_all_types_iff
#print axioms QM.C01.generated_basis_flag_iff
#print axioms QM.C01.isTp_branch
#print axioms QM.C01.origin_gate_tp
#print axioms QM.C01.origin_mprocess_sum_tp
#print axioms QM.C01.traceOne_of_trace_one
#print axioms QM.C01.psdEig_of_nonneg
#print axioms QM.C01.psdVerdict_scalar
#print axioms QM.C01.origin_state_physical
#print axioms QM.C01.identitySum_identity
#print axioms QM.C01.origin_povm_physical
#print axioms QM.C01.zero_object_is_zero
#print axioms QM.C01.zero_state_verdicts
#print axioms QM.C01.tp_branches_relation
#print axioms QM.C01.tpTrace_iff
#print axioms QM.C01.psdVerdict_rejects_nonhermitian
#print axioms QM.C01.isHermitian_zero_iff
#print axioms QM.C01.trace_toMatrix
#print axioms QM.C01.stateTraceOne_exact_iff_rtol_zero
#print axioms QM.C01.statePhysical_sandwich_matrix_trace
#print axioms QM.C01.tpTrace_zero_iff
#print axioms QM.C01.basisIsOrthogonal_iff
#print axioms QM.C01.basisIsNormal_iff
#print axioms QM.C01.basisIsHermitian_iff
#print axioms QM.C01.elemental_flag_of_basis
