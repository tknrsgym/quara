import QProps.C08
/-! generated by harness/common.py:write_audit on every run -/
#print axioms QM.C08.dict_sorted
#print axioms QM.C08.dict_keys
#print axioms QM.C08.predictRaw_mkCoeffs
#print axioms QM.C08.stats_eq_iff_predictRaw
#print axioms QM.C08.coeffs_affine
#print axioms QM.C08.predict_ok_of_affine
#print axioms QM.C08.qst_affine
#print axioms QM.C08.povmt_affine
#print axioms QM.C08.qpt_affine
#print axioms QM.C08.qmpt_affine
#print axioms QM.C08.qmpt_walk_eq_born
#print axioms QM.C08.truncNorm_id_zero_or_large
#print axioms QM.C08.truncNorm_id
#print axioms QM.C08.qmpt_walk_eps_eq_born
#print axioms QM.C08.qmptCircuitWalkEps_eq
#print axioms QM.C08.qmptCircuitWalkEps_eq_boundary
#print axioms QM.C08.qmptCircuitWalk_eq
#print axioms QM.C08.predict_eq_circuit_of_affine
#print axioms QM.C08.qst_predict_eq_circuit
#print axioms QM.C08.predictRaw_injective_iff
#print axioms QM.C08.statistics_eq_iff_matA
#print axioms QM.C08.rank_iff_IC
#print axioms QM.C08.is_fullrank_iff_IC
#print axioms QM.C08.qst_cols
#print axioms QM.C08.qpt_cols
#print axioms QM.C08.povmt_cols
#print axioms QM.C08.qmpt_cols
#print axioms QM.C08.qst_predict_ok
#print axioms QM.C08.qpt_predict_ok
#print axioms QM.C08.povmt_predict_ok
#print axioms QM.C08.qmpt_predict_ok
#print axioms QM.C08.calcProbDists_eq_circuit_iff
#print axioms QM.C08.calcProbDist_eq_circuit
#print axioms QM.C08.calcProbDists_mixed_counts_fails
#print axioms QM.C08.calcProbDists_mixed_counts_regroups_fails
#print axioms QM.C08.gen_qst_row
#print axioms QM.C08.gen_qpt_row
#print axioms QM.C08.gen_povmt_row
#print axioms QM.C08.gen_keys
#print axioms QM.C08.gen_schedPair
#print axioms QM.C08.gen_cqpt_to_cqmpt
#print axioms QM.C08.gen_qmpt_constants
#print axioms QM.C08.gen_qst_row_affine
