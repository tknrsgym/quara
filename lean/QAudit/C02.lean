import QProps.C02
/-! generated by harness/common.py:write_audit on every run -/
#print axioms QM.C02.density_variants_agree
#print axioms QM.C02.vecOfDensity_formula
#print axioms QM.C02.vec_density_vec
#print axioms QM.C02.density_vec_density
#print axioms QM.C02.density_vec_density_of_orthonormal
#print axioms QM.C02.state_conversions_linear
#print axioms QM.C02.choi_variants_agree
#print axioms QM.C02.hsOfChoi_loop_eq_sparse
#print axioms QM.C02.hsOfChoi_dict_eq_sparse
#print axioms QM.C02.hsOfChoi_dict_needs_hermitian
#print axioms QM.C02.hs_choi_hs
#print axioms QM.C02.choi_hs_choi
#print axioms QM.C02.choi_conversions_linear
#print axioms QM.C02.hsToVar_varToHs
#print axioms QM.C02.toVarFromChoi_roundtrip
#print axioms QM.C02.B0_orthonormal
#print axioms QM.C02.B0_hermitian
#print axioms QM.C02.forward_is_not_inverse
#print axioms QM.C02.povmMatrix_ok
#print axioms QM.C02.povm_matrix_variants_agree
#print axioms QM.C02.povm_tuple_access
#print axioms QM.C02.mdSerial_general
#print axioms QM.C02.convertVec_same_operator
#print axioms QM.C02.convertVec_roundtrip
#print axioms QM.C02.convertHs_roundtrip
#print axioms QM.C02.convert_linear
#print axioms QM.C02.comp_basis_action
#print axioms QM.C02.hsOfKraus_comp
#print axioms QM.C02.choi_eq_reshuffled_comp
#print axioms QM.C02.choi_of_kraus
#print axioms QM.C02.choiSparse_hsOfKrausRaw
#print axioms QM.C02.hsOfKrausRaw_eq
#print axioms QM.C02.hsOfKrausRaw_of_choi
#print axioms QM.C02.kraus_hs_action
#print axioms QM.C02.processMatrix_eq_choi
#print axioms QM.C02.processMatrix_of_kraus
#print axioms QM.C02.comp_basis_col_eq_row_permuted
#print axioms QM.C02.kraus_roundtrip_partial
#print axioms QM.C02.kraus_roundtrip_exact_kernel
#print axioms QM.C02.kraus_empty_of_not_cp
#print axioms QM.C02.truncEntry_spec
#print axioms QM.C02.truncEntry_real
#print axioms QM.C02.vecOfDensity_accepts_iff
#print axioms QM.C02.vecOfDensity_accepted_coeffs
#print axioms QM.C02.vecOfDensity_accepted_rebuilds
#print axioms QM.C02.vecOfDensity_hermitian_accepted
#print axioms QM.C02.vecOfDensity_nonhermitian_rejected
#print axioms QM.C02.hsOfChoi_accepts_iff
#print axioms QM.C02.kraus_channel_preserved_exact_kernel
#print axioms QM.C02.kraus_full_roundtrip_exact_kernel
#print axioms QM.C02.kraus_phase_invariant
#print axioms QM.C02.hs_choi_hs_executed
#print axioms QM.C02.hs_choi_hs_executed_needs_threshold
#print axioms QM.C02.hsOfChoi_executed_agree
#print axioms QM.C02.toVarFromChoi_executed
#print axioms QM.C02.vec_density_vec_executed
#print axioms QM.C02.toVarFromMatrices_executed
#print axioms QM.C02.hsOfKraus_executed
#print axioms QM.C02.hs_kraus_hs_executed_exact_kernel
#print axioms QM.C02.kraus_roundtrip_residual
#print axioms QM.C02.convert_comp
#print axioms QM.C02.comp_col_roundtrip
#print axioms QM.C02.processMatrix_linear
#print axioms QM.C02.choi_hermitian_iff_hs_real
#print axioms QM.C02.hsOfKraus_never_rejected
#print axioms QM.C02.gen_choi_forward
#print axioms QM.C02.gen_choi_inverse
#print axioms QM.C02.gen_sparse_tables
#print axioms QM.C02.gen_basis_change
#print axioms QM.C02.gen_kraus_process
#print axioms QM.C02.gen_comp_basis
#print axioms QM.C02.gen_truncate
#print axioms QM.C02.gen_callees
#print axioms QM.C02.gen_callees_executed
#print axioms QM.C02.gen_vec_matrix
#print axioms QM.C02.gen_expansion_helpers
#print axioms QM.C02.gen_convert_checks
#print axioms QM.C02.gen_kraus_extraction
#print axioms QM.C02.gen_var_rows
#print axioms QM.C02.mprocess_outcome_conversions
#print axioms QM.C02.mprocess_convert_basis
#print axioms QM.C02.idHs_choi
#print axioms QM.C02.idEigs_cp
#print axioms QM.C02.idEigs_contract
#print axioms QM.C02.idHsR_big
#print axioms QM.C02.yHs_choi
#print axioms QM.C02.yEigs_cp
