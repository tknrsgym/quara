import QProps.C15
/-! generated by harness/common.py:write_audit on every run -/
#print axioms QM.C15.loop_int_segments
#print axioms QM.C15.loop_int_pure
#print axioms QM.C15.loop_int_eq_gen
#print axioms QM.C15.loop_gen_segments
#print axioms QM.C15.loop_none_segments
#print axioms QM.C15.reps_distinct_streams
#print axioms QM.C15.flowData_get
#print axioms QM.C15.flowData_succ
#print axioms QM.C15.flow_streams_distinct
#print axioms QM.C15.schedule_independent
#print axioms QM.C15.partition_independent_partial
#print axioms QM.C15.partition_independent_fails
#print axioms QM.C15.reest_reproduces_partial
#print axioms QM.C15.depol_eq_mixture
#print axioms QM.C15.depolHs_rows
#print axioms QM.C15.depolHs_eq_mixture
#print axioms QM.C15.depol_preserves_equality_constraint
#print axioms QM.C15.depol_convex_physical_partial
#print axioms QM.C15.violation_check_iff
#print axioms QM.C15.violation_check_empty
#print axioms QM.C15.violation_check_short_row_raises
#print axioms QM.C15.violation_check_short_row_raises_general
#print axioms QM.C15.thresholds
#print axioms QM.C15.gen_one_stream_per_run
#print axioms QM.C15.gen_int_seed_segments
#print axioms QM.C15.loopWith_raw_int_identical
#print axioms QM.C15.execSim_default_seed
#print axioms QM.C15.gen_entries_convert_once
#print axioms QM.C15.gen_seed_keyword
#print axioms QM.C15.gen_flow_seeds
#print axioms QM.C15.gen_thresholds
#print axioms QM.C15.gen_check_wiring
