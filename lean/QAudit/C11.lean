import QProps.C11
/-! generated by harness/common.py:write_audit on every run -/
#print axioms QM.C11.pg_fixed_iff_opt
#print axioms QM.C11.pg_descent_dir
#print axioms QM.C11.isProjOn_max_zero
#print axioms QM.C11.armijo_monotone
#print axioms QM.C11.pgdb_step_decrease
#print axioms QM.C11.pgdb_step_length
#print axioms QM.C11.stop_rule_window_one
#print axioms QM.C11.stop_rule_bounds_last
#print axioms QM.C11.stop_criteria_meaning
#print axioms QM.C11.pgdb_step_err
#print axioms QM.C11.stop_bounds_projected_gradient_partial
#print axioms QM.C11.eps_optimality_certificate
#print axioms QM.C11.eps_optimality_of_small_residual
#print axioms QM.C11.pgdb_error_value_nonneg
#print axioms QM.C11.stop_mode_guarantees
#print axioms QM.C11.pgdb_run_invariant
#print axioms QM.C11.pgdb_loss_nonincreasing
#print axioms QM.C11.pgdb_steps_summable
#print axioms QM.C11.pgdb_long_steps_bounded
#print axioms QM.C11.armijo_accepts_small_steps
#print axioms QM.C11.backtrack_terminates
#print axioms QM.C11.rate_const_nonneg
#print axioms QM.C11.pgdb_step_alpha_lower_bound
#print axioms QM.C11.pgdb_residuals_summable
#print axioms QM.C11.pgdb_rate
#print axioms QM.C11.pgdb_window_iterations
#print axioms QM.C11.pgdb_loss_rule_iterations_window
#print axioms QM.C11.pgdb_loss_rule_iterations
#print axioms QM.C11.pgdb_step_size_rule_iterations_window
#print axioms QM.C11.pgdb_step_size_rule_iterations
#print axioms QM.C11.pgdb_projected_gradient_rule_iterations_window
#print axioms QM.C11.pgdb_projected_gradient_rule_iterations
#print axioms QM.C11.gen_stopping_rules
#print axioms QM.C11.projS_is_euclidean_projection
#print axioms QM.C11.pg_descent_dir_fails_via_stacked
#print axioms QM.C11.cvx_se_equal_shots
#print axioms QM.C11.cvx_se_same_minimisers
#print axioms QM.C11.cvx_re_equal_shots
#print axioms QM.C11.cvx_re_same_minimisers
#print axioms QM.C11.relative_entropy_exact_data_minimiser
#print axioms QM.C11.plain_relative_entropy_exact_data
