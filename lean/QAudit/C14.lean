import QProps.C14
/-! generated by harness/common.py:write_audit on every run -/
#print axioms QM.C14.generated_core
#print axioms QM.C14.generated_empi_tests
#print axioms QM.C14.toStream_table
#print axioms QM.C14.r2d_range
#print axioms QM.C14.r2d_interval
#print axioms QM.C14.r2d_hit_nonzero_any_add
#print axioms QM.C14.r2dLoop_is_instance
#print axioms QM.C14.r2d_hit_pos
#print axioms QM.C14.r2d_pos_any_add
#print axioms QM.C14.r2d_pos
#print axioms QM.C14.r2d_residual
#print axioms QM.C14.data_valid
#print axioms QM.C14.countsOf_def
#print axioms QM.C14.empiEntry_def
#print axioms QM.C14.empi_ok_iff
#print axioms QM.C14.empi_counts
#print axioms QM.C14.empi_nonneg
#print axioms QM.C14.empi_sum_one
#print axioms QM.C14.empi_cumulative
#print axioms QM.C14.empi_cumulative_out
#print axioms QM.C14.increasing_def
#print axioms QM.C14.lastD_def
#print axioms QM.C14.empi_error_sound
#print axioms QM.C14.empi_ok_sum_one
#print axioms QM.C14.empi_first_size_nonpositive
#print axioms QM.C14.empi_validation
#print axioms QM.C14.seed_int_pure
#print axioms QM.C14.seed_int_pure_dataset
#print axioms QM.C14.seed_int_pure_empis
#print axioms QM.C14.seed_list_entries_pure
#print axioms QM.C14.seed_other_rejected
#print axioms QM.C14.datasetPure_cons
#print axioms QM.C14.shared_stream_advances
#print axioms QM.C14.global_stream
#print axioms QM.C14.empi_of_stream_prefix
#print axioms QM.C14.validEmpi_def
#print axioms QM.C14.genEmpiSeq_valid
#print axioms QM.C14.validateProb_ok_iff
#print axioms QM.C14.validateProb_error_sound
#print axioms QM.C14.genDataE_ok_iff
#print axioms QM.C14.genDataE_error_draws_nothing
#print axioms QM.C14.reset_seed_replays
#print axioms QM.C14.reset_seed_none_is_noop
