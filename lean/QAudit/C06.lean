import QProps.C06
/-! generated by harness/common.py:write_audit on every run -/
#print axioms QM.C06.heisenberg_gate
#print axioms QM.C06.povm_mprocess_layout
#print axioms QM.C06.heisenberg_mprocess
#print axioms QM.C06.born_sum_one
#print axioms QM.C06.mprocess_prob_eq_to_povm
#print axioms QM.C06.toPovm_identitySum
#print axioms QM.C06.mprocess_prob_sum_one
#print axioms QM.C06.smul_row_outer
#print axioms QM.C06.mode2_to_povm_list
#print axioms QM.C06.mode2_to_povm
#print axioms QM.C06.tp_comp_tp
#print axioms QM.C06.tp_preserves_trace
#print axioms QM.C06.povm_gate_identity_sum_aux
#print axioms QM.C06.povm_gate_identity_sum
#print axioms QM.C06.povm_mprocess_identity_sum
#print axioms QM.C06.applyInst_comp
#print axioms QM.C06.mpMp_assoc
#print axioms QM.C06.mpMp_layout
#print axioms QM.C06.truncNorm_eq_some
#print axioms QM.C06.truncNorm_sum_one
#print axioms QM.C06.truncNorm_generic
#print axioms QM.C06.post_state_trace_one
#print axioms QM.C06.post_state_scaled
#print axioms QM.C06.mkMProcess_ok
#print axioms QM.C06.mkMProcess_map_ok
#print axioms QM.C06.compose_gate_gate
#print axioms QM.C06.compose_gate_state
#print axioms QM.C06.compose_gate_mprocess
#print axioms QM.C06.compose_mprocess_gate
#print axioms QM.C06.compose_mprocess_mprocess_shape
#print axioms QM.C06.compose_mprocess_state
#print axioms QM.C06.compose_povm_gate
#print axioms QM.C06.compose_povm_mprocess
#print axioms QM.C06.compose_povm_state
#print axioms QM.C06.mprocess_state_exact
#print axioms QM.C06.keptP_ne_zero
#print axioms QM.C06.ne_zero_of_not_mul_le
#print axioms QM.C06.mprocess_state_partial
#print axioms QM.C06.forStates_mul_gate
#print axioms QM.C06.assoc_mprocess_gate_state
#print axioms QM.C06.assoc_povm_gate_state
#print axioms QM.C06.assoc_povm_mprocess_gate
#print axioms QM.C06.forStates_gate_mul
#print axioms QM.C06.gate_tree_eval
#print axioms QM.C06.gate_chain_bracketing
#print axioms QM.C06.mpMp_one_right
#print axioms QM.C06.mpMp_one_left
#print axioms QM.C06.foldInst_append
#print axioms QM.C06.instrument_bracketing
#print axioms QM.C06.gate_branches_are_instruments
#print axioms QM.C06.c16prod_append
#print axioms QM.C06.mpMp_length
#print axioms QM.C06.compose_inst
#print axioms QM.C06.tree_eval_instruments
#print axioms QM.C06.tree_bracketing_instruments
#print axioms QM.C06.rightNested_concat
#print axioms QM.C06.rightNested_leaves
#print axioms QM.C06.composeChain_eq_rightNested
#print axioms QM.C06.compose_assoc_mprocess_truncation_fails
#print axioms QM.C06.truncNorm_nonneg
#print axioms QM.C06.mulVec_smul
#print axioms QM.C06.forStates_weighted
#print axioms QM.C06.ensemble_step_partial
#print axioms QM.C06.post_states_normalised
#print axioms QM.C06.compose_assoc_mprocess_partial
#print axioms QM.C06.mode1Loop_nodup
#print axioms QM.C06.outer_unit_idem
#print axioms QM.C06.mode1_to_povm_partial
#print axioms QM.C06.truncated_probs_sum
#print axioms QM.C06.truncated_weighted_state
#print axioms QM.C06.assoc_gate_gate_state
#print axioms QM.C06.assoc_povm_gate_mprocess
#print axioms QM.C06.assoc_povm_mprocess_state_partial
#print axioms QM.C06.compose_mprocess_mprocess_matches_source
#print axioms QM.C06.compose_eps_matches_source
#print axioms QM.C06.povmMProcess_matches_source
#print axioms QM.C06.forStates_matches_source
#print axioms QM.C06.mpEnsemble_shape_matches_source
#print axioms QM.C06.sumtp_mul_row
#print axioms QM.C06.sumtp_mpMp
#print axioms QM.C06.gate_chain_state_bracketing
#print axioms QM.C06.povm_state_generic
#print axioms QM.C06.mpState_generic_partial
#print axioms QM.C06.trace_matOf_mul
#print axioms QM.C06.born_nonneg
#print axioms QM.C06.gate_state_kraus
