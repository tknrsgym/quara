import QProps.C18
/-! generated by harness/common.py:write_audit on every run -/
#print axioms QM.C18.projEq_zeroes_row0
#print axioms QM.C18.projEq_keeps_other_rows
#print axioms QM.C18.projEq_fixes_tp
#print axioms QM.C18.projEq_idem
#print axioms QM.C18.projEq_nearest
#print axioms QM.C18.isTp_iff
#print axioms QM.C18.hs_row0_eq_trace
#print axioms QM.C18.tp_iff_row0
#print axioms QM.C18.gksl_action_hjk
#print axioms QM.C18.gksl_action_hk
#print axioms QM.C18.from_hk_trace_zero
#print axioms QM.C18.from_hk_row0
#print axioms QM.C18.calc_h_mat_glue
#print axioms QM.C18.calc_j_mat_glue
#print axioms QM.C18.calc_k_mat_glue
#print axioms QM.C18.convert_hs_roundtrip
#print axioms QM.C18.extract_k_of_rebuild
#print axioms QM.C18.extract_h_coef
#print axioms QM.C18.extract_j_coef
#print axioms QM.C18.extract_j_coef_all
#print axioms QM.C18.extract_h_of_rebuild
#print axioms QM.C18.extract_j_of_rebuild
#print axioms QM.C18.parts_sum_partial
#print axioms QM.C18.extract_of_rebuild_hs
#print axioms QM.C18.parts_sum_comp_partial
#print axioms QM.C18.parts_sum_herm_partial
#print axioms QM.C18.extract_of_rebuild_hs_exec
#print axioms QM.C18.projIneq_dissipator
#print axioms QM.C18.clipK_psd
#print axioms QM.C18.clipK_fix_partial
#print axioms QM.C18.projIneq_fixed_point
#print axioms QM.C18.ctorCheck_ok_iff
#print axioms QM.C18.ctorCheck_error_order
#print axioms QM.C18.isPsdVerdict_iff
#print axioms QM.C18.isCp_iff
#print axioms QM.C18.choiCb_get
#print axioms QM.C18.hsFromHk_isTp
#print axioms QM.C18.jump_k_part_action
#print axioms QM.C18.jump_j_part_action_coded
#print axioms QM.C18.jump_j_part_action_gksl
#print axioms QM.C18.from_h_action
#print axioms QM.C18.from_k_action
#print axioms QM.C18.kPart_cp_of_K_psd
#print axioms QM.C18.cp_iff_K_psd
#print axioms QM.C18.exp_series_tp
#print axioms QM.C18.exp_tp
#print axioms QM.C18.expSeries_eq_partial_sum
#print axioms QM.C18.jump_operators_gksl_fails
