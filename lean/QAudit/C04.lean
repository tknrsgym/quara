import QProps.C04
/-! generated by harness/common.py:write_audit on every run -/
#print axioms QM.C04.state_projEq_mem
#print axioms QM.C04.state_projEq_orth
#print axioms QM.C04.state_projEq_nearest
#print axioms QM.C04.state_projEq_fix
#print axioms QM.C04.state_projEq_idem
#print axioms QM.C04.state_var_eq_obj_F
#print axioms QM.C04.state_var_eq_obj_T
#print axioms QM.C04.povm_projEq_mem
#print axioms QM.C04.povm_projEq_orth
#print axioms QM.C04.povm_projEq_nearest
#print axioms QM.C04.povm_projEq_fix
#print axioms QM.C04.povm_projEq_idem
#print axioms QM.C04.povm_var_T_id
#print axioms QM.C04.povm_var_eq_obj_F
#print axioms QM.C04.gate_projEq_mem
#print axioms QM.C04.gate_projEq_orth
#print axioms QM.C04.gate_projEq_nearest
#print axioms QM.C04.gate_projEq_fix
#print axioms QM.C04.gate_projEq_idem
#print axioms QM.C04.gate_var_eq_obj_F
#print axioms QM.C04.gate_var_eq_obj_T
#print axioms QM.C04.mprocess_projEq_mem
#print axioms QM.C04.mprocess_projEq_orth
#print axioms QM.C04.mprocess_projEq_nearest
#print axioms QM.C04.mprocess_projEq_fix
#print axioms QM.C04.mprocess_projEq_idem
#print axioms QM.C04.mprocess_var_eq_obj_F
#print axioms QM.C04.mprocess_var_T_id
#print axioms QM.C04.state_projEq_unique
#print axioms QM.C04.povm_projEq_unique
#print axioms QM.C04.gate_projEq_unique
#print axioms QM.C04.mprocess_projEq_unique
#print axioms QM.C04.gen_state_eq
#print axioms QM.C04.gen_gate_eq
#print axioms QM.C04.gen_povm_eq
#print axioms QM.C04.gen_mprocess_eq
#print axioms QM.C04.mprocess_eq_var_argument_model_trivial
#print axioms QM.C04.mprocess_eq_var_F_feasible_unchanged
#print axioms QM.C04.projIneqCore_feasible_partial
#print axioms QM.C04.projIneqCore_coeff
#print axioms QM.C04.projIneqCore_vi_partial
#print axioms QM.C04.projIneqCore_nearest_partial
#print axioms QM.C04.projIneqCore_fix_partial
#print axioms QM.C04.projIneqCore_idem_partial
#print axioms QM.C04.blocks_nearest_partial
#print axioms QM.C04.povm_ineq_var_T
#print axioms QM.C04.gate_ineq_var_T
#print axioms QM.C04.orthoN_kronBasis
#print axioms QM.C04.gate_projIneq_nearest_partial
#print axioms QM.C04.projIneqCore_ok
#print axioms QM.C04.projIneqCore_span
#print axioms QM.C04.projIneqCore_spec_partial
#print axioms QM.C04.gate_projIneq_spec_partial
#print axioms QM.C04.projIneqCore_idem_spec_partial
#print axioms QM.C04.projIneqCore_eps_partial
#print axioms QM.C04.pauli_orthoN
#print axioms QM.C04.pauli_hermB
#print axioms QM.C04.truncate_ok_iff
#print axioms QM.C04.truncate_raises_iff
#print axioms QM.C04.truncate_perturbed
#print axioms QM.C04.povm_projIneq_blocks
#print axioms QM.C04.mprocess_projIneq_blocks
#print axioms QM.C04.povm_projIneq_spec_partial
#print axioms QM.C04.mprocess_projIneq_spec_partial
#print axioms QM.C04.state_ineq_var_T
#print axioms QM.C04.gate_ineq_is_core
