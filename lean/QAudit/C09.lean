import QProps.C09
/-! generated by harness/common.py:write_audit on every run -/
#print axioms QM.C09.est_exact
#print axioms QM.C09.est_normal
#print axioms QM.C09.est_lsq
#print axioms QM.C09.est_lsq_unique
#print axioms QM.C09.normal_imp_est
#print axioms QM.C09.contract_injective
#print axioms QM.C09.estOne_fast
#print axioms QM.C09.guard_reject
#print axioms QM.C09.estSeq_pointwise
#print axioms QM.C09.estSeq_get
#print axioms QM.C09.estSeq_ignores_counts
#print axioms QM.C09.lsqCert_sound
#print axioms QM.C09.lsqCert_dist
#print axioms QM.C09.lsqCert_zero
#print axioms QM.C09.solveChecked_sound
#print axioms QM.C09.lsqExact_optimal
#print axioms QM.C09.est_exact_err
#print axioms QM.C09.est_normal_err
#print axioms QM.C09.invCert_iff
#print axioms QM.C09.invCert_sound
#print axioms QM.C09.invCert_zero
#print axioms QM.C09.estSeqInv_cases
#print axioms QM.C09.contract_rank
#print axioms QM.C09.guard_passes_of_contract
#print axioms QM.C09.wide_no_contract
#print axioms QM.C09.guard_lets_through_iff
#print axioms QM.C09.gen_A_ddag
#print axioms QM.C09.gen_v
#print axioms QM.C09.gen_estData
#print axioms QM.C09.gen_is_fullrank
#print axioms QM.C09.gen_estimated_var
#print axioms QM.C09.gen_est_exact
#print axioms QM.C09.lin_recovers_var
#print axioms QM.C09.lin_recovers_var_approx
#print axioms QM.C09.lin_recovers_from_circuit_approx
#print axioms QM.C09.lin_recovers_from_circuit
#print axioms QM.C09.qst_lin_recovers
#print axioms QM.C09.estimatedQoperation_pointwise
#print axioms QM.C09.est_object_exact
#print axioms QM.C09.qst_object_recovered
#print axioms QM.C09.object_recovered_from_circuit
#print axioms QM.C09.povmt_object_recovered
#print axioms QM.C09.qpt_object_recovered
#print axioms QM.C09.qmpt_object_recovered
