import QProps.C07
/-! generated by harness/common.py:write_audit on every run -/
#print axioms QM.C07.K_swaps
#print axioms QM.C07.hs_tensor
#print axioms QM.C07.product_gate_action
#print axioms QM.C07.left_perm_single_swap
#print axioms QM.C07.tensorObjExec_eq
#print axioms QM.C07.calcPermLoop_sorted
#print axioms QM.C07.leftPerm_ne_fuel
#print axioms QM.C07.calcPermLoop_fuel_suffices
#print axioms QM.C07.calcPerm_never_fuel
#print axioms QM.C07.leftPerm_swap_kronAll
#print axioms QM.C07.calcPermLoop_semantic
#print axioms QM.C07.calcPerm_sorts
#print axioms QM.C07.calcPerm_total
#print axioms QM.C07.ratPerm_eq_calcPerm
#print axioms QM.C07.tensorStateState_product_partial
#print axioms QM.C07.leftPerm_matches_source
#print axioms QM.C07.calcPerm_loop_matches_source
#print axioms QM.C07.leftPerm_ortho
#print axioms QM.C07.calcPerm_orthogonal
#print axioms QM.C07.ratPerm_orthogonal
#print axioms QM.C07.ratPerm_cols
#print axioms QM.C07.tensorHs_intertwines
#print axioms QM.C07.kron_mulVecL
#print axioms QM.C07.tensorHs_product_action
#print axioms QM.C07.mprocess_product_layout_fails
#print axioms QM.C07.dotL_cons
#print axioms QM.C07.dotL_scale
#print axioms QM.C07.dotL_append
#print axioms QM.C07.product_statistics
#print axioms QM.C07.povm_product_raw_layout
#print axioms QM.C07.embedIndex_one
#print axioms QM.C07.embedIndex_two
#print axioms QM.C07.embedEntry_block
#print axioms QM.C07.embed_state_physical
#print axioms QM.C07.embed_povm_physical
#print axioms QM.C07.embed_kraus_tp
#print axioms QM.C07.embed_statistics
#print axioms QM.C07.embedEntry_eq_embIso
#print axioms QM.C07.embedEntry_one_eq
#print axioms QM.C07.embedEntry_two_eq
