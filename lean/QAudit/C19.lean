import QProps.C19
/-! generated by harness/common.py:write_audit on every run -/
#print axioms QM.C19.multinomial_mean
#print axioms QM.C19.multinomial_cov_entry
#print axioms QM.C19.multinomial_cov
#print axioms QM.C19.mse_empi_exact
#print axioms QM.C19.trace_covMat
#print axioms QM.C19.mse_linear_single
#print axioms QM.C19.linear_unbiased
#print axioms QM.C19.expectJoint_normSq_add
#print axioms QM.C19.linErr_mean_zero
#print axioms QM.C19.mse_linear_joint
#print axioms QM.C19.mseLinearVar_eq_linTrace
#print axioms QM.C19.mse_linear_var_exact
#print axioms QM.C19.mse_empi_total_exact
#print axioms QM.C19.direct_sum_blocks
#print axioms QM.C19.conjugate_spec
#print axioms QM.C19.mse_linear_povm_qop
#print axioms QM.C19.mse_linear_povm_qop_exact
#print axioms QM.C19.left_inv_wide_fails
#print axioms QM.C19.left_inv_spec
#print axioms QM.C19.sqDist_eq
#print axioms QM.C19.sqDist_mismatch
#print axioms QM.C19.se_cons
#print axioms QM.C19.mean?_spec
#print axioms QM.C19.varDdof?_spec
#print axioms QM.C19.varDdof?_nan
#print axioms QM.C19.varDdof1_pair
#print axioms QM.C19.mseProbDists_eq
#print axioms QM.C19.replace_noop
#print axioms QM.C19.fisherRaw_entry
#print axioms QM.C19.fisher_eq
#print axioms QM.C19.fisher_formula
#print axioms QM.C19.fisher_is_score_covariance
#print axioms QM.C19.fisher_entry_sum
#print axioms QM.C19.fisher_entry_is_score_expectation
#print axioms QM.C19.crb_formula
#print axioms QM.C19.crb_povm_formula
#print axioms QM.C19.matS_mulVec
#print axioms QM.C19.povm_last_element_error
#print axioms QM.C19.fisherQt_block
#print axioms QM.C19.gen_constants_match_model
#print axioms QM.C19.matS_eq_gen
#print axioms QM.C19.defaultEps_eq_gen
#print axioms QM.C19.qmpt_object_mse_exact
#print axioms QM.C19.matSQmpt_mulVec
#print axioms QM.C19.qmpt_object_mse_fails
#print axioms QM.C19.qmpt_crb_fails
#print axioms QM.C19.expectJoint_head_indep
#print axioms QM.C19.cross_covariance_zero
#print axioms QM.C19.replace_entries
#print axioms QM.C19.replace_sum
#print axioms QM.C19.fisher_total_size
#print axioms QM.C19.fisherAcc_step
#print axioms QM.C19.fisherAcc_value
#print axioms QM.C19.fisherTotal_value
#print axioms QM.C19.fisherTotal_single
#print axioms QM.C19.fisherQtTerms_value
#print axioms QM.C19.fisherQtTotal_value
#print axioms QM.C19.direct_sum_accepts_iff_square
