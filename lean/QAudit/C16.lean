import QProps.C16
/-! generated by harness/common.py:write_audit on every run -/
#print axioms QM.C16.all_pos_iff
#print axioms QM.C16.multiFromSerial_eq_some
#print axioms QM.C16.multi_in_range
#print axioms QM.C16.multi_none_iff
#print axioms QM.C16.serial_of_multi_of_serial
#print axioms QM.C16.serial_of_multi_of_serial_lt
#print axioms QM.C16.multi_of_serial_of_multi
#print axioms QM.C16.serial_row_major
#print axioms QM.C16.guard_eq_ok
#print axioms QM.C16.unit_bind_eq_ok
#print axioms QM.C16.storedOf_length
#print axioms QM.C16.storedOf_of_all
#print axioms QM.C16.storedOf_of_none
#print axioms QM.C16.ctor_eq_ok_iff
#print axioms QM.C16.ctor_ok
#print axioms QM.C16.ctor_zero
#print axioms QM.C16.marginal_total
#print axioms QM.C16.marginal_shape
#print axioms QM.C16.conditional_mass_eq_marginal
#print axioms QM.C16.conditional_entry
#print axioms QM.C16.probDistGet_row_major
#print axioms QM.C16.probDistGet_rejects
#print axioms QM.C16.conditional_mass_eq_marginal_multi
#print axioms QM.C16.allMulti_is_serial_layout
#print axioms QM.C16.filterMap_zip_allMulti
#print axioms QM.C16.marginalRaw_entry_serial
#print axioms QM.C16.conditionalRaw_entries_serial
#print axioms QM.C16.ctor_entries
#print axioms QM.C16.ctor_identity
#print axioms QM.C16.margValidate_error
#print axioms QM.C16.marginalize_is_ctor_of_raw
#print axioms QM.C16.conditionalize_is_ctor_of_scaled_raw
#print axioms QM.C16.conditional_times_marginal
#print axioms QM.C16.marginalize_normalised
#print axioms QM.C16.conditionalize_normalised
#print axioms QM.C16.generated_multi_agrees
#print axioms QM.C16.generated_serial_agrees
#print axioms QM.C16.generated_serial_of_multi
#print axioms QM.C16.generated_multi_of_serial
#print axioms QM.C16.generated_constants
#print axioms QM.C16.resolveEpsZero_spec
#print axioms QM.C16.ensemble_after_measurement_layout
#print axioms QM.C16.ensemble_states_probs_same_layout
#print axioms QM.C16.ensemble_product_layout
