import QProofs.C13
import QProofs.C13Gen
/-!
# C13 — property theorems: results depend only on arguments (state machines of QModel.C13)

Every theorem quantifies over *all* histories (lists of calls of any length) unless its doc comment says
"concrete witness". Clauses of the property and what carries them:

* "whether cached tables of a composite system have been built, dropped or rebuilt" → (a) `cache_*`, tied to the source by
  the regenerated getter / builder / delete tables (`gen_cache_*`, `gen_getters_*`, `gen_deletes_*`).
* "whatever datasets a loss function or algorithm object processed earlier" → (b) `loss_*`, `gen_reuse_refines_fresh`,
  `fast_reuse_refines_fresh` (unconditional: every mode string an option constructor accepts has a branch that installs
  weights depending on the current call only — `gen_modes_handled`, about the regenerated branch tables); the fast loss
  *reads the same attributes* as the generic one (`fast_obs_eq_gen`; that the two value formulas agree on equal attributes
  is C12's theorem, not restated here). (c) `algo_*`: **false on the tree** — the algorithm object keeps its first
  projection (D10): exact characterisation `algo_reuse_eq_fresh_iff` and a proved negation witness.
* "global tolerance changes that are restored" → (d) `atol_*`: bookkeeping of the one global variable (what *captures* the
  tolerance is stated by `ctorEps_*`; captured values are arguments of the objects that hold them).
* "no operation changes … its operands" → (e) `projEq_*`, conditional on the aliasing bit the translator reads off
  `convert_var_to_hss` (`gen_projEq_arg_unchanged` discharges it for the current source; `projEq_arg_overwritten_of_view`
  is the mutated-argument statement for the other value of the bit), and (g) `gen_param_writes_declared` etc.
* NOT carried by any Lean theorem (observed on the implementation by the history fuzzer's fresh-world differential and
  byte snapshots only): copies are independent of their originals, matrix bases cannot be modified, queries / conversions
  / projections / compose / tensor do not change their operands and give fresh-object results.
* interleavings of the four machines (a)–(d) on a shared pool → (f) `interleaving_independent`.
-/
namespace QM.C13


/-! ## (a) caches -/

/-- C13.a `cache_transparent`: after *any* history of getter / delete calls on a fresh composite system, every getter
returns the pure table of the basis. -/
theorem cache_transparent {T : Type} (tbl : Key → T) (ops : List COp) (k : Key) :
    (cstep tbl (crun tbl Cache.empty ops).1 (.get k)).2 = .table (some (tbl k)) :=
  get_out tbl _ k (crun_ok tbl ops _ (cacheOk_empty tbl))

/-- C13.a: the same for every getter call *inside* the history (outputs are listed in call order). -/
theorem cache_transparent_all {T : Type} (tbl : Key → T) (ops : List COp) :
    ∀ p ∈ ops.zip (crun tbl Cache.empty ops).2, ∀ k, p.1 = .get k → p.2 = .table (some (tbl k)) :=
  crun_gets_pure tbl ops _ (cacheOk_empty tbl)

/-- C13.a: two composite systems with different histories answer every getter identically
("built, dropped or rebuilt" is unobservable). -/
theorem cache_history_irrelevant {T : Type} (tbl : Key → T) (h₁ h₂ : List COp) (k : Key) :
    (cstep tbl (crun tbl Cache.empty h₁).1 (.get k)).2 = (cstep tbl (crun tbl Cache.empty h₂).1 (.get k)).2 := by
  rw [cache_transparent, cache_transparent]

/-- C13.a: the getter of an unbuilt table runs the builder of its group, which assigns every table of the group
(`_calc_basis_sparse` two tables, `_calc_basis_basisconjugate_sparse` four). -/
theorem get_builds_group {T : Type} (tbl : Key → T) (s : Cache T) (k j : Key) (hk : s k = none)
    (hj : j.grp = k.grp) : (cstep tbl s (.get k)).1 j = some (tbl j) := by
  simp [cstep, hk, build, hj]

/-- C13.a: … and leaves the tables of the other groups as they were; a getter of a built table changes nothing. -/
theorem get_other_unchanged {T : Type} (tbl : Key → T) (s : Cache T) (k j : Key)
    (h : j.grp ≠ k.grp ∨ (s k).isSome) : (cstep tbl s (.get k)).1 j = s j := by
  simp only [cstep]
  rcases h with h | h
  · split <;> simp [build, h]
  · cases hk : s k with
    | none => simp [hk] at h
    | some v => simp

/-- C13.a: `delete_*` drops exactly its own table; `_basis_basisconjugate` has no delete method. -/
theorem delete_only_key {T : Type} (tbl : Key → T) (s : Cache T) (k j : Key) (hk : k.deletable = true) :
    (cstep tbl s (.delete k)).1 j = if j = k then none else s j := by
  simp [cstep, hk]

theorem delete_bbc_noMethod {T : Type} (tbl : Key → T) (s : Cache T) :
    cstep tbl s (.delete .bbc) = (s, .noMethod) := by
  simp [cstep, Key.deletable]

/-- non-vacuity: a history that builds, drops and rebuilds; the last getter rebuilds the four-table group. -/
example : (crun Key.toNat Cache.empty [.get .bT, .delete .bT, .get .bconj, .get .bbcT1, .delete .bbcT, .get .bbcT]).2
    = [.table (some 3), .deleted, .table (some 4), .table (some 7), .deleted, .table (some 6)] := by decide +kernel

/-! ## (b) loss objects -/

section loss
variable {A Q W : Type}

/-- C13.b `loss_fields_current`: after a `set_from_standard_qtomography_option_data` call the forward-model arrays,
the data and the option are those of *this* call, whatever the object processed before. -/
theorem loss_fields_current (s : Loss A Q W) (c : Cfg A Q W) :
    (configure s c).matA = some c.matA ∧ (configure s c).q = some c.q ∧
    (configure s c).option = some (c.mode, c.optWeights) := by
  rw [configure_eq]; exact ⟨rfl, rfl, rfl⟩

/-- C13.b: the weights after a call depend on this call only (`identity` resets them to `None`). -/
theorem loss_weights_after (s : Loss A Q W) (c : Cfg A Q W) :
    (configure s c).weights = match c.mode with
      | .identity => none | .custom => c.optWeights | .invCov => some c.dataW := by
  simp only [configure_eq]
  cases c.mode <;> rfl

/-- C13.b `fast_ext_follows_weights`: after every call the extended weights of the fast loss are built from the weights
the object now holds. -/
theorem fast_ext_follows_weights (s : Loss A Q W) (c : Cfg A Q W) :
    (configure s c).ext = (configure s c).weights := by
  simp only [configure_eq]

/-- C13.b: hence the fast loss reads the same attribute values as the generic loss (that equal attributes give equal
values is a statement about the two value formulas: C12). -/
theorem fast_obs_eq_gen (s : Loss A Q W) (c : Cfg A Q W) : obsFast (configure s c) = obsGen (configure s c) := by
  simp only [obsFast, obsGen, fast_ext_follows_weights]

/-- C13.b `gen_reuse_refines_fresh`: after **any** earlier state of the object the generic loss reads exactly what a
fresh object reads — for every mode. -/
theorem gen_reuse_refines_fresh (s : Loss A Q W) (c : Cfg A Q W) :
    obsGen (configure s c) = obsGen (configure Loss.fresh c) := by
  simp only [obsGen, configure_eq]

/-- C13.b `fast_reuse_refines_fresh`: the same for the fast loss. -/
theorem fast_reuse_refines_fresh (s : Loss A Q W) (c : Cfg A Q W) :
    obsFast (configure s c) = obsFast (configure Loss.fresh c) := by
  rw [fast_obs_eq_gen, fast_obs_eq_gen]
  exact gen_reuse_refines_fresh s c

/-- C13.b `reuse_refines_fresh` over whole histories: after any list of earlier datasets of any modes the next dataset is
read as by a fresh object — by both losses, and from any constructor weights. -/
theorem reuse_refines_fresh_history (s₀ : Loss A Q W) (h : List (Cfg A Q W)) (c : Cfg A Q W) :
    obsGen (configure (lrun s₀ h) c) = obsGen (configure Loss.fresh c) ∧
    obsFast (configure (lrun s₀ h) c) = obsFast (configure Loss.fresh c) :=
  ⟨gen_reuse_refines_fresh _ c, fast_reuse_refines_fresh _ c⟩

/-- C13.b: what a dataset is valued with: the weights of its own mode (none for identity), whatever came before. -/
theorem fast_uses_current_dataset_weights (s : Loss A Q W) (c : Cfg A Q W) :
    obsFast (configure s c) = (some c.matA, some c.q,
      match c.mode with | .identity => none | .custom => c.optWeights | .invCov => some c.dataW) := by
  simp only [obsFast, configure_eq]
  cases c.mode <;> rfl

end loss

/-- a two-dataset history (concrete, integers): one schedule with two outcomes, one variable, `p(var) = (var, var)`, data
`q = (0, 1)`; first dataset with custom weights `diag(1,2)`, then `identity` -/
def witnessCustom : Cfg (List (List Int) × List Int) (List Int) (List (List (List Int))) :=
  { mode := .custom, optWeights := some [[[1, 0], [0, 2]]], matA := ([[1], [1]], [0, 0]), q := [0, 1],
    dataW := [], gradReq := true }
def witnessIdentity : Cfg (List (List Int) × List Int) (List Int) (List (List (List Int))) :=
  { witnessCustom with mode := .identity, optWeights := none }

/-- non-vacuity: the identity dataset after the custom one is valued 5 by the re-used objects, as by a fresh one (9 is
the value under the custom weights of the first dataset) -/
example : valueFast 2 (configure (lrun Loss.fresh [witnessCustom]) witnessIdentity) [-1] = some 5
    ∧ valueGen 2 (configure (lrun Loss.fresh [witnessCustom]) witnessIdentity) [-1] = some 5
    ∧ valueFast 2 (configure Loss.fresh witnessIdentity) [-1] = some 5
    ∧ valueFast 2 (configure Loss.fresh witnessCustom) [-1] = some 9
    ∧ valueGen 2 (configure Loss.fresh witnessCustom) [-1] = some 9 := by decide +kernel

/-! ## (c) algorithm object -/

/-- C13.c: `_qt` is always the tomography of the last call. -/
theorem algo_qt_current {QT : Type} (s : Algo QT) (c : QT × AlgoOpt) : (setConstraint s c).qt = some c.1 := by
  unfold setConstraint; cases s.funcProj <;> rfl

/-- C13.c (D10 as it is): after any non-empty history on a fresh algorithm object the projection is the one of the
**first** call; later tomographies / options are ignored. -/
theorem algo_proj_is_first {QT : Type} (c : QT × AlgoOpt) (h : List (QT × AlgoOpt)) :
    (arun Algo.fresh (c :: h)).funcProj = some (projOf c.1 c.2) := by
  show (arun (setConstraint Algo.fresh c) h).funcProj = _
  exact arun_proj_some h _ _ (by simp [setConstraint, Algo.fresh])

/-- C13.c `algo_reuse_eq_fresh_iff` (full characterisation): after a non-empty history
re-use equals fresh use **exactly when** the first call of the history asked for the projection the current call asks
for — whatever happened in between. -/
theorem algo_reuse_eq_fresh_iff {QT : Type} (d : QT × AlgoOpt) (h : List (QT × AlgoOpt)) (c : QT × AlgoOpt) :
    setConstraint (arun Algo.fresh (d :: h)) c = setConstraint Algo.fresh c ↔ projOf d.1 d.2 = projOf c.1 c.2 := by
  have hp := algo_proj_is_first d h
  cases hx : arun Algo.fresh (d :: h) with
  | mk q f =>
    rw [hx] at hp
    simp only [setConstraint, Algo.fresh, show f = _ from hp, Algo.mk.injEq, true_and, Option.some.injEq]

example : setConstraint (arun Algo.fresh [((0 : Nat), (⟨true, true, false, some 20⟩ : AlgoOpt)), (1, ⟨false, false, true, none⟩)])
    (2, ⟨true, true, false, some 20⟩) ≠ setConstraint Algo.fresh (2, ⟨true, true, false, some 20⟩) := by
  rw [Ne, algo_reuse_eq_fresh_iff]; decide

/-- C13.c negation witness (concrete): first dataset with both constraints on, second with both off — the re-used
object still projects onto the physical set, a fresh one would not project at all. -/
theorem algo_reuse_refines_fresh_fails :
    ¬ ∀ (h : List (Nat × AlgoOpt)) (c : Nat × AlgoOpt),
        (setConstraint (arun Algo.fresh h) c).funcProj = (setConstraint Algo.fresh c).funcProj := by
  intro hall
  have := hall [(0, ⟨true, true, false, none⟩)] (0, ⟨false, false, false, none⟩)
  revert this
  decide +kernel

/-- the positive direction of `algo_reuse_eq_fresh_iff` instantiated: two earlier calls, the first asking for the same
projection as the current one (the second for another one) -/
example : setConstraint (arun Algo.fresh [((0 : Nat), (⟨true, true, false, some 20⟩ : AlgoOpt)), (1, ⟨false, true, false, none⟩)])
    (0, ⟨true, true, false, some 20⟩) = setConstraint Algo.fresh (0, ⟨true, true, false, some 20⟩) := by
  rw [algo_reuse_eq_fresh_iff]

/-- C13.c: a projection handed to the constructor is never replaced (the documented use of the constructor argument). -/
theorem algo_ctor_proj_kept {QT : Type} (p : Proj QT) (q : Option QT) (h : List (QT × AlgoOpt)) :
    (arun ⟨q, some p⟩ h).funcProj = some p :=
  arun_proj_some h _ p rfl

/-! ## (d) global tolerance -/

/-- histories that hand the tolerance back: reads, rejected sets, and `set x; body; set old` brackets around *any* body
(the body may itself change the tolerance any number of times) -/
inductive Bal : Rat → List AOp → Prop
  | nil (a : Rat) : Bal a []
  | read (a : Rat) (h : List AOp) : Bal a h → Bal a (.read :: h)
  | bad (a : Rat) (h : List AOp) : Bal a h → Bal a (.setBad :: h)
  | bracket (a x : Rat) (body rest : List AOp) : Bal a rest → Bal a (bracket a x body ++ rest)

/-- C13.d `atol_restore_neutral`: a balanced history leaves the global tolerance as it found it. -/
theorem atol_restore_neutral (a : Rat) (h : List AOp) (hb : Bal a h) : (arunAtol a h).1 = a := by
  induction hb with
  | nil => rfl
  | read h _ ih => exact ih
  | bad h _ ih => exact ih
  | bracket x body rest _ ihr => rw [arunAtol_bracket]; exact ihr

/-- C13.d: … and is invisible to everything that runs after it: the outputs of `rest` are those of `rest` alone. -/
theorem atol_bracket_invisible (a x : Rat) (body rest : List AOp) :
    (arunAtol a (bracket a x body ++ rest)).2
      = .ok :: (arunAtol x body).2 ++ .ok :: (arunAtol a rest).2 := by
  rw [arunAtol_bracket]

/-- C13.d: a rejected `set_atol` (non-float argument) changes nothing. -/
theorem atol_bad_set_neutral (a : Rat) : astep a .setBad = (a, .typeError) := rfl

/-- C13.d: an object constructed with an explicit non-zero `eps_proj_physical` does not depend on the global tolerance
at construction time (with `None` or `0` it takes `atol/10` — an argument of the constructor in effect). -/
theorem ctorEps_explicit (a₁ a₂ e : Rat) (he : e ≠ 0) : ctorEps a₁ (some e) = ctorEps a₂ (some e) := by
  simp [ctorEps, he]

/-- C13.d (the exception, stated explicitly): with `eps_proj_physical` `None` or `0` the constructor *captures* the
global tolerance of the moment — an object built inside a bracket keeps the body's tolerance / 10. -/
theorem ctorEps_default_captures (a : Rat) : ctorEps a none = a / 10 ∧ ctorEps a (some 0) = a / 10 := by
  simp [ctorEps]

example : ctorEps (1/1000) none ≠ ctorEps (1/10000000000000) none := by decide +kernel

example : Bal (1/10) (bracket (1/10) (1/2) [.read, .setBad] ++ [.read]) :=
  .bracket _ _ _ _ (.read _ _ (.nil _))

/-! ## (f) interleavings on a shared pool -/

section pool
variable {T A Q W QT : Type}

/-- C13.f `interleaving_independent`: in **any** interleaving of calls on a composite system, a loss object, an algorithm
object and the global tolerance, each object ends in the state its own sub-history alone would have produced — the calls
made on the other objects in between do not matter. (That the implementation's objects share no attributes is the
regenerated fact `gen_writers_declared`; that no call writes into another object's arrays is observed by the snapshots.) -/
theorem interleaving_independent (tbl : Key → T) (s : Pool T A Q W QT) (h : List (POp A Q W QT)) :
    (prun tbl s h).cache = (crun tbl s.cache (h.filterMap POp.cache?)).1 ∧
    (prun tbl s h).loss = lrun s.loss (h.filterMap POp.loss?) ∧
    (prun tbl s h).algo = arun s.algo (h.filterMap POp.algo?) ∧
    (prun tbl s h).atol = (arunAtol s.atol (h.filterMap POp.atol?)).1 := by
  rw [crun_fst_foldl, arunAtol_fst_foldl]
  exact ⟨foldl_component _ (·.cache) _ _ (fun _ a => by cases a <;> rfl) h s,
    foldl_component _ (·.loss) _ _ (fun _ a => by cases a <;> rfl) h s,
    foldl_component _ (·.algo) _ _ (fun _ a => by cases a <;> rfl) h s,
    foldl_component _ (·.atol) _ _ (fun _ a => by cases a <;> rfl) h s⟩

/-- C13.f `interleaved_cache_transparent`: after any interleaved history on a fresh pool every cache getter still returns
the pure table. -/
theorem interleaved_cache_transparent (tbl : Key → T) (l : Loss A Q W) (al : Algo QT) (a : Rat)
    (h : List (POp A Q W QT)) (k : Key) :
    (cstep tbl (prun tbl ⟨Cache.empty, l, al, a⟩ h).cache (.get k)).2 = .table (some (tbl k)) := by
  rw [(interleaving_independent tbl _ h).1]
  exact cache_transparent tbl _ k

/-- C13.f `interleaved_loss_reuse_refines_fresh`: … and the next dataset is read by the loss object as by a fresh one
(both observers), whatever was interleaved. -/
theorem interleaved_loss_reuse_refines_fresh (tbl : Key → T) (s : Pool T A Q W QT) (h : List (POp A Q W QT))
    (c : Cfg A Q W) :
    obsGen (configure (prun tbl s h).loss c) = obsGen (configure Loss.fresh c) ∧
    obsFast (configure (prun tbl s h).loss c) = obsFast (configure Loss.fresh c) :=
  ⟨gen_reuse_refines_fresh _ c, fast_reuse_refines_fresh _ c⟩

end pool

/-- a concrete interleaving: cache calls, two datasets, two algorithm configurations and a tolerance bracket mixed -/
example : let h : List (POp (List (List Int) × List Int) (List Int) (List (List (List Int))) Nat) :=
      [.cache (.get .bT), .loss witnessCustom, .atol (.set (1/2)), .algo (0, ⟨true, true, false, none⟩), .cache (.delete .bT),
       .loss witnessIdentity, .atol (.set (1/10)), .algo (1, ⟨false, false, false, none⟩), .cache (.get .bconj)]
    let s := prun Key.toNat ⟨Cache.empty, Loss.fresh, Algo.fresh, 1/10⟩ h
    (s.cache .bconj, s.loss.weights, s.algo.funcProj, s.atol)
      = (some 4, none, some (.physical 0 false none), 1/10) := by
  decide +kernel

/-! ## (e) operand mutation through views -/

section projeq
variable {K : Type} [Add K] [Mul K] [Sub K] [Zero K] [One K]

/-- the aliasing bit of the branch taken -/
def aliasBit (alias : Bool × Bool) (flag : Bool) : Bool := if flag then alias.1 else alias.2

/-- C13.e `projEq_arg_unchanged_of_copy`: if `convert_var_to_hss` hands back copies in the branch taken, the argument of
`calc_proj_eq_constraint_with_var` is untouched. -/
theorem projEq_arg_unchanged_of_copy (alias : Bool × Bool) (n m : Nat) (invm : K) (flag : Bool) (var : List K)
    (h : aliasBit alias flag = false) : (projEqWithVar alias n m invm flag var).2 = var := by
  cases flag <;> simp_all [projEqWithVar, varToHss, aliasBit]

/-- C13.e `projEq_arg_overwritten_of_view` (the defect D5 as a statement about the other value of the bit): if the
matrices are views of the argument, the in-place row correction writes through them — without the flag the argument
array afterwards holds exactly the returned variables. -/
theorem projEq_arg_overwritten_of_view (alias : Bool × Bool) (n m : Nat) (invm : K) (var : List K)
    (h : alias.2 = true) :
    (projEqWithVar alias n m invm false var).2 = (projEqWithVar alias n m invm false var).1 := by
  simp [projEqWithVar, varToHss, hssToVar, h]

end projeq

/-- mutated-argument witness (concrete, `Rat`, n = 2, two outcomes): with the
aliasing bit set the argument is overwritten by the projected rows; with the bits the translator generates from the
current source it is not. -/
example : (projEqWithVar (false, true) 2 2 ((1 : Rat) / 2) false [1, 2, 3, 4, 5, 6, 7, 8]).2 = [-3/2, -2, 3, 4, 5/2, 2, 7, 8]
    ∧ projEqWithVar (QGen.C13.hssAliasFlagTrue, QGen.C13.hssAliasFlagFalse) 2 2 ((1 : Rat) / 2) false [1, 2, 3, 4, 5, 6, 7, 8]
      = ([-3/2, -2, 3, 4, 5/2, 2, 7, 8], [1, 2, 3, 4, 5, 6, 7, 8])
    ∧ (projEqWithVar (QGen.C13.hssAliasFlagTrue, QGen.C13.hssAliasFlagFalse) 2 2 ((1 : Rat) / 2) true [1, 2, 3, 4, 7, 8]).2
      = [1, 2, 3, 4, 7, 8] := by
  decide +kernel

/-! ## (g) the attribute discipline the state machines assume, proved about tables REGENERATED from the source

`QGen/C13.lean` is rewritten by `harness/c13_translate.py` (Python `ast`) from /repo on every run. The theorems below are
finite facts about those tables, checked by evaluation; together with the correspondence they tie the hand-written machines to the code:
a new cached attribute, a memoising decorator, an in-place array operation or an attribute write outside the declared
mutators changes a table and breaks the corresponding obligation. -/
section generated
open QGen.C13 Gen

/-- The facts about the tables are evaluated by the kernel. Most of that work is turning each string literal that gets
compared into its byte list, which the kernel does anew in every declaration; the facts about one family of tables compare the
same literals, so they are evaluated together, here, and stated one by one below. -/
theorem csTables_evaluated :
    csCacheInit.map keyOfAttr = Key.all.map some ∧
    (csGetters.all getterOk = true ∧
      Key.all.all (fun k => csGetters.any (fun e => keyOfAttr e.2.1 == some k)) = true) ∧
    (csDeletes.all deleteOk = true ∧
      Key.all.all (fun k => k.deletable == csDeletes.any (fun e => e.2.map keyOfAttr == [some k])) = true) ∧
    (csWriters.all (fun e => e.1 == "__init__" || e.2.all (fun a => (keyOfAttr a).isSome)) = true ∧
      csWriters.all (fun e => !(e.2.contains "_total_basis" || e.2.contains "_elemental_systems")
        || csCacheInit.all (e.2.contains ·)) = true) := by decide +kernel

/-- the class tables (see `csTables_evaluated`); the last two conjuncts are the non-vacuity checks at the end of the section -/
theorem classTables_evaluated :
    objWriters.all writerOk = true ∧
    objInplace.all (fun e => declaredInplace.contains (e.1, e.2.1)) = true ∧
    (wseAccepted.all (modeHandled wseBranches) = true ∧ wreAccepted.all (modeHandled wreBranches) = true ∧
      (objMethods.filter (fun e => e.1 == "StandardQTomographyBasedWeightedProbabilityBasedSquaredError"
          || e.1 == "StandardQTomographyBasedWeightedRelativeEntropy")).map
        (fun e => e.2.contains "_set_weights_by_mode") = [false, false]) ∧
    derivedCaches.all cacheFollows = true ∧
    (csGetters.length = 9 ∧ csDeletes.length = 8 ∧ 40 < objWriters.length ∧
      (mro 8 "StandardQTomographyBasedWeightedProbabilityBasedSquaredError").map (·.length) = some 4 ∧
      ((mro 8 "StandardQTomographyBasedWeightedProbabilityBasedSquaredError").bind fun full =>
        effWrites "StandardQTomographyBasedWeightedProbabilityBasedSquaredError" full 8 full "set_weight_matrices")
        = some ["_weight_matrices", "_extend_weight_matrix", "_extend_weight_matrix"]) ∧
    (lastIdx "_weight_matrices" ["_extend_weight_matrix", "_weight_matrices"] = some 1 ∧
      lastIdx "_extend_weight_matrix" ["_extend_weight_matrix", "_weight_matrices"] = some 0 ∧
      cacheFollows ("NoSuchClass", "_a", "_b", true) = false ∧
      effWrites "StandardQTomographyBasedWeightedRelativeEntropy" ["StandardQTomographyBasedWeightedRelativeEntropy"] 0
        ["StandardQTomographyBasedWeightedRelativeEntropy"] "set_weights" = none) := by decide +kernel

/-- C13.g: the nine attributes `CompositeSystem.__init__` resets are exactly the model's cache keys, in order. -/
theorem gen_cache_attrs : csCacheInit.map keyOfAttr = Key.all.map some := csTables_evaluated.1

/-- C13.g: every generated getter tests a cache key and, when it is `None`, assigns exactly the tables of that key's
builder group (`Key.grp`); every key has a getter. -/
theorem gen_getters_match_model :
    csGetters.all getterOk = true ∧
    Key.all.all (fun k => csGetters.any (fun e => keyOfAttr e.2.1 == some k)) = true := csTables_evaluated.2.1

/-- C13.g: every generated `delete_*` resets exactly one attribute, a deletable key, and the deletable keys are exactly
those with a delete method (`Key.deletable`). -/
theorem gen_deletes_match_model :
    csDeletes.all deleteOk = true ∧
    Key.all.all (fun k => k.deletable == csDeletes.any (fun e => e.2.map keyOfAttr == [some k])) = true := csTables_evaluated.2.2.1

/-- C13.g: after construction a CompositeSystem only ever binds cache attributes (the basis the tables are computed from
is never re-bound), and the one method that binds the defining data resets every cache — the hypothesis `tbl` of
`cache_transparent` is a function of the object's construction only. -/
theorem gen_cs_writes_only_caches :
    csWriters.all (fun e => e.1 == "__init__" || e.2.all (fun a => (keyOfAttr a).isSome)) = true ∧
    csWriters.all (fun e => !(e.2.contains "_total_basis" || e.2.contains "_elemental_systems")
      || csCacheInit.all (e.2.contains ·)) = true := csTables_evaluated.2.2.2

/-- C13.g `gen_writers_declared`: in all scanned classes (value objects, bases, systems, Settings, Experiment,
tomography, estimator, loss, option and algorithm classes) the only methods that bind an attribute of their object are
constructors and the declared mutators — no query, conversion, projection, estimate or property getter keeps state. -/
theorem gen_writers_declared : objWriters.all writerOk = true := classTables_evaluated.1

/-- C13.g: no method of those classes carries a memoising (or any non-standard) decorator. -/
theorem gen_no_memo_decorators : objDecorators.all (fun e => e.2.2 == "abstractproperty") = true := by decide +kernel

/-- C13.g: in-place operations on containers held by an object occur only in constructors / their helpers and in the cache
builders that fill the dictionary they have just created. -/
theorem gen_inplace_declared : objInplace.all (fun e => declaredInplace.contains (e.1, e.2.1)) = true := classTables_evaluated.2.1

/-- C13.g `gen_param_writes_declared`: no function of quara/{objects, utils, math, loss_function,
minimization_algorithm, protocol, qcircuit} writes into an array or container it received as a parameter (subscript /
augmented assignment, in-place ndarray methods, `out=`; aliases through assignment, views and loop variables followed),
apart from three functions that re-bind the name to a copy before writing. -/
theorem gen_param_writes_declared :
    paramWrites.all (fun e => declaredParamWriters.contains (e.1, e.2.1)) = true := by decide +kernel

/-- C13.g `gen_projEq_arg_unchanged`: the bits the translator reads off the current `convert_var_to_hss` say "copy" in both
branches, so `calc_proj_eq_constraint_with_var` (as the driver executes it, with these bits) leaves its argument alone for
both values of `on_para_eq_constraint`. Reverting the copy flips a bit and breaks this theorem. -/
theorem gen_projEq_arg_unchanged {K : Type} [Add K] [Mul K] [Sub K] [Zero K] [One K]
    (n m : Nat) (invm : K) (flag : Bool) (var : List K) :
    (projEqWithVar (hssAliasFlagTrue, hssAliasFlagFalse) n m invm flag var).2 = var :=
  projEq_arg_unchanged_of_copy _ n m invm flag var (by cases flag <;> decide)

/-- C13.g `gen_modes_handled`: every mode string the two option constructors accept has a branch in the regenerated
`_set_weights_by_mode` chain, that branch is not `pass`, and it performs the action of the model's `lstep` for the mode
the driver resolves the string to; the fast losses do not override `_set_weights_by_mode`. So the `Mode` of the model
covers all accepted inputs and `*_reuse_refines_fresh` need no side condition. -/
theorem gen_modes_handled :
    wseAccepted.all (modeHandled wseBranches) = true ∧ wreAccepted.all (modeHandled wreBranches) = true ∧
    (objMethods.filter (fun e => e.1 == "StandardQTomographyBasedWeightedProbabilityBasedSquaredError"
        || e.1 == "StandardQTomographyBasedWeightedRelativeEntropy")).map
      (fun e => e.2.contains "_set_weights_by_mode") = [false, false] := classTables_evaluated.2.2.1

/-- C13.g `gen_loss_wiring`: the setter calls of `set_from_standard_qtomography_option_data`, in source order and with their
guards, are the model's `cfgOps` (the Hessian setter, which no modelled algorithm requests, omitted). -/
theorem gen_loss_wiring {A Q W : Type} (c : Cfg A Q W) (hg : c.gradReq = true) :
    (cfgOps c).map LOp.name = lossWiring.filter (fun e => e.2 != "is_hessian_required") := by
  rw [cfgOps, hg]; rfl

/-- C13.g `gen_cache_follows_source`: for the fast losses, every method (own or inherited, resolved along the generated
base-class table; self-calls and `super()` calls followed in evaluation order; the closure has to be *defined*: no missing
class or method, no exhausted call depth) that binds a source attribute also binds the cache derived from it —
`_weight_matrices → _extend_weight_matrix` and `_weights → _extend_weights` **after** the source (they are recomputed from
the attribute), `_prob_dists_q → _prob_dists_q_flat` (computed from the same argument). -/
theorem gen_cache_follows_source : derivedCaches.all cacheFollows = true := classTables_evaluated.2.2.2.1

/-- C13.g: `set_constraint_from_standard_qt_and_option` has the shape the algorithm machine mirrors: `_qt` is assigned
first, then `if self._func_proj is not None: return`, then an if / elif / else chain on the two flags whose factories are
those of `projOf`. -/
theorem gen_pgd_shape (qt : Nat) (onEq onIneq ie : Bool) (mi : Option Nat) :
    pgdPre = ["_qt"] ∧ pgdGuard = "_func_proj" ∧
    (pgdBranches.head?.map (·.2.2) = some ["max_iteration", "mode_proj_order", "on_para_eq_constraint"]) ∧
    genFactory onEq onIneq = some (factoryName (projOf qt ⟨onEq, onIneq, ie, mi⟩)) := by
  refine ⟨rfl, rfl, rfl, ?_⟩
  cases onEq <;> cases onIneq <;> rfl

/-- non-vacuity: the tables are not empty, and the closure does follow a `super()` call and a self-call
(`set_weight_matrices` of the fast loss binds both the weights and the extended weights) -/
example : csGetters.length = 9 ∧ csDeletes.length = 8 ∧ 40 < objWriters.length ∧
    (mro 8 "StandardQTomographyBasedWeightedProbabilityBasedSquaredError").map (·.length) = some 4 ∧
    ((mro 8 "StandardQTomographyBasedWeightedProbabilityBasedSquaredError").bind fun full =>
      effWrites "StandardQTomographyBasedWeightedProbabilityBasedSquaredError" full 8 full "set_weight_matrices")
      = some ["_weight_matrices", "_extend_weight_matrix", "_extend_weight_matrix"] := classTables_evaluated.2.2.2.2.1

/-- the order matters, and a cut-off closure is rejected: `cacheFollows` is false on a class the tables do not know -/
example : lastIdx "_weight_matrices" ["_extend_weight_matrix", "_weight_matrices"] = some 1 ∧
    lastIdx "_extend_weight_matrix" ["_extend_weight_matrix", "_weight_matrices"] = some 0 ∧
    cacheFollows ("NoSuchClass", "_a", "_b", true) = false ∧
    effWrites "StandardQTomographyBasedWeightedRelativeEntropy" ["StandardQTomographyBasedWeightedRelativeEntropy"] 0
      ["StandardQTomographyBasedWeightedRelativeEntropy"] "set_weights" = none := classTables_evaluated.2.2.2.2.2

end generated

end QM.C13
