import QProofs.C06
import QGen.C06
import QProofs.Psd
/-!
# C06 — property theorems: composition implements quantum mechanics and is associative

Everything is stated about the executable definitions of `QModel/C06.lean` (arrays of coefficients in an
orthonormal Hermitian basis whose 0th element is `I/√d`; `sd` stands for `√d`, so `tr ρ = sd·ρ₀`,
a gate is trace preserving iff its first row is `e₀`, a POVM sums to the identity iff `Σ_x Π_x = sd·e₀`).
All statements hold for every dimension `n = d²`, every number of outcomes and every list length.
-/
open Matrix
namespace QM.C06
open QM

section algebra
variable {K : Type} [CommRing K] {n : Nat}

/-- C06 "a POVM after a gate is the Heisenberg-picture POVM": the Born statistics of `Π∘G` on `ρ` are those of
`Π` on `Gρ`, outcome by outcome (`⟪(Π∘G)_x, ρ⟫ = ⟪Π_x, Gρ⟫`). -/
theorem heisenberg_gate (vecs : List (Vec K n)) (G : Mat K n n) (rho : Vec K n) :
    bornRaw (povmGate vecs G) rho = bornRaw vecs (G.mulVec rho) := by
  simp [bornRaw, povmGate, dot_vecMat]

/-- C06 "POVM∘MProcess layout": the element stored at serial index `i·|Π| + j` is `HS_iᵀ Π_j`
(measurement-process outcome slow, POVM outcome fast) and there are `|M|·|Π|` elements. -/
theorem povm_mprocess_layout (vecs : List (Vec K n)) (hss : List (Mat K n n)) (i j : Nat)
    (hs : Mat K n n) (v : Vec K n) (hi : hss[i]? = some hs) (hj : vecs[j]? = some v) :
    (povmMProcess vecs hss)[i * vecs.length + j]? = some (vecMat v hs) ∧
      (povmMProcess vecs hss).length = hss.length * vecs.length := by
  refine ⟨?_, length_flatMap_map _ _ _⟩
  have := getElem?_flatMap_map hss vecs (fun hs v => hs.transpose.mulVec v) i j hs v hi hj
  rw [← transpose_mulVec_eq_vecMat]; exact this

/-- C06 "a POVM after a measurement process is the Heisenberg-picture POVM": the statistics of `Π∘M` on `ρ`
are, block by block in the (process outcome, POVM outcome) layout, the Born statistics of `Π` on the
unnormalised post-measurement vectors `HS_i ρ`. -/
theorem heisenberg_mprocess (vecs : List (Vec K n)) (hss : List (Mat K n n)) (rho : Vec K n) :
    bornRaw (povmMProcess vecs hss) rho = hss.flatMap fun hs => bornRaw vecs (hs.mulVec rho) := by
  simp only [povmMProcess_eq, bornRaw, povmGate, List.map_flatMap, List.map_map, Function.comp_def, dot_vecMat]

/-- the POVM equality constraint on coefficient arrays: `Σ_x Π_x = sd·e₀` (= the identity matrix) -/
def IdentitySum [NeZero n] (sd : K) (vecs : List (Vec K n)) : Prop :=
  ∀ i : Fin n, lsum (vecs.map fun v => v.get i) = if i = 0 then sd else 0

/-- trace-one state: `sd·ρ₀ = 1` -/
def TraceOne [NeZero n] (sd : K) (rho : Vec K n) : Prop := sd * rho.get 0 = 1

/-- trace preserving gate: first row of the HS matrix is `e₀` -/
def IsTP [NeZero n] (A : Mat K n n) : Prop := ∀ j : Fin n, A.get 0 j = if j = 0 then 1 else 0

/-- measurement process whose outcome maps sum to a trace-preserving map -/
def SumTP [NeZero n] (hss : List (Mat K n n)) : Prop :=
  ∀ j : Fin n, lsum (hss.map fun hs => hs.get 0 j) = if j = 0 then 1 else 0

/-- C06 "Born-rule distribution sums to one": for an identity-sum POVM and a unit-trace state the raw Born
probabilities `⟪Π_x, ρ⟫` sum to exactly 1 (so `truncate_and_normalize` divides by 1). -/
theorem born_sum_one [NeZero n] (sd : K) (vecs : List (Vec K n)) (rho : Vec K n)
    (hP : IdentitySum sd vecs) (hr : TraceOne sd rho) : lsum (bornRaw vecs rho) = 1 :=
  (lsum_map_fsum_mul vecs (fun v i => v.get i) (fun i => rho.get i) sd hP).trans hr

/-- C06 "measurement process probability = probability of the POVM it induces":
`p_x = sd·(HS_x ρ)₀ = ⟪to_povm(M)_x, ρ⟫`. -/
theorem mprocess_prob_eq_to_povm [NeZero n] (sd : K) (hss : List (Mat K n n)) (rho : Vec K n) :
    bornRaw (toPovm sd hss) rho = hss.map fun hs => sd * (hs.mulVec rho).get 0 := by
  simp only [bornRaw, toPovm, List.map_map, Function.comp_def, smul_dot, row_dot]

/-- the POVM induced by a sum-TP measurement process is identity-sum -/
theorem toPovm_identitySum [NeZero n] (sd : K) (hss : List (Mat K n n)) (hM : SumTP hss) :
    IdentitySum sd (toPovm sd hss) := by
  intro i
  simp only [toPovm, List.map_map, Function.comp_def, Vec.smul, row, Vec.get_ofFn]
  rw [lsum_map_mul_left, hM i, mul_ite, mul_one, mul_zero]

/-- C06 "probabilities of a measurement process sum to one": for `Σ_x HS_x` trace preserving and a
unit-trace state, `Σ_x sd·(HS_x ρ)₀ = 1`. -/
theorem mprocess_prob_sum_one [NeZero n] (sd : K) (hss : List (Mat K n n)) (rho : Vec K n)
    (hM : SumTP hss) (hr : TraceOne sd rho) :
    lsum (hss.map fun hs => sd * (hs.mulVec rho).get 0) = 1 := by
  rw [← mprocess_prob_eq_to_povm]
  exact born_sum_one sd _ rho (toPovm_identitySum sd hss hM) hr

/-- the first row of `s vᵀ`, rescaled by `sd`, is `v` when `s` has unit trace -/
theorem smul_row_outer [NeZero n] (sd : K) (s v : Vec K n) (hs : TraceOne sd s) :
    Vec.smul sd (row (outer s v) 0) = v := by
  have hs : sd * s.get 0 = 1 := hs
  apply Vec.ext'; intro i
  simp only [Vec.smul, row, outer, Vec.get_ofFn, Mat.get_ofFn]
  rw [← mul_assoc, hs, one_mul]

/-- C06 "to_povm ∘ generate_mprocess(mode 2) = id": when every post-selected state has unit trace the
POVM induced by the prepared-state measurement process is the original POVM (zip form). -/
theorem mode2_to_povm_list [NeZero n] (sd : K) (states vecs : List (Vec K n))
    (hlen : states.length = vecs.length) (hs : ∀ s ∈ states, TraceOne sd s) :
    toPovm sd (genMode2List states vecs) = vecs := by
  simp only [toPovm, genMode2List, List.map_map, Function.comp_def]
  rw [List.map_congr_left fun p hp => smul_row_outer sd p.1 p.2 (hs p.1 (List.of_mem_zip hp).1)]
  exact List.map_snd_zip hlen.ge

/-- single post-selected state form of the same round trip -/
theorem mode2_to_povm [NeZero n] (sd : K) (state : Vec K n) (vecs : List (Vec K n))
    (hs : TraceOne sd state) : toPovm sd (genMode2 state vecs) = vecs := by
  simp only [toPovm, genMode2, List.map_map, Function.comp_def]
  rw [List.map_congr_left fun v _ => smul_row_outer sd state v hs, List.map_id']

/-- C06 "composing physical operations gives a physical result", equality part for gates:
TP ∘ TP is TP (first-row argument). -/
theorem tp_comp_tp [NeZero n] (A B : Mat K n n) (hA : IsTP A) (hB : IsTP B) : IsTP (A.mul B) := by
  intro j
  simp only [Mat.mul, Mat.get_ofFn]
  rw [fsum_unit_mul _ _ hA, hB j]

/-- a TP gate preserves the trace coefficient of every vector (hence unit trace of states) -/
theorem tp_preserves_trace [NeZero n] (A : Mat K n n) (v : Vec K n) (hA : IsTP A) :
    (A.mulVec v).get 0 = v.get 0 := by
  simp only [Mat.mulVec, Vec.get_ofFn]
  exact fsum_unit_mul _ _ hA

/-- column sums of `Π∘G` for an arbitrary matrix `G`: `Σ_x (Π_x G)_j = sd·G₀ⱼ` -/
theorem povm_gate_identity_sum_aux [NeZero n] (sd : K) (vecs : List (Vec K n)) (G : Mat K n n)
    (hP : IdentitySum sd vecs) (j : Fin n) :
    lsum ((povmGate vecs G).map fun v => v.get j) = sd * G.get 0 j := by
  simp only [povmGate, List.map_map, Function.comp_def, vecMat, Vec.get_ofFn]
  exact lsum_map_fsum_mul vecs (fun v i => v.get i) (fun i => G.get i j) sd hP

/-- Heisenberg-picture POVM of an identity-sum POVM through a TP gate is identity-sum. -/
theorem povm_gate_identity_sum [NeZero n] (sd : K) (vecs : List (Vec K n)) (G : Mat K n n)
    (hP : IdentitySum sd vecs) (hG : IsTP G) : IdentitySum sd (povmGate vecs G) := by
  intro j
  rw [povm_gate_identity_sum_aux sd vecs G hP j, hG j, mul_ite, mul_one, mul_zero]

/-- Heisenberg-picture POVM of an identity-sum POVM through a sum-TP measurement process is identity-sum
(so `Π∘M` is again a POVM and its Born probabilities sum to one by `born_sum_one`). -/
theorem povm_mprocess_identity_sum [NeZero n] (sd : K) (vecs : List (Vec K n)) (hss : List (Mat K n n))
    (hP : IdentitySum sd vecs) (hM : SumTP hss) : IdentitySum sd (povmMProcess vecs hss) := by
  intro j
  rw [povmMProcess_eq, List.map_flatMap, lsum_flatMap]
  simp only [povm_gate_identity_sum_aux sd vecs _ hP j]
  rw [lsum_map_mul_left, hM j, mul_ite, mul_one, mul_zero]

/-! ### instruments: sequential composition and its associativity -/

/-- unnormalised action of an instrument on a list of (weighted) states, earlier outcome slow:
`for w in ws: for hs in hss: hs w`. This is what `MProcess∘StateEnsemble` computes before normalisation. -/
def applyInst (hss : List (Mat K n n)) (ws : List (Vec K n)) : List (Vec K n) :=
  ws.flatMap fun w => hss.map fun hs => hs.mulVec w

/-- C06 "any two bracketings give the same statistics with the same labelling", instrument level:
applying `M₂` to the outcome branches of `M₁` equals applying the sequential composition
`mpMp hss₁ hss₂` = `_compose_qoperations_MProcess_MProcess` (elem1 after elem2, HS product `hs1 @ hs2`, layout
(elem2 outcome, elem1 outcome))
— for all outcome counts and dimensions. -/
theorem applyInst_comp (h1 h2 : List (Mat K n n)) (ws : List (Vec K n)) :
    applyInst h1 (applyInst h2 ws) = applyInst (mpMp h1 h2) ws :=
  (flatMap_map_assoc h1 h2 ws _ _ _ _ fun x y z => Mat.mul_mulVec x y z).symm

/-- `MProcess∘MProcess` is associative as a list (i.e. including the outcome layout). -/
theorem mpMp_assoc (a b c : List (Mat K n n)) :
    mpMp (mpMp a b) c = mpMp a (mpMp b c) :=
  flatMap_map_assoc a b c _ _ _ _ fun x y z => Mat.mul_assoc x y z

/-- layout of `MProcess∘MProcess`: index `i₂·|M₁| + i₁` holds `HS¹_{i₁} HS²_{i₂}`, i.e. row-major in
(elem2 outcome, elem1 outcome) = (earlier, later), matching the shape `shape2 ++ shape1`. -/
theorem mpMp_layout (h1 h2 : List (Mat K n n)) (i1 i2 : Nat) (a b : Mat K n n)
    (ha : h1[i1]? = some a) (hb : h2[i2]? = some b) :
    (mpMp h1 h2)[i2 * h1.length + i1]? = some (a.mul b) :=
  getElem?_flatMap_map h2 h1 (fun hs2 hs1 => hs1.mul hs2) i2 i1 b a hb ha

end algebra

/-! ### normalisation: `truncate_and_normalize`, post-measurement states -/
section field
variable {K : Type} [Field K] {n : Nat}

/-- when `truncate_and_normalize` returns, the truncated entries have a non-zero sum and the result is their quotient by it -/
theorem truncNorm_eq_some [LT K] [DecidableLT K] [DecidableEq K] {eps : K} {ps qs : List K}
    (h : truncNorm eps ps = some qs) :
    lsum (ps.map fun p => if p < eps then 0 else p) ≠ 0 ∧
      qs = (ps.map fun p => if p < eps then 0 else p).map
        (· / lsum (ps.map fun p => if p < eps then 0 else p)) := by
  unfold truncNorm at h
  simp only at h
  split at h
  · cases h
  · exact ⟨‹_›, (Option.some.inj h).symm⟩

/-- C06 "Born-rule distribution … summing to one" as computed: whenever `truncate_and_normalize` returns, its
output sums to exactly one. -/
theorem truncNorm_sum_one [LT K] [DecidableLT K] [DecidableEq K] (eps : K) (ps qs : List K)
    (h : truncNorm eps ps = some qs) : lsum qs = 1 := by
  obtain ⟨hne, rfl⟩ := truncNorm_eq_some h
  rw [lsum_map_div, div_self hne]

/-- in the generic regime (no entry below the threshold, unit sum) `truncate_and_normalize` is the identity, so
the distribution returned by `Povm∘State` *is* the Born distribution `⟪Π_x, ρ⟫`. -/
theorem truncNorm_generic [LT K] [DecidableLT K] [DecidableEq K] (eps : K) (ps : List K)
    (h : ∀ p ∈ ps, ¬ p < eps) (hs : lsum ps = 1) : truncNorm eps ps = some ps := by
  unfold truncNorm
  have ht : (ps.map fun p => if p < eps then 0 else p) = ps :=
    (List.map_congr_left fun p hp => if_neg (h p hp)).trans (List.map_id' ps)
  simp only [ht, hs, one_ne_zero, if_false, div_one, List.map_id']

/-- C06 "normalised post-measurement state": `HS_x ρ / p_x` with `p_x = sd·(HS_x ρ)₀ ≠ 0` has unit trace. -/
theorem post_state_trace_one [NeZero n] (sd : K) (r : Vec K n) (hp : sd * r.get 0 ≠ 0) :
    TraceOne sd (vdiv r (sd * r.get 0)) := by
  unfold TraceOne
  simp only [vdiv, Vec.get_ofFn]
  rw [← mul_div_assoc, div_self hp]

/-- `p_x · (post state) = HS_x ρ`: the ensemble stores exactly the unnormalised Kraus-level state. -/
theorem post_state_scaled (p : K) (r : Vec K n) (hp : p ≠ 0) : Vec.smul p (vdiv r p) = r := by
  apply Vec.ext'; intro i
  simp only [Vec.smul, vdiv, Vec.get_ofFn]
  exact mul_div_cancel₀ _ hp

end field

/-! ### the executed dispatch (scalars = ℚ) -/
section dispatch
variable {n : Nat} [NeZero n]

/-! the dispatch on one composite system, branch by branch -/

omit [NeZero n] in
theorem mkMProcess_ok (s : Nat) (sh : List Nat) (e : Rat) (hss : List (Mat Rat n n))
    (h : hss.length = QM.C16.prod sh) : mkMProcess s sh e hss = .ok (.mprocess s sh e hss) :=
  if_neg (not_not.2 h)

omit [NeZero n] in
/-- transforming the outcome maps one by one keeps a measurement process well sized -/
theorem mkMProcess_map_ok (s : Nat) (sh : List Nat) (e : Rat) (hss : List (Mat Rat n n)) (f : Mat Rat n n → Mat Rat n n)
    (h : hss.length = QM.C16.prod sh) : mkMProcess s sh e (hss.map f) = .ok (.mprocess s sh e (hss.map f)) :=
  mkMProcess_ok s sh e _ ((List.length_map f).trans h)

theorem compose_gate_gate (c : Cfg) (s : Nat) (A B : Mat Rat n n) :
    compose c (.gate s A) (.gate s B) = .ok (.gate s (A.mul B)) := if_neg fun h => h rfl

theorem compose_gate_state (c : Cfg) (s : Nat) (A : Mat Rat n n) (v : Vec Rat n) :
    compose c (.gate s A) (.state s v) = .ok (.state s (A.mulVec v)) := if_neg fun h => h rfl

theorem compose_gate_mprocess (c : Cfg) (s : Nat) (A : Mat Rat n n) (sh : List Nat) (e : Rat)
    (hss : List (Mat Rat n n)) :
    compose c (.gate s A) (.mprocess s sh e hss) = mkMProcess s sh e (hss.map fun hs => A.mul hs) :=
  if_neg fun h => h rfl

theorem compose_mprocess_gate (c : Cfg) (s : Nat) (sh : List Nat) (e : Rat) (hss : List (Mat Rat n n))
    (B : Mat Rat n n) :
    compose c (.mprocess s sh e hss) (.gate s B) = mkMProcess s sh e (hss.map fun hs => hs.mul B) :=
  if_neg fun h => h rfl

/-- the dispatch composes two measurement processes as `mpMp` with shape `shape2 ++ shape1` — the shape
`MProcess∘StateEnsemble` gives to `M₁∘(M₂∘ρ)` (ensemble shape first, then the later process) -/
theorem compose_mprocess_mprocess_shape (c : Cfg) (s : Nat) (sh1 sh2 : List Nat) (e1 e2 : Rat)
    (h1 h2 : List (Mat Rat n n)) :
    compose c (.mprocess s sh1 e1 h1) (.mprocess s sh2 e2 h2)
      = mkMProcess s (sh2 ++ sh1) (if e1 < e2 then e2 else e1) (mpMp h1 h2) :=
  if_neg fun h => h rfl

theorem compose_mprocess_state (c : Cfg) (s : Nat) (sh : List Nat) (e : Rat) (hss : List (Mat Rat n n))
    (v : Vec Rat n) : compose c (.mprocess s sh e hss) (.state s v) = mpState c s sh e hss v :=
  if_neg fun h => h rfl

theorem compose_povm_gate (c : Cfg) (s : Nat) (nums : List Nat) (vecs : List (Vec Rat n)) (B : Mat Rat n n) :
    compose c (.povm s nums vecs) (.gate s B) = .ok (.povm s [vecs.length] (povmGate vecs B)) :=
  if_neg fun h => h rfl

theorem compose_povm_mprocess (c : Cfg) (s : Nat) (nums : List Nat) (vecs : List (Vec Rat n)) (sh : List Nat)
    (e : Rat) (hss : List (Mat Rat n n)) :
    compose c (.povm s nums vecs) (.mprocess s sh e hss)
      = .ok (.povm s [(povmMProcess vecs hss).length] (povmMProcess vecs hss)) := if_neg fun h => h rfl

theorem compose_povm_state (c : Cfg) (s : Nat) (nums : List Nat) (vecs : List (Vec Rat n)) (v : Vec Rat n) :
    compose c (.povm s nums vecs) (.state s v) = (povmState c vecs v).map .dist := if_neg fun h => h rfl

/-- raw probability of an outcome map on `ρ`: `sd·(HS ρ)₀` -/
def rawP (sd : Rat) (rho : Vec Rat n) (hs : Mat Rat n n) : Rat := sd * (hs.mulVec rho).get 0

/-- probability kept after the `eps_zero` test: `0` when `weight·p ≤ eps_zero` -/
def keptP (sd eps w : Rat) (rho : Vec Rat n) (hs : Mat Rat n n) : Rat :=
  if w * rawP sd rho hs ≤ eps then 0 else rawP sd rho hs

/-- C06 "probability together with the normalised post-measurement state": closed form of **every branch** of
`_compose_qoperations_MProcess_State_for_States` (a definitional unfolding of the model function into per-outcome
formulas — the content is in its consequences `truncated_probs_sum`, `truncated_weighted_state`,
`post_states_normalised`, `mprocess_state_partial`): with `p̃_x = 0` if `weight·p_x ≤ eps_zero` else
`p_x = sd·(HS_x ρ)₀`, `S = Σ_x p̃_x` and `T` = "some outcome was truncated and `S ≠ 0`":
the post state of outcome `x` is `0` if `p̃_x = 0` and `HS_x ρ / p̃_x` otherwise, and its reported probability is
`weight·p̃_x / S` if `T` and `weight·p̃_x` otherwise. No hypothesis on the inputs. -/
theorem mprocess_state_exact (sd eps : Rat) (hss : List (Mat Rat n n)) (rho : Vec Rat n) (w : Rat) :
    forStates sd eps hss rho w =
      (hss.map fun hs => if keptP sd eps w rho hs = 0 then Vec.zero
                          else vdiv (hs.mulVec rho) (keptP sd eps w rho hs),
       (if (hss.any fun h => decide (w * rawP sd rho h ≤ eps)) &&
              !decide (lsum (hss.map (keptP sd eps w rho)) = 0)
          then (hss.map (keptP sd eps w rho)).map (· / lsum (hss.map (keptP sd eps w rho)))
          else hss.map (keptP sd eps w rho)).map fun p => w * p) := by
  unfold forStates
  simp only [List.map_map, List.zip_map', Function.comp_def, List.any_map]
  rfl

/-- an outcome that is kept keeps its raw probability -/
theorem keptP_ne_zero {sd eps w : Rat} {rho : Vec Rat n} {hs : Mat Rat n n} (h : keptP sd eps w rho hs ≠ 0) :
    keptP sd eps w rho hs = rawP sd rho hs := by
  unfold keptP at h ⊢
  split at h
  · exact absurd rfl h
  · rw [if_neg ‹_›]

theorem ne_zero_of_not_mul_le {w p eps : Rat} (heps : 0 ≤ eps) (h : ¬ w * p ≤ eps) : p ≠ 0 :=
  fun h0 => h (by rw [h0, mul_zero]; exact heps)

/-- C06 "a measurement process on a state gives each outcome's probability together with the normalised
post-measurement state" (`_compose_qoperations_MProcess_State_for_States`), generic regime = no outcome is
truncated (`weight·p_x > eps_zero ≥ 0` for all x): probabilities are `weight·sd·(HS_x ρ)₀` and post states are
`HS_x ρ / p_x`. Partial: the no-truncation regime only; every branch is stated exactly in `mprocess_state_exact`
(with `truncated_probs_sum`, `truncated_weighted_state`, `post_states_normalised`). -/
theorem mprocess_state_partial (sd eps : Rat) (hss : List (Mat Rat n n)) (rho : Vec Rat n) (w : Rat)
    (heps : 0 ≤ eps) (hno : ∀ hs ∈ hss, ¬ w * (sd * (hs.mulVec rho).get 0) ≤ eps) :
    forStates sd eps hss rho w =
      (hss.map fun hs => vdiv (hs.mulVec rho) (sd * (hs.mulVec rho).get 0),
       hss.map fun hs => w * (sd * (hs.mulVec rho).get 0)) := by
  have hk : ∀ hs ∈ hss, keptP sd eps w rho hs = sd * (hs.mulVec rho).get 0 := fun hs hh => if_neg (hno hs hh)
  have hany : (hss.any fun h => decide (w * rawP sd rho h ≤ eps)) = false :=
    List.any_eq_false.2 fun hs hh h => hno hs hh (of_decide_eq_true h)
  rw [mprocess_state_exact, hany, Bool.false_and, if_neg Bool.false_ne_true, List.map_map]
  exact Prod.ext (List.map_congr_left fun hs hh => by rw [hk hs hh, if_neg (ne_zero_of_not_mul_le heps (hno hs hh))])
    (List.map_congr_left fun hs hh => congrArg (w * ·) (hk hs hh))

/-- `_compose_qoperations_MProcess_State_for_States` of `M∘G` on `ρ` is that of `M` on `Gρ` (all branches,
including truncation decisions). -/
theorem forStates_mul_gate (sd eps : Rat) (hss : List (Mat Rat n n)) (G : Mat Rat n n) (rho : Vec Rat n)
    (w : Rat) :
    forStates sd eps (hss.map fun hs => hs.mul G) rho w = forStates sd eps hss (G.mulVec rho) w := by
  unfold forStates
  simp only [List.map_map, Function.comp_def, Mat.mul_mulVec]

/-- C06 associativity, exact: `(M∘G)∘ρ` and `M∘(G∘ρ)` are the same model value (same ensemble, same probabilities,
same truncation decisions, same `eps_zero`, same errors), for every well-formed measurement process with **any**
`eps_zero`, every gate and every state (the composite `M∘G` keeps `M`'s `eps_zero`). -/
theorem assoc_mprocess_gate_state (c : Cfg) (s : Nat) (shape : List Nat) (eps : Rat) (hss : List (Mat Rat n n))
    (G : Mat Rat n n) (rho : Vec Rat n) (hsz : hss.length = QM.C16.prod shape) :
    (compose c (.mprocess s shape eps hss) (.gate s G)).bind (fun x => compose c x (.state s rho))
      = (compose c (.gate s G) (.state s rho)).bind (fun y => compose c (.mprocess s shape eps hss) y) := by
  simp only [compose_mprocess_gate, compose_gate_state, compose_mprocess_state, mkMProcess_map_ok _ _ _ _ _ hsz,
    Except.bind, mpState, forStates_mul_gate]

/-- C06 associativity, exact: `(Π∘G)∘ρ = Π∘(G∘ρ)` as model values (Heisenberg = Schrödinger picture). -/
theorem assoc_povm_gate_state (c : Cfg) (s : Nat) (nums : List Nat) (vecs : List (Vec Rat n))
    (G : Mat Rat n n) (rho : Vec Rat n) :
    (compose c (.povm s nums vecs) (.gate s G)).bind (fun x => compose c x (.state s rho))
      = (compose c (.gate s G) (.state s rho)).bind (fun y => compose c (.povm s nums vecs) y) := by
  simp only [compose_povm_gate, compose_gate_state, compose_povm_state, Except.bind, povmState, heisenberg_gate]

/-- C06 associativity, exact, with layout: `(Π∘M)∘G = Π∘(M∘G)` as model values. -/
theorem assoc_povm_mprocess_gate (c : Cfg) (s : Nat) (nums shape : List Nat) (eps : Rat)
    (vecs : List (Vec Rat n)) (hss : List (Mat Rat n n)) (G : Mat Rat n n)
    (hsz : hss.length = QM.C16.prod shape) :
    (compose c (.povm s nums vecs) (.mprocess s shape eps hss)).bind (fun x => compose c x (.gate s G))
      = (compose c (.mprocess s shape eps hss) (.gate s G)).bind (fun y => compose c (.povm s nums vecs) y) := by
  simp only [compose_povm_mprocess, compose_povm_gate, compose_mprocess_gate, mkMProcess_map_ok _ _ _ _ _ hsz,
    Except.bind, ← povmGate_povmMProcess]
  simp only [povmGate, List.length_map]

/-- C06 associativity `(G∘M)∘ρ = G∘(M∘ρ)` at the level of `_compose_qoperations_MProcess_State_for_States`:
for a **trace-preserving** gate the probabilities, the truncation decisions and the renormalisation of `G∘M`
on `ρ` are those of `M` on `ρ`, and the post states are the gate applied to the post states of `M`.
(Without TP the probabilities differ — this is where trace preservation enters.) All outcome counts. -/
theorem forStates_gate_mul (sd eps : Rat) (hss : List (Mat Rat n n)) (G : Mat Rat n n) (rho : Vec Rat n)
    (w : Rat) (hG : IsTP G) :
    forStates sd eps (hss.map fun hs => G.mul hs) rho w
      = (((forStates sd eps hss rho w).1).map fun v => G.mulVec v, (forStates sd eps hss rho w).2) := by
  unfold forStates
  simp only [List.map_map, Function.comp_def, Mat.mul_mulVec, tp_preserves_trace G _ hG]
  refine Prod.ext ?_ rfl
  simp only [List.zip_map_left, List.map_map, List.zip_map, Function.comp_def]
  apply List.map_congr_left
  intro a _
  simp only [Prod.map_snd, Prod.map_fst, id]
  split
  · simp [mulVec_zero_vec]
  · simp [mulVec_vdiv]

/-- a bracketing of gates on one system evaluates to the right-nested product of its leaves -/
theorem gate_tree_eval (c : Cfg) (s : Nat) (t : Tree n) (h : ∀ x ∈ t.leaves, ∃ A, x = QOp.gate s A) :
    t.eval c = .ok (.gate s (gateProd t.leaves)) := by
  induction t with
  | leaf x =>
    obtain ⟨A, rfl⟩ := h x (by simp [Tree.leaves])
    simp [Tree.eval, Tree.leaves, gateProd, gateOf]
  | node l r ihl ihr =>
    have hl := ihl (fun x hx => h x (by simp [Tree.leaves, hx]))
    have hr := ihr (fun x hx => h x (by simp [Tree.leaves, hx]))
    simp only [Tree.eval, hl, hr, bind, Except.bind, compose_gate_gate, Tree.leaves]
    rw [gateProd_append]

/-- all bracketings of a chain of gates on one system evaluate to the same gate (generalised associativity,
any chain length). -/
theorem gate_chain_bracketing (c : Cfg) (s : Nat) (t : Tree n)
    (h : ∀ x ∈ t.leaves, ∃ A, x = QOp.gate s A) :
    ∃ A, t.eval c = .ok (.gate s A) ∧
      ∀ t' : Tree n, t'.leaves = t.leaves → t'.eval c = .ok (.gate s A) :=
  ⟨_, gate_tree_eval c s t h, fun t' ht' => by rw [gate_tree_eval c s t' (ht' ▸ h), ht']⟩

end dispatch

/-! ### instruments: all bracketings -/
section inst
variable {K : Type} [CommRing K] {n : Nat}

/-- a bracketing of a chain of instruments (lists of outcome maps) -/
inductive ITree (K : Type) (n : Nat)
  | leaf (hss : List (Mat K n n))
  | node (l r : ITree K n)

/-- evaluation with `MProcess∘MProcess` (`l` after `r`) -/
def ITree.eval : ITree K n → List (Mat K n n)
  | .leaf h => h
  | .node l r => mpMp l.eval r.eval

def ITree.leaves : ITree K n → List (List (Mat K n n))
  | .leaf h => [h]
  | .node l r => l.leaves ++ r.leaves

/-- right-nested composition of a chain (latest first), the trivial one-outcome identity instrument for `[]` -/
def foldInst : List (List (Mat K n n)) → List (Mat K n n)
  | [] => [Mat.one]
  | h :: t => mpMp h (foldInst t)

/-- the one-outcome identity instrument is a right and a left unit of `mpMp` -/
theorem mpMp_one_right (h : List (Mat K n n)) : mpMp h [Mat.one] = h := by
  simp [mpMp, Mat.mul_one]

theorem mpMp_one_left (h : List (Mat K n n)) : mpMp [Mat.one] h = h := by
  simp [mpMp, Mat.one_mul]

/-- `foldInst` is a monoid homomorphism from concatenation to `mpMp` (by `mpMp_assoc`) -/
theorem foldInst_append (a b : List (List (Mat K n n))) :
    foldInst (a ++ b) = mpMp (foldInst a) (foldInst b) := by
  induction a with
  | nil => simp [foldInst, mpMp_one_left]
  | cons h t ih => simp only [List.cons_append, foldInst, ih, mpMp_assoc]

/-- C06 "any two ways of bracketing the same time-ordered chain give the same outcome statistics with the same
outcome labelling", instrument level: every bracketing of a chain of instruments (any length,
any outcome counts) evaluates to the same *list* of outcome maps — same maps, same layout — namely the
right-nested composition of the leaves. -/
theorem instrument_bracketing (t : ITree K n) : t.eval = foldInst t.leaves ∧
    ∀ t' : ITree K n, t'.leaves = t.leaves → t'.eval = t.eval := by
  have key : ∀ t : ITree K n, t.eval = foldInst t.leaves := by
    intro t
    induction t with
    | leaf h => simp [ITree.eval, ITree.leaves, foldInst, mpMp_one_right]
    | node l r ihl ihr => simp only [ITree.eval, ITree.leaves, foldInst_append, ihl, ihr]
  exact ⟨key t, fun t' h => by rw [key t', key t, h]⟩

/-- the branches `Gate∘Gate`, `Gate∘MProcess`, `MProcess∘Gate` of the dispatch are instances of `MProcess∘MProcess`
(a gate is the one-outcome instrument), so `instrument_bracketing` covers every chain of gates and measurement
processes. -/
theorem gate_branches_are_instruments (a b : Mat K n n) (hss : List (Mat K n n)) :
    [a.mul b] = mpMp [a] [b] ∧
    (hss.map fun hs => a.mul hs) = mpMp [a] hss ∧
    (hss.map fun hs => hs.mul b) = mpMp hss [b] :=
  ⟨by simp [mpMp], List.map_eq_flatMap, by simp [mpMp]⟩

end inst

/-! ### instruments on the executed evaluator (`Tree.eval` / `composeChain` over `compose`); outside the no-truncation regime
the bracketings differ (witness); `truncate_and_normalize` output is non-negative -/
section exec
variable {n : Nat} [NeZero n]

/-- list of outcome maps a gate / measurement process stands for (a gate is the one-outcome instrument) -/
def instOf : QOp n → List (Mat Rat n n)
  | .gate _ A => [A]
  | .mprocess _ _ _ hss => hss
  | _ => []

/-- reported outcome shape (`()` for a gate) -/
def shapeOf : QOp n → List Nat
  | .mprocess _ shape _ _ => shape
  | _ => []

/-- a gate, or a measurement process whose number of outcome maps matches its shape, on system `s` -/
def IsInst (s : Nat) : QOp n → Prop
  | .gate s' _ => s' = s
  | .mprocess s' shape _ hss => s' = s ∧ hss.length = QM.C16.prod shape
  | _ => False

omit [NeZero n] in
theorem c16prod_append (a b : List Nat) : QM.C16.prod (a ++ b) = QM.C16.prod a * QM.C16.prod b := by
  induction a with
  | nil => simp [QM.C16.prod]
  | cons x a ih => simp only [List.cons_append, QM.C16.prod, List.foldr_cons] at *; rw [ih, Nat.mul_assoc]

omit [NeZero n] in
theorem mpMp_length (h1 h2 : List (Mat Rat n n)) : (mpMp h1 h2).length = h2.length * h1.length :=
  length_flatMap_map _ _ _

/-- one composition step of the executed dispatch on instruments: it succeeds, stays an instrument on the same
system, its outcome maps are `mpMp` of the operands' and its shape is `shape(b) ++ shape(a)` -/
theorem compose_inst (c : Cfg) (s : Nat) (a b : QOp n) (ha : IsInst s a) (hb : IsInst s b) :
    ∃ v, compose c a b = .ok v ∧ IsInst s v ∧ instOf v = mpMp (instOf a) (instOf b) ∧
      shapeOf v = shapeOf b ++ shapeOf a := by
  cases a with
  | gate s1 A =>
    obtain rfl : s1 = s := ha
    cases b with
    | gate s2 B =>
      obtain rfl : s2 = s1 := hb
      exact ⟨_, compose_gate_gate c s2 A B, rfl, (gate_branches_are_instruments A B []).1, rfl⟩
    | mprocess s2 sh e hss =>
      obtain ⟨rfl, hl⟩ := hb
      exact ⟨_, (compose_gate_mprocess c s2 A sh e hss).trans (mkMProcess_map_ok _ _ _ _ _ hl),
        ⟨rfl, (List.length_map _).trans hl⟩, (gate_branches_are_instruments A A hss).2.1, (List.append_nil sh).symm⟩
    | _ => exact hb.elim
  | mprocess s1 sh1 e1 h1 =>
    obtain ⟨rfl, hl1⟩ := ha
    cases b with
    | gate s2 B =>
      obtain rfl : s2 = s1 := hb
      exact ⟨_, (compose_mprocess_gate c s2 sh1 e1 h1 B).trans (mkMProcess_map_ok _ _ _ _ _ hl1),
        ⟨rfl, (List.length_map _).trans hl1⟩, (gate_branches_are_instruments B B h1).2.2, rfl⟩
    | mprocess s2 sh2 e2 h2 =>
      obtain ⟨rfl, hl2⟩ := hb
      have hlen : (mpMp h1 h2).length = QM.C16.prod (sh2 ++ sh1) := by
        rw [mpMp_length, c16prod_append, hl1, hl2]
      exact ⟨_, (compose_mprocess_mprocess_shape c s2 sh1 sh2 e1 e2 h1 h2).trans (mkMProcess_ok _ _ _ _ hlen),
        ⟨rfl, hlen⟩, rfl, rfl⟩
    | _ => exact hb.elim
  | _ => exact ha.elim

/-- C06 "any two ways of bracketing the same time-ordered chain give the same outcome statistics with the same
outcome labelling", on the **executed** evaluator (`Tree.eval` over `compose`, the path of the `tree` driver op), for
chains of gates and well-formed measurement processes of any length and any outcome counts: every bracketing
evaluates without error to an instrument whose list of outcome maps is the right-nested composition of the leaves
(`foldInst`, layout included) and whose reported shape is the concatenation of the leaves' shapes, earliest first. -/
theorem tree_eval_instruments (c : Cfg) (s : Nat) (t : Tree n) (h : ∀ x ∈ t.leaves, IsInst s x) :
    ∃ v, t.eval c = .ok v ∧ IsInst s v ∧ instOf v = foldInst (t.leaves.map instOf) ∧
      shapeOf v = ((t.leaves.map shapeOf).reverse).flatten := by
  induction t with
  | leaf x =>
    refine ⟨x, rfl, h x (by simp [Tree.leaves]), ?_, by simp [Tree.leaves]⟩
    simp [Tree.leaves, foldInst, mpMp_one_right]
  | node l r ihl ihr =>
    obtain ⟨a, ha, hai, hainst, hash⟩ := ihl (fun x hx => h x (by simp [Tree.leaves, hx]))
    obtain ⟨b, hb, hbi, hbinst, hbsh⟩ := ihr (fun x hx => h x (by simp [Tree.leaves, hx]))
    obtain ⟨v, hv, hvi, hvinst, hvsh⟩ := compose_inst c s a b hai hbi
    refine ⟨v, by simp [Tree.eval, ha, hb, hv, bind, Except.bind], hvi, ?_, ?_⟩
    · rw [hvinst, hainst, hbinst, Tree.leaves, List.map_append, foldInst_append]
    · rw [hvsh, hash, hbsh, Tree.leaves, List.map_append, List.reverse_append, List.flatten_append]

/-- corollary: two bracketings of the same chain of instruments give results with the same outcome maps, in the same
order, under the same reported shape (the remaining field, `eps_zero`, is the largest `eps_zero` among the measurement
processes of the chain in every bracketing — `max` is associative — which is not stated here) -/
theorem tree_bracketing_instruments (c : Cfg) (s : Nat) (t t' : Tree n) (h : ∀ x ∈ t.leaves, IsInst s x)
    (hl : t'.leaves = t.leaves) :
    ∃ v v', t.eval c = .ok v ∧ t'.eval c = .ok v' ∧ instOf v = instOf v' ∧ shapeOf v = shapeOf v' := by
  obtain ⟨v, hv, _, hi, hs⟩ := tree_eval_instruments c s t h
  obtain ⟨v', hv', _, hi', hs'⟩ := tree_eval_instruments c s t' (hl ▸ h)
  exact ⟨v, v', hv, hv', by rw [hi, hi', hl], by rw [hs, hs', hl]⟩

/-- the right-nested bracketing of a chain -/
def rightNested : List (QOp n) → Option (Tree n)
  | [] => none
  | [x] => some (.leaf x)
  | x :: xs => (rightNested xs).map fun t => .node (.leaf x) t

omit [NeZero n] in
/-- the right-nested bracketing of a chain ending in `last`, as a fold over the elements before it -/
theorem rightNested_concat (init : List (QOp n)) (last : QOp n) :
    rightNested (init ++ [last]) = some (init.foldr (fun x t => .node (.leaf x) t) (.leaf last)) := by
  induction init with
  | nil => rfl
  | cons x xs ih =>
    obtain ⟨y, ys, h⟩ : ∃ y ys, xs ++ [last] = y :: ys :=
      List.exists_cons_of_ne_nil (List.append_ne_nil_of_right_ne_nil _ (List.cons_ne_nil _ _))
    rw [List.cons_append, h]
    show (rightNested (y :: ys)).map _ = _
    rw [← h, ih]; rfl

omit [NeZero n] in
theorem rightNested_leaves (l : List (QOp n)) (t : Tree n) (h : rightNested l = some t) : t.leaves = l := by
  obtain ⟨init, last, rfl⟩ : ∃ init last, l = init ++ [last] :=
    (List.eq_nil_or_concat' l).resolve_left (by rintro rfl; cases h)
  rw [rightNested_concat, Option.some.injEq] at h
  subst h
  induction init with
  | nil => rfl
  | cons x xs ih => rw [List.foldr_cons, Tree.leaves, ih]; rfl

/-- the public `compose_qoperations(*elements)` fold is the evaluation of the right-nested bracketing: for a chain
of at least two elements, `composeChain` returns what `Tree.eval` returns on `x₁ ∘ (x₂ ∘ (… ∘ x_k))` whenever that
evaluation succeeds (the error case is not stated). -/
theorem composeChain_eq_rightNested (c : Cfg) (l : List (QOp n)) (t : Tree n) (hl : 2 ≤ l.length)
    (ht : rightNested l = some t) (v : QOp n) (hv : t.eval c = .ok v) :
    composeChain c l = some (.ok v) := by
  obtain ⟨init, last, rfl⟩ : ∃ init last, l = init ++ [last] :=
    (List.eq_nil_or_concat' l).resolve_left (by rintro rfl; cases ht)
  rw [rightNested_concat, Option.some.injEq] at ht
  subst ht
  -- the right-nested tree evaluates to the right fold of the chain
  have he : (init.foldr (fun x t => Tree.node (.leaf x) t) (.leaf last)).eval c
      = init.foldr (fun e r => r.bind fun t => compose c e t) (.ok last) := by
    clear hv hl
    induction init with
    | nil => rfl
    | cons x xs ih => rw [List.foldr_cons, List.foldr_cons, ← ih]; rfl
  rw [composeChain, List.reverse_append, List.reverse_singleton, List.singleton_append]
  cases hr : init.reverse with
  | nil => rw [List.reverse_eq_nil_iff] at hr; subst hr; simp at hl
  | cons a as =>
    show some ((a :: as).foldl _ _) = _
    rw [← hr, List.foldl_reverse, ← he, hv]

/-- what remains inexact by design of the thresholding: `(M₁∘M₂)∘ρ` truncates and renormalises over **all** joint
outcomes at once, `M₁∘(M₂∘ρ)` renormalises inside the block of each earlier outcome, so outside the no-truncation
regime (`compose_assoc_mprocess_partial`) the two bracketings can differ by the truncated mass. Witness with the same
`eps_zero = 1/7` on both processes, `M₂ = (2/3, 1/3)`, `M₁ = (3/4, 1/4)`: joint probabilities `(1/2, 1/6, 1/4, 1/12)`;
only `1/12` is truncated; the composite reports `(6/11, 2/11, 3/11, 0)`, the step-by-step evaluation `(1/2, 1/6, 1/3, 0)`. -/
theorem compose_assoc_mprocess_truncation_fails :
    ¬ ∀ (c : Cfg) (a b r : QOp 1),
        distShape ((Tree.node (.node (.leaf a) (.leaf b)) (.leaf r)).eval c)
          = distShape ((Tree.node (.leaf a) (.node (.leaf b) (.leaf r))).eval c) := by
  intro h
  have := h { sd := 1, atol := 0 }
    (.mprocess 0 [2] (1 / 7) [#v[#v[3/4]], #v[#v[1/4]]])
    (.mprocess 0 [2] (1 / 7) [#v[#v[2/3]], #v[#v[1/3]]])
    (.state 0 #v[1])
  revert this
  decide +kernel

/-- C06 "Born-rule distribution (non-negative …)" as computed: whatever the inputs, every entry `truncate_and_normalize`
returns is ≥ 0 for a non-negative threshold (entries below it are zeroed, the rest divided by their positive sum). -/
theorem truncNorm_nonneg (eps : Rat) (ps qs : List Rat) (heps : 0 ≤ eps) (h : truncNorm eps ps = some qs) :
    ∀ q ∈ qs, 0 ≤ q := by
  obtain ⟨_, rfl⟩ := truncNorm_eq_some h
  have hnn : ∀ x ∈ ps.map (fun p => if p < eps then 0 else p), 0 ≤ x := by
    intro x hx
    obtain ⟨p, _, rfl⟩ := List.mem_map.1 hx
    split
    · exact le_rfl
    · exact heps.trans (not_lt.mp ‹_›)
  have hs : 0 ≤ lsum (ps.map fun p => if p < eps then 0 else p) := by
    rw [lsum_eq_sum]; exact List.sum_nonneg hnn
  intro q hq
  obtain ⟨x, hx, rfl⟩ := List.mem_map.1 hq
  exact div_nonneg (hnn x hx) hs

/-- non-vacuity of `tree_eval_instruments` / `compose_inst`: a gate and two measurement processes with 2 and 3 outcomes
on a 1-qubit-like system (`n = 2`) are instruments; `hsz`-type hypotheses (`hss.length = prod shape`) hold -/
example : IsInst 0 (.gate 0 (#v[#v[1, 0], #v[1/3, 1/2]] : Mat Rat 2 2)) ∧
    IsInst 0 (.mprocess 0 [2] eps8 [(#v[#v[1/4, 1/8], #v[0, 1/2]] : Mat Rat 2 2), #v[#v[3/4, -1/8], #v[1/3, 0]]]) ∧
    IsInst 0 (.mprocess 0 [3] (1/2) [(Mat.one : Mat Rat 2 2), Mat.one, Mat.one]) := by
  refine ⟨rfl, ⟨rfl, by decide⟩, ⟨rfl, by decide⟩⟩

end exec

/-! ### ensembles -/
section ens
variable {n : Nat} [NeZero n]
/-- the unnormalised (Kraus-level) states an ensemble stands for: `p_x · ρ_x` -/
def weighted (ps : List Rat) (sts : List (Vec Rat n)) : List (Vec Rat n) :=
  List.zipWith (fun p s => Vec.smul p s) ps sts

omit [NeZero n] in
theorem mulVec_smul (A : Mat Rat n n) (w : Rat) (v : Vec Rat n) :
    A.mulVec (Vec.smul w v) = Vec.smul w (A.mulVec v) := by
  apply Vec.ext'; intro i
  simp only [Mat.mulVec, Vec.smul, Vec.get_ofFn, fsum_eq_sum, Finset.mul_sum]
  apply Finset.sum_congr rfl; intro k _; ring

/-- no outcome truncated: the unnormalised states `p·ρ` that `forStates` returns are the outcome maps applied to `w·ρ` -/
theorem forStates_weighted (sd eps : Rat) (hss : List (Mat Rat n n)) (rho : Vec Rat n) (w : Rat) (heps : 0 ≤ eps)
    (hno : ∀ hs ∈ hss, ¬ w * (sd * (hs.mulVec rho).get 0) ≤ eps) :
    weighted (forStates sd eps hss rho w).2 (forStates sd eps hss rho w).1
      = hss.map fun hs => hs.mulVec (Vec.smul w rho) := by
  rw [mprocess_state_partial sd eps hss rho w heps hno, weighted, List.zipWith_map, List.zipWith_self]
  refine List.map_congr_left fun hs hh => ?_
  rw [mulVec_smul]
  apply Vec.ext'; intro i
  simp only [Vec.smul, vdiv, Vec.get_ofFn]
  rw [mul_assoc, mul_div_cancel₀ _ (ne_zero_of_not_mul_le heps (hno hs hh))]

/-- C06 "(earlier, later) labelling of `MProcess∘StateEnsemble`", generic regime (no outcome truncated): the
unnormalised states `p·ρ` of the new ensemble are, block by block, the outcome maps applied to the unnormalised
states of the old ensemble — old outcome slow, new outcome fast — i.e. `applyInst`. With `applyInst_comp` this
gives `M₂∘(M₁∘E) = (M₂∘M₁)∘E` for all outcome counts (`compose_assoc_mprocess_partial`). Partial: truncated outcomes are excluded. -/
theorem ensemble_step_partial (sd eps : Rat) (hss : List (Mat Rat n n)) (sp : List (Vec Rat n × Rat))
    (heps : 0 ≤ eps)
    (hno : ∀ x ∈ sp, ∀ hs ∈ hss, ¬ x.2 * (sd * (hs.mulVec x.1).get 0) ≤ eps) :
    weighted ((sp.map fun x => forStates sd eps hss x.1 x.2).flatMap (·.2))
             ((sp.map fun x => forStates sd eps hss x.1 x.2).flatMap (·.1))
      = applyInst hss (sp.map fun x => Vec.smul x.2 x.1) := by
  induction sp with
  | nil => rfl
  | cons x t ih =>
    have hx := hno x List.mem_cons_self
    have hlen : (forStates sd eps hss x.1 x.2).2.length = (forStates sd eps hss x.1 x.2).1.length := by
      rw [mprocess_state_partial sd eps hss x.1 x.2 heps hx, List.length_map, List.length_map]
    simp only [List.map_cons, List.flatMap_cons, applyInst]
    rw [weighted, List.zipWith_append hlen]
    exact congrArg₂ (· ++ ·) (forStates_weighted sd eps hss x.1 x.2 heps hx)
      (ih fun y hy => hno y (List.mem_cons_of_mem _ hy))

end ens

/-! ### measurement process after measurement process, truncation, back-action mode 1 -/
section mpmp
variable {n : Nat} [NeZero n]

/-- C06 "each outcome's probability together with the **normalised** post-measurement state", all branches
(truncation and renormalisation included): every post state produced by
`_compose_qoperations_MProcess_State_for_States` is either the zero state (outcome truncated or of probability 0)
or has unit trace — for every measurement process, state, weight and `eps_zero`. -/
theorem post_states_normalised (sd eps : Rat) (hss : List (Mat Rat n n)) (rho : Vec Rat n) (w : Rat) :
    ∀ st ∈ (forStates sd eps hss rho w).1, st = Vec.zero ∨ TraceOne sd st := by
  intro st hst
  rw [mprocess_state_exact] at hst
  obtain ⟨hs, _, rfl⟩ := List.mem_map.1 hst
  split
  · exact Or.inl rfl
  · rename_i h0
    have hk := keptP_ne_zero h0
    rw [hk] at h0 ⊢
    exact Or.inr (post_state_trace_one sd _ h0)

/-- C06 "any two bracketings … same statistics, same labelling" for two measurement processes and a (weighted)
state, generic regime (no outcome of the composed process truncated): the unnormalised post states `p·ρ` of
`(M₁∘M₂)∘ρ` are `M₁` applied to the outcome branches of `M₂` on `ρ`, earlier outcome slow — exactly what
`M₁∘(M₂∘ρ)` computes step by step (`ensemble_step_partial`), and the reported shapes agree
(`compose_mprocess_mprocess_shape`). -/
theorem compose_assoc_mprocess_partial (sd eps : Rat) (h1 h2 : List (Mat Rat n n)) (rho : Vec Rat n) (w : Rat)
    (heps : 0 ≤ eps)
    (hno : ∀ hs ∈ mpMp h1 h2, ¬ w * (sd * (hs.mulVec rho).get 0) ≤ eps) :
    weighted (forStates sd eps (mpMp h1 h2) rho w).2 (forStates sd eps (mpMp h1 h2) rho w).1
      = applyInst h1 (applyInst h2 [Vec.smul w rho]) := by
  rw [forStates_weighted sd eps _ rho w heps hno, applyInst_comp]
  exact (List.append_nil _).symm

end mpmp

section mode1
variable {K : Type} [CommRing K] [DecidableEq K] {d : Nat}

/-- with pairwise different eigenvalues the `spectral_decomp` dict loop of mode 1 is a plain map: one
rank-one term `v vᵀ` per eigenvector, in order -/
theorem mode1Loop_nodup (pairs : List (K × Vec K d)) (prev : Option K) (dct : List (K × List (Mat K d d)))
    (hnd : (pairs.map (·.1)).Nodup)
    (hdis : ∀ p ∈ pairs, ∀ e ∈ dct, e.1 ≠ p.1)
    (hprev : ∀ p ∈ pairs, prev ≠ some p.1) :
    mode1Loop pairs prev dct = dct ++ pairs.map fun p => (p.1, [outer p.2 p.2]) := by
  induction pairs generalizing prev dct with
  | nil => simp [mode1Loop]
  | cons p t ih =>
    obtain ⟨ev, row⟩ := p
    simp only [List.map_cons, List.nodup_cons] at hnd
    have hp : ¬ prev = some ev := hprev (ev, row) List.mem_cons_self
    have hany : dct.any (fun e => decide (e.1 = ev)) = false :=
      List.any_eq_false.2 fun e he => by simpa using hdis (ev, row) List.mem_cons_self e he
    -- `ev` does not occur again among the later keys
    have hev : ∀ q ∈ t, ev ≠ q.1 := fun q hq h => hnd.1 (List.mem_map.2 ⟨q, hq, h.symm⟩)
    simp only [mode1Loop, if_neg hp, dictSet, hany, Bool.false_eq_true, if_false]
    rw [ih (some ev) (dct ++ [(ev, [outer row row])]) hnd.2]
    · simp
    · intro q hq e he
      rcases List.mem_append.1 he with he | he
      · exact hdis q (List.mem_cons_of_mem _ hq) e he
      · rw [List.mem_singleton.1 he]; exact hev q hq
    · exact fun q hq h => hev q hq (Option.some.inj h)

/-- a unit vector gives a projector, `(v vᵀ)ᵀ (v vᵀ) = v vᵀ` -/
theorem outer_unit_idem (v : Vec K d) (hv : v.dot v = 1) :
    (outer v v).transpose.mul (outer v v) = outer v v := by
  have hv' : ∑ k, v.get k * v.get k = 1 := by rw [← fsum_eq_sum]; exact hv
  apply Mat.ext'; intro i j
  simp only [Mat.mul, Mat.transpose, outer, Mat.get_ofFn, fsum_eq_sum, mul_mul_mul_comm _ (v.get i)]
  rw [← Finset.sum_mul, hv', one_mul]

/-- C06 "consistent with the measurement process generated from a POVM in back-action mode 1" (`to_povm ∘
generate_mprocess(1)`), real symmetric element, pairwise different eigenvalues, normalised eigenvectors: the effect
read back from the generated outcome map is the spectral sum `Σ_k λ_k u_k u_kᵀ` over the **columns** `u_k` of the
`eigh` matrix (= `U diag(λ) Uᵀ`, the POVM element, by the `eigh` contract). Partial: stated in fold form over the
columns; repeated eigenvalues (the dict grouping) and complex eigenvectors are not covered. -/
theorem mode1_to_povm_partial (eigvals : List K) (U : Mat K d d)
    (hnd : ((mode1Pairs eigvals U).map (·.1)).Nodup)
    (hunit : ∀ p ∈ mode1Pairs eigvals U, p.2.dot p.2 = 1) :
    mode1Effect eigvals U
      = (mode1Pairs eigvals U).foldl (fun acc p => acc.add (Mat.smul p.1 (outer p.2 p.2))) Mat.zero := by
  have h1 : mode1Groups eigvals U = (mode1Pairs eigvals U).map fun p => (p.1, outer p.2 p.2) := by
    unfold mode1Groups
    rw [mode1Loop_nodup _ none [] hnd (by simp) (by simp)]
    simp
  -- each group is the single projector `u uᵀ` of a unit vector, so `(u uᵀ)ᵀ (u uᵀ) = u uᵀ` term by term
  rw [mode1Effect, h1, List.foldl_map]
  exact List.foldl_ext _ _ _ fun acc p hp => by rw [outer_unit_idem p.2 (hunit p hp)]

end mode1

/-! ### instances: two bracketings of `M_a ∘ M_b ∘ ρ`, mode 1 on a tilted projector, a truncated outcome -/

/-- the D6 instance: the two bracketings of `M_a ∘ M_b ∘ ρ` (2 and 3 outcomes) agree, labels included -/
example :
    ((Tree.node (.node (.leaf (.mprocess 0 [2] eps8 [#v[#v[1/3]], #v[#v[2/3]]] : QOp 1))
                      (.leaf (.mprocess 0 [3] eps8 [#v[#v[1/2]], #v[#v[1/4]], #v[#v[1/4]]])))
               (.leaf (.state 0 #v[1]))).eval { sd := 1, atol := 0 } |> distShape)
      = ((Tree.node (.leaf (.mprocess 0 [2] eps8 [#v[#v[1/3]], #v[#v[2/3]]] : QOp 1))
               (.node (.leaf (.mprocess 0 [3] eps8 [#v[#v[1/2]], #v[#v[1/4]], #v[#v[1/4]]]))
                      (.leaf (.state 0 #v[1])))).eval { sd := 1, atol := 0 } |> distShape) := by
  decide +kernel

/-- the D4 instance: `Π = |ψ⟩⟨ψ|`, `ψ = (3/5, 4/5)`, non-symmetric eigenvector matrix — mode 1 reproduces `Π` -/
example : mode1Effect [0, 1] (#v[#v[4/5, 3/5], #v[-3/5, 4/5]] : Mat Rat 2 2)
    = eighRecon #v[0, 1] #v[#v[4/5, 3/5], #v[-3/5, 4/5]] := by
  decide +kernel

/-- the D13 instance: weight 2·10⁻⁸, conditional probabilities 1/10 and 9/10 — the surviving post state has
unit trace -/
example : ∀ st ∈ (forStates (1 : Rat) eps8 [(#v[#v[1/10]] : Mat Rat 1 1), #v[#v[9/10]]] #v[1] (2 / 100000000)).1,
    st = Vec.zero ∨ TraceOne (1 : Rat) st :=
  post_states_normalised _ _ _ _ _

/-! ### consequences of the closed form on the `eps_zero` branch; further associativity triples -/
section exactbranch
variable {n : Nat} [NeZero n]

/-- consequence for the truncation branch: if some outcome is truncated and the kept probabilities do not all
vanish, the reported probabilities sum to exactly the incoming weight (the conditional distribution is renormalised) -/
theorem truncated_probs_sum (sd eps : Rat) (hss : List (Mat Rat n n)) (rho : Vec Rat n) (w : Rat)
    (ht : (hss.any fun h => decide (w * rawP sd rho h ≤ eps)) = true)
    (hS : lsum (hss.map (keptP sd eps w rho)) ≠ 0) :
    lsum (forStates sd eps hss rho w).2 = w := by
  rw [mprocess_state_exact]
  simp only [ht, hS, decide_false, Bool.not_false, Bool.and_self, if_true]
  rw [lsum_map_mul_left w _ fun p => p, List.map_id', lsum_map_div, div_self hS, mul_one]

omit [NeZero n] in
/-- … and the unnormalised state `p·ρ` the ensemble stores for a kept outcome is the Kraus-level state rescaled by
the common factor `1/S`: `(weight·p̃_x/S)·(HS_x ρ / p̃_x) = (weight/S)·HS_x ρ`. -/
theorem truncated_weighted_state (p S w : Rat) (r : Vec Rat n) (hp : p ≠ 0) :
    Vec.smul (w * (p / S)) (vdiv r p) = Vec.smul (w / S) r := by
  apply Vec.ext'; intro i
  simp only [Vec.smul, vdiv, Vec.get_ofFn]
  rw [show w * (p / S) * (r.get i / p) = w / S * r.get i * (p / p) by ring, div_self hp, mul_one]

/-- C06 associativity, exact: `(G₁∘G₂)∘ρ = G₁∘(G₂∘ρ)` as model values. -/
theorem assoc_gate_gate_state (c : Cfg) (s : Nat) (A B : Mat Rat n n) (rho : Vec Rat n) :
    (compose c (.gate s A) (.gate s B)).bind (fun x => compose c x (.state s rho))
      = (compose c (.gate s B) (.state s rho)).bind (fun y => compose c (.gate s A) y) := by
  simp only [compose_gate_gate, compose_gate_state, Except.bind, Mat.mul_mulVec]

/-- C06 associativity, exact, with layout: `(Π∘G)∘M = Π∘(G∘M)` as model values (well-formed measurement process). -/
theorem assoc_povm_gate_mprocess (c : Cfg) (s : Nat) (nums shape : List Nat) (eps : Rat)
    (vecs : List (Vec Rat n)) (G : Mat Rat n n) (hss : List (Mat Rat n n))
    (hsz : hss.length = QM.C16.prod shape) :
    (compose c (.povm s nums vecs) (.gate s G)).bind (fun x => compose c x (.mprocess s shape eps hss))
      = (compose c (.gate s G) (.mprocess s shape eps hss)).bind (fun y => compose c (.povm s nums vecs) y) := by
  simp only [compose_povm_gate, compose_povm_mprocess, compose_gate_mprocess, mkMProcess_map_ok _ _ _ _ _ hsz,
    Except.bind, povmMProcess_povmGate]

/-- C06 associativity `(Π∘M)∘ρ = Π∘(M∘ρ)` at the level of the raw Born weights: the statistics of the
Heisenberg-picture POVM `Π∘M` on `ρ` are, block by block (measurement-process outcome slow), `p_x` times the raw
Born weights of `Π` on the normalised post state `HS_x ρ / p_x` — exactly the blocks `Povm∘StateEnsemble` forms
from the ensemble `M∘ρ`. Partial: outcomes with `p_x = 0` are excluded (there `M∘ρ` stores the zero state). -/
theorem assoc_povm_mprocess_state_partial (sd : Rat) (vecs : List (Vec Rat n)) (hss : List (Mat Rat n n))
    (rho : Vec Rat n) (hne : ∀ hs ∈ hss, sd * (hs.mulVec rho).get 0 ≠ 0) :
    bornRaw (povmMProcess vecs hss) rho
      = hss.flatMap fun hs =>
          (bornRaw vecs (vdiv (hs.mulVec rho) (sd * (hs.mulVec rho).get 0))).map
            fun q => sd * (hs.mulVec rho).get 0 * q := by
  rw [heisenberg_mprocess]
  refine List.flatMap_congr fun hs hh => ?_
  simp only [bornRaw, List.map_map, Function.comp_def, dot_vdiv, mul_div_cancel₀ _ (hne hs hh)]

end exactbranch

/-- non-vacuity: an instance where the truncation branch is taken and the kept probabilities do not vanish
(weight 2·10⁻⁸, conditional probabilities 1/10 and 9/10): the reported probabilities sum to the weight -/
example : ([(#v[#v[1/10]] : Mat Rat 1 1), #v[#v[9/10]]].any
      fun h => decide ((2 / 100000000 : Rat) * rawP 1 (#v[1] : Vec Rat 1) h ≤ eps8)) = true ∧
    lsum ([(#v[#v[1/10]] : Mat Rat 1 1), #v[#v[9/10]]].map (keptP 1 eps8 (2 / 100000000) #v[1])) ≠ 0 := by
  decide +kernel

/-- non-vacuity of `assoc_povm_mprocess_state_partial`: both outcome probabilities are non-zero -/
example : ∀ hs ∈ [(#v[#v[1/4, 1/8], #v[0, 1/2]] : Mat Rat 2 2), #v[#v[3/4, -1/8], #v[1/3, 0]]],
    (2 : Rat) * (Mat.mulVec hs (#v[1/2, 1/5] : Vec Rat 2)).get 0 ≠ 0 := by
  -- the bounded quantifier is unrolled by hand: the search for its `Decidable` instance is the dear part
  rw [List.forall_mem_cons, List.forall_mem_singleton]
  decide +kernel

/-! ### tie to the source: the model equals the definitions regenerated from operators.py on every run -/
section source
variable {n : Nat} [NeZero n]

/-- `MProcess∘MProcess` of the model is the loop nest, `@` operand order and shape operand order that
`harness/c06_translate.py` reads off the current source (QGen/C06.lean); a source with `hs2 @ hs1`, `shape1 + shape2` (the defect D6)
or with the loops swapped makes this proof fail. -/
theorem compose_mprocess_mprocess_matches_source (c : Cfg) (s : Nat) (sh1 sh2 : List Nat) (e1 e2 : Rat)
    (h1 h2 : List (Mat Rat n n)) :
    mpMp h1 h2 = QGen.C06.mmCompose Mat.mul h1 h2 ∧
    compose c (.mprocess s sh1 e1 h1) (.mprocess s sh2 e2 h2)
      = mkMProcess s (QGen.C06.mmShape sh1 sh2) (QGen.C06.mmEps e1 e2) (QGen.C06.mmCompose Mat.mul h1 h2) := by
  exact ⟨rfl, compose_mprocess_mprocess_shape c s sh1 sh2 e1 e2 h1 h2⟩

/-- the `eps_zero` the dispatch hands to `G∘M`, `M∘G` and `G∘StateEnsemble` is the keyword argument regenerated from
the source (dropping `eps_zero=…`, the defect D16, makes the generated value the constructor default and this
proof fail) -/
theorem compose_eps_matches_source (c : Cfg) (s : Nat) (shape : List Nat) (eps epsE : Rat)
    (hss : List (Mat Rat n n)) (G : Mat Rat n n) (states : List (Vec Rat n)) (d : Dist) :
    compose c (.gate s G) (.mprocess s shape eps hss)
        = mkMProcess s shape (QGen.C06.gmEps eps8 eps) (hss.map fun hs => G.mul hs) ∧
      compose c (.mprocess s shape eps hss) (.gate s G)
        = mkMProcess s shape (QGen.C06.mgEps eps eps8) (hss.map fun hs => hs.mul G) ∧
      compose c (.gate s G) (.ensemble s states d epsE)
        = .ok (.ensemble s (states.map fun v => G.mulVec v) d (QGen.C06.geEps eps8 epsE)) := by
  exact ⟨compose_gate_mprocess c s G shape eps hss, compose_mprocess_gate c s shape eps hss G, if_neg fun h => h.1 rfl⟩

/-- `Povm∘MProcess` of the model is the generated loop nest with `hs.T @ vec` (seeded change C06-1 breaks this) -/
theorem povmMProcess_matches_source (vecs : List (Vec Rat n)) (hss : List (Mat Rat n n)) :
    povmMProcess vecs hss = QGen.C06.pmCompose (fun hs v => hs.transpose.mulVec v) vecs hss := rfl

/-- `_compose_qoperations_MProcess_State_for_States` of the model, in closed form over the truncation test regenerated
from the source (`weight * p_x <= elem1.eps_zero`): post states are divided by the probabilities kept by that test
*before* the renormalisation — the generated flag `postStatesUseRaw` (a source dividing by the renormalised probabilities makes it false and
this proof fail; the flag itself is a guard emitted by the translator, not a translation). -/
theorem forStates_matches_source (sd eps : Rat) (hss : List (Mat Rat n n)) (rho : Vec Rat n) (w : Rat) :
    (forStates sd eps hss rho w).1 =
        (hss.map fun hs =>
          let kept := if QGen.C06.truncated w (rawP sd rho hs) eps then 0 else rawP sd rho hs
          if kept = 0 then Vec.zero else vdiv (hs.mulVec rho) kept) ∧
      QGen.C06.postStatesUseRaw = true := by
  refine ⟨?_, rfl⟩
  rw [mprocess_state_exact]
  apply List.map_congr_left
  intro hs _
  simp [keptP, QGen.C06.truncated]

/-- the shape reported by `MProcess∘StateEnsemble` is the generated `elem2.prob_dist.shape + elem1.shape`
(seeded change C06-2 breaks this) -/
theorem mpEnsemble_shape_matches_source (c : Cfg) (sys : Nat) (shape : List Nat) (eps : Rat)
    (hss : List (Mat Rat n n)) (states : List (Vec Rat n)) (d : Dist) (epsE : Rat)
    (s' : Nat) (sts : List (Vec Rat n)) (d' : Dist) (e' : Rat)
    (h : mpEnsemble c sys shape eps hss states d epsE = .ok (.ensemble s' sts d' e')) :
    d'.shape = QGen.C06.meShape d.shape shape := by
  unfold mpEnsemble at h
  have h := guard_bind_eq_ok h
  split at h
  obtain ⟨d0, hc, h⟩ := bind_eq_ok h
  cases guard_bind_eq_ok h
  exact ctor_shape _ _ _ _ (liftDist_eq_ok hc)

end source

/-- non-vacuity of `mpEnsemble_shape_matches_source`: a concrete `MProcess∘StateEnsemble` returns an ensemble -/
example : (match mpEnsemble { sd := 1, atol := 0 } 0 [2] eps8 [(#v[#v[1/3]] : Mat Rat 1 1), #v[#v[2/3]]] [#v[1]]
      ⟨[1], [1], false⟩ eps8 with
    | .ok (.ensemble _ _ d _) => d.shape == [1, 2]
    | _ => false) = true := by
  decide +kernel

/-! ### SumTP of M∘M, chains ending in a state -/
section sumtp
variable {K : Type} [CommRing K] {n : Nat} [NeZero n]

/-- first-row column sums of a list of products `x·y`, `x` ranging over a sum-TP list: `Σ_x (x y)₀ⱼ = y₀ⱼ` -/
theorem sumtp_mul_row (h1 : List (Mat K n n)) (y : Mat K n n) (hM : SumTP h1) (j : Fin n) :
    lsum (h1.map fun x => (x.mul y).get 0 j) = y.get 0 j := by
  simp only [Mat.mul, Mat.get_ofFn]
  rw [lsum_map_fsum_mul h1 (fun x k => x.get 0 k) (fun k => y.get k j) 1 hM, one_mul]

/-- C06 "composing physical operations gives a physical result", equality part for `MProcess∘MProcess`: if both
families of outcome maps sum to trace-preserving maps, so does the composite family `mpMp h1 h2` (all outcome counts). -/
theorem sumtp_mpMp (h1 h2 : List (Mat K n n)) (hM1 : SumTP h1) (hM2 : SumTP h2) : SumTP (mpMp h1 h2) := by
  intro j
  rw [mpMp, List.map_flatMap, lsum_flatMap]
  simp only [List.map_map, Function.comp_def, sumtp_mul_row h1 _ hM1 j]
  exact hM2 j

end sumtp

section chainstate
variable {n : Nat} [NeZero n]

/-- C06 bracketing on the executed evaluator for chains **ending in a state**: every bracketing of
`G₁ ∘ … ∘ G_k ∘ ρ` (any `k ≥ 0`) evaluates to the state `(G₁⋯G_k)·ρ` — all bracketings agree. -/
theorem gate_chain_state_bracketing (c : Cfg) (s : Nat) (rho : Vec Rat n) (t : Tree n) (gs : List (QOp n))
    (hg : ∀ x ∈ gs, ∃ A, x = QOp.gate s A) (hl : t.leaves = gs ++ [.state s rho]) :
    t.eval c = .ok (.state s ((gateProd gs).mulVec rho)) := by
  induction t generalizing gs with
  | leaf x =>
    simp only [Tree.leaves] at hl
    cases gs with
    | nil => simp at hl; subst hl; simp [Tree.eval, gateProd, Mat.one_mulVec]
    | cons g gs' => simp at hl
  | node l r ihl ihr =>
    -- the state is the last leaf, so it sits in `r`; `l` consists of gates
    obtain ⟨ri, rl, hri⟩ : ∃ ri rl, r.leaves = ri ++ [rl] :=
      (List.eq_nil_or_concat' r.leaves).resolve_left (leaves_ne_nil r)
    rw [Tree.leaves, hri, ← List.append_assoc] at hl
    obtain ⟨rfl, hst⟩ := List.append_inj' hl rfl
    cases hst
    have hr := ihr ri (fun x hx => hg x (List.mem_append_right _ hx)) hri
    have hle := gate_tree_eval c s l fun x hx => hg x (List.mem_append_left _ hx)
    simp only [Tree.eval, hle, hr, bind, Except.bind, compose_gate_state]
    rw [gateProd_append, Mat.mul_mulVec]

/-- non-vacuity of `gate_chain_state_bracketing`: two gates and a state on `n = 2` coefficients -/
example : ∀ x ∈ [QOp.gate 0 (#v[#v[1, 0], #v[1/3, 1/2]] : Mat Rat 2 2), .gate 0 #v[#v[1, 0], #v[0, -1]]],
    ∃ A, x = QOp.gate 0 A := by
  intro x hx; simp at hx; rcases hx with rfl | rfl <;> exact ⟨_, rfl⟩

end chainstate

/-! ### the executed `Povm∘State` and `MProcess∘State` branches -/
section execbranches
variable {n : Nat} [NeZero n]

/-- C06 "a POVM on a state gives the Born-rule distribution", on the **executed** `Povm∘State` branch (`povmState` =
Born weights → `truncate_and_normalize` → `MultinomialDistribution`): for an identity-sum POVM, a unit-trace state and
no Born weight below `Settings.atol`, the dispatch hands exactly the raw Born weights `⟪Π_x, ρ⟫` (which sum to 1) to
the distribution constructor, with the flat shape `(m,)`. -/
theorem povm_state_generic (c : Cfg) (vecs : List (Vec Rat n)) (rho : Vec Rat n)
    (hP : IdentitySum c.sd vecs) (hr : TraceOne c.sd rho) (hno : ∀ p ∈ bornRaw vecs rho, ¬ p < c.atol) :
    povmState c vecs rho = liftDist (QM.C16.ctor (bornRaw vecs rho) [vecs.length] eps8) := by
  unfold povmState
  rw [truncNorm_generic c.atol _ hno (born_sum_one c.sd vecs rho hP hr)]
  simp [bornRaw]

/-- C06 "a measurement process on a state gives each outcome's probability together with the normalised
post-measurement state", on the **executed** `MProcess∘State` branch (`mpState`), no-truncation regime: the dispatch
hands the probabilities `sd·(HS_x ρ)₀` to the distribution constructor with the process's shape and, when that
succeeds with as many entries as outcome maps, returns the ensemble of the post states `HS_x ρ / p_x` with the
process's `eps_zero`. Partial: outcomes with `p_x ≤ eps_zero` excluded (see `mprocess_state_exact`). -/
theorem mpState_generic_partial (c : Cfg) (sys : Nat) (shape : List Nat) (eps : Rat) (hss : List (Mat Rat n n))
    (rho : Vec Rat n) (heps : 0 ≤ eps) (hno : ∀ hs ∈ hss, ¬ 1 * (c.sd * (hs.mulVec rho).get 0) ≤ eps) :
    mpState c sys shape eps hss rho =
      (liftDist (QM.C16.ctor (hss.map fun hs => 1 * (c.sd * (hs.mulVec rho).get 0)) shape eps8)).bind fun d =>
        if (hss.map fun hs => vdiv (hs.mulVec rho) (c.sd * (hs.mulVec rho).get 0)).length ≠ d.ps.length
        then .error .size
        else .ok (.ensemble sys (hss.map fun hs => vdiv (hs.mulVec rho) (c.sd * (hs.mulVec rho).get 0)) d eps) := by
  unfold mpState
  rw [mprocess_state_partial c.sd eps hss rho 1 heps hno]
  rfl

/-- non-vacuity of `povm_state_generic`: identity-sum POVM, unit-trace state, Born weights 11/15 and 4/15 ≥ atol -/
example : ∀ p ∈ bornRaw [(#v[1, 1/3] : Vec Rat 2), #v[1, -1/3]] (#v[1/2, 7/10] : Vec Rat 2), ¬ p < (1 / 10000000000000 : Rat) := by
  decide +kernel

end execbranches

/-! ### Born probabilities are non-negative -/
section born
open scoped ComplexOrder
variable {d n : Nat}

/-- the Hermitian matrix a real coefficient vector stands for in the matrix basis `B`: `Σ_α v_α B_α` -/
noncomputable def matOf (B : Fin n → Matrix (Fin d) (Fin d) ℂ) (v : Vec ℝ n) : Matrix (Fin d) (Fin d) ℂ :=
  ∑ α, ((v.get α : ℝ) : ℂ) • B α

/-- in an orthonormal Hermitian basis (`tr(B_α B_β) = δ_αβ`) the Euclidean inner product of coefficient vectors is
the Hilbert–Schmidt inner product of the matrices: `⟪p, r⟫ = tr(P R)` -/
theorem trace_matOf_mul (B : Fin n → Matrix (Fin d) (Fin d) ℂ)
    (horth : ∀ α β, (B α * B β).trace = if α = β then 1 else 0) (p r : Vec ℝ n) :
    (matOf B p * matOf B r).trace = ((Vec.dot p r : ℝ) : ℂ) := by
  simp only [matOf, Finset.sum_mul, Finset.mul_sum, trace_sum, smul_mul_assoc, mul_smul_comm, trace_smul, horth,
    smul_eq_mul, mul_ite, mul_one, mul_zero]
  simp only [Vec.dot, fsum_eq_sum, Complex.ofReal_sum, Complex.ofReal_mul, Finset.sum_ite_eq', Finset.mem_univ, if_true,
    mul_comm]

/-- C06 "a POVM on a state gives the Born-rule distribution (non-negative …)": if the effects `Π_x` and the state
`ρ` are positive semidefinite (as matrices `Σ_α v_α B_α` in an orthonormal Hermitian basis of any dimension), every
raw Born probability `⟪Π_x, ρ⟫` computed by `Povm∘State` is ≥ 0. -/
theorem born_nonneg (B : Fin n → Matrix (Fin d) (Fin d) ℂ)
    (horth : ∀ α β, (B α * B β).trace = if α = β then 1 else 0)
    (vecs : List (Vec ℝ n)) (rho : Vec ℝ n)
    (hP : ∀ v ∈ vecs, (matOf B v).PosSemidef) (hR : (matOf B rho).PosSemidef) :
    ∀ q ∈ bornRaw vecs rho, 0 ≤ q := by
  intro q hq
  simp only [bornRaw, List.mem_map] at hq
  obtain ⟨v, hv, rfl⟩ := hq
  have h := QM.Psd.psd_trace_mul_nonneg (hP v hv) hR
  rw [trace_matOf_mul B horth] at h
  exact_mod_cast h

end born

/-- the orthonormality hypothesis of `born_nonneg` is satisfiable (1-dimensional system, basis `{1}`) -/
example : ∀ α β : Fin 1, ((fun _ : Fin 1 => (1 : Matrix (Fin 1) (Fin 1) ℂ)) α *
    (fun _ : Fin 1 => (1 : Matrix (Fin 1) (Fin 1) ℂ)) β).trace = if α = β then 1 else 0 := by
  intro α β; simp [Subsingleton.elim α β]

/-! ### a gate acts on a state through its Kraus operators -/
section krausaction
variable {d n : Nat}

/-- C06 "a gate acts on a state through its Kraus operators": if the HS matrix of a gate is the HS matrix of the
Kraus operators `K_k` in the matrix basis `B` (`hs_αβ = tr(B_α Σ_k K_k B_β K_kᴴ)`, which is what
`to_hs_from_kraus_matrices` / the harness generators compute for a Hermitian basis), then the vector the dispatch
returns for `Gate∘State`, `hs · vec ρ`, is the coefficient vector of `Σ_k K_k ρ K_kᴴ`:
`(hs·v)_α = tr(B_α Σ_k K_k (Σ_β v_β B_β) K_kᴴ)` — every dimension, every number of Kraus operators, no hypothesis on `B`. -/
theorem gate_state_kraus (B : Fin n → Matrix (Fin d) (Fin d) ℂ) (ks : List (Matrix (Fin d) (Fin d) ℂ))
    (hs : Mat ℝ n n) (v : Vec ℝ n)
    (hhs : ∀ α β, ((hs.get α β : ℝ) : ℂ) = (B α * (ks.map fun K => K * B β * Kᴴ).sum).trace) (α : Fin n) :
    (((hs.mulVec v).get α : ℝ) : ℂ) = (B α * (ks.map fun K => K * matOf B v * Kᴴ).sum).trace := by
  have hlin : (ks.map fun K => K * matOf B v * Kᴴ).sum
      = ∑ β, ((v.get β : ℝ) : ℂ) • (ks.map fun K => K * B β * Kᴴ).sum := by
    simp only [matOf, Matrix.mul_sum, Matrix.sum_mul, Matrix.mul_smul, Matrix.smul_mul, list_sum_map_finset_sum,
      List.smul_sum, List.map_map, Function.comp_def]
  rw [hlin]
  simp only [Matrix.mul_sum, Matrix.mul_smul, trace_sum, trace_smul, ← hhs, smul_eq_mul, Mat.mulVec, Vec.get_ofFn,
    fsum_eq_sum, Complex.ofReal_sum, Complex.ofReal_mul]
  exact Finset.sum_congr rfl fun β _ => mul_comm _ _

end krausaction

/-- non-vacuity of `gate_state_kraus` (`hhs`): 1-dimensional system, basis `{1}`, one Kraus operator `1`, HS `(1)` -/
example : ∀ α β : Fin 1, ((Mat.get (#v[#v[1]] : Mat ℝ 1 1) α β : ℝ) : ℂ)
    = ((fun _ : Fin 1 => (1 : Matrix (Fin 1) (Fin 1) ℂ)) α *
        ([(1 : Matrix (Fin 1) (Fin 1) ℂ)].map fun K => K * (fun _ : Fin 1 => (1 : Matrix (Fin 1) (Fin 1) ℂ)) β * Kᴴ).sum).trace := by
  intro α β
  fin_cases α; fin_cases β
  simp [Mat.get]

/-! ### non-vacuity: concrete instances of the hypotheses (`n = 2` coefficients, `sd = 2`) -/

/-- a genuinely two-outcome identity-sum POVM and a unit-trace state on `n = 2` coefficients with `sd = 2` -/
example : IdentitySum (2 : Rat) [(#v[1, 1/3] : Vec Rat 2), #v[1, -1/3]] := by
  unfold IdentitySum; decide +kernel
example : TraceOne (2 : Rat) (#v[1/2, 1/5] : Vec Rat 2) := by simp [TraceOne, Vec.get]
example : IsTP (#v[#v[1, 0], #v[1/3, 1/2]] : Mat Rat 2 2) := by
  unfold IsTP; decide +kernel
example : SumTP [(#v[#v[1/4, 1/8], #v[0, 1/2]] : Mat Rat 2 2), #v[#v[3/4, -1/8], #v[1/3, 0]]] := by
  unfold SumTP; decide +kernel
/-- the generic-regime hypothesis of `mprocess_state_partial` is satisfiable -/
example : ∀ hs ∈ [(#v[#v[1/4, 1/8], #v[0, 1/2]] : Mat Rat 2 2), #v[#v[3/4, -1/8], #v[1/3, 0]]],
    ¬ (1 : Rat) * (2 * (Mat.mulVec hs (#v[1/2, 1/5] : Vec Rat 2)).get 0) ≤ eps8 := by
  rw [List.forall_mem_cons, List.forall_mem_singleton]
  decide +kernel
example : truncNorm (0 : Rat) [1/4, 3/4] = some [1/4, 3/4] := by decide +kernel

end QM.C06
