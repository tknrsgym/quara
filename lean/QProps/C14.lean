import QProofs.C14
/-!
# C14 — property theorems (sampled data, empirical distributions, seed plumbing)

All statements are unbounded in the number of outcomes, the data length, the number of sample sizes, the number of
schedules and the number of preceding calls. `probs.take i |>.sum` is the cumulative sum `c_i` (`c_0 = 0`).
Probabilities are rationals (every float is one). The running sum of the model is exact; the code adds in floats. `r2d_interval` is about exact sums;
the validity clause (`r2d_pos_any_add`; `data_valid` is its exact-sum instance over a list of uniforms) holds for any addition with `add c 0 = c`, hence for the float code
(the former defect D19 — a zero-probability outcome after a rounding fall-through — was repaired in 007afc6).
-/
namespace QM.C14

/-- **`generated_core`** (tie of the model to the source) — the pieces regenerated from the source (`QGen.C14`, harness/c14_translate.py) are the ones
every theorem below assumes: the loop tests `random_number < cumulative_sum` (strict), the running sum starts at 0,
after a fall-through the backward loop keeps entries `> 0`, the final result is `len − 1`. An edit of a comparison
direction / start / backward test / final result in the source re-opens this. -/
theorem generated_core (u c : Rat) (n : Int) :
    (QGen.C14.hit u c = true ↔ u < c) ∧ QGen.C14.cumStart = 0 ∧ (QGen.C14.fallKeep c = true ↔ 0 < c) ∧
      QGen.C14.fallThrough n = n - 1 :=
  ⟨hit_iff u c, rfl, fallKeep_iff c, rfl⟩

/-- **`generated_empi_tests`** (tie of the model to the source) — the tests and offsets of `calc_empi_dist_sequence` regenerated from the source are the
ones the theorems about empirical distributions assume: `measurement_num < 0`, `num_sum > len(data)`,
`0 ≤ d < measurement_num`, hit at `index + 1 == next_num_sum`, division by `index + 1`, `former ≥ next`. -/
theorem generated_empi_tests (m n len d former next : Int) (index : Nat) :
    (QGen.C14.empiNegative m = true ↔ m < 0) ∧ (QGen.C14.empiTooLarge n len = true ↔ n > len) ∧
    (QGen.C14.empiInRange d m = true ↔ 0 ≤ d ∧ d < m) ∧ (QGen.C14.empiHit index next = true ↔ (index : Int) + 1 = next) ∧
    QGen.C14.empiDiv index = index + 1 ∧ (QGen.C14.empiNotIncreasing former next = true ↔ former ≥ next) := by
  simp [QGen.C14.empiNegative, QGen.C14.empiTooLarge, QGen.C14.empiInRange, QGen.C14.empiHit, QGen.C14.empiDiv,
    QGen.C14.empiNotIncreasing]

example : QGen.C14.empiNotIncreasing 2 2 = true ∧ QGen.C14.empiHit 4 5 = true ∧ QGen.C14.empiInRange 3 3 = false := by decide +kernel

/-- **`toStream_table`** (tie of the model to the source) — `to_stream` as generated from the source: `None` → numpy's global state, an `int` → a
*fresh* `Generator(MT19937(seed))`, a generator → the same object. -/
theorem toStream_table {G : Type} (P : PRNG G) (s : Int) (k : Nat) :
    toStream P .none = .glob ∧ toStream P (.int s) = .fresh (P.seed s) ∧ toStream P (.gen k) = .held k :=
  ⟨rfl, rfl, rfl⟩

example : QGen.C14.hit (1/2) (1/2) = false ∧ QGen.C14.hit (1/4) (1/2) = true := by decide +kernel

/-- **C14.a `r2d_range`** — for a non-empty probability vector the sampled outcome is within range, whatever the
random number and the entries. -/
theorem r2d_range (probs : List Rat) (u : Rat) (h : probs ≠ []) :
    0 ≤ randomNumberToData probs u ∧ randomNumberToData probs u < probs.length := by
  rw [randomNumberToData_def]
  split
  · rename_i i hi
    have := r2dLoop_lt probs u 0 0 i hi
    omega
  · have hlen : 0 < probs.length := List.length_pos_iff.2 h
    rcases fallResult_cases probs with ⟨j, hj, hf, -⟩ | ⟨-, hf⟩ <;> rw [hf] <;> omega

/-- **C14.b `r2d_interval`** — cumulative-sum inversion: for non-negative entries and `0 ≤ u` the outcome is `i`
exactly when `c_i ≤ u < c_{i+1}`; the preimage of `i` is a half-open interval of length `probs[i]`. -/
theorem r2d_interval (probs : List Rat) (hnn : ∀ p ∈ probs, 0 ≤ p) (u : Rat) (hu : 0 ≤ u) (i : Nat)
    (hi : i < probs.length) :
    randomNumberToData probs u = i ∧ u < probs.sum ↔
      (probs.take i).sum ≤ u ∧ u < (probs.take (i + 1)).sum := by
  have spec := r2dLoop_spec probs u 0 0 hu
  rw [randomNumberToData_def]
  cases hloop : r2dLoop probs u 0 0 with
  | none =>
    have hs := spec.2 hloop
    rw [zero_add] at hs
    exact iff_of_false (fun h => absurd h.2 (not_lt.2 hs))
      fun h => absurd (h.2.trans_le (sum_take_le_sum probs hnn _)) (not_lt.2 hs)
  | some j =>
    obtain ⟨k, rfl, hk, h1, h2⟩ := spec.1 j hloop
    simp only [zero_add, Nat.cast_inj] at h1 h2 ⊢
    constructor
    · rintro ⟨rfl, -⟩; exact ⟨h1, h2⟩
    · intro h
      obtain rfl : k = i := by
        rcases Nat.lt_trichotomy k i with hlt | heq | hgt
        · exact absurd (h2.trans_le (sum_take_mono probs hnn hlt)) (not_lt.2 h.1)
        · exact heq
        · exact absurd (h.2.trans_le (sum_take_mono probs hnn hgt)) (not_lt.2 h1)
      exact ⟨rfl, h2.trans_le (sum_take_le_sum probs hnn _)⟩

/-- **C14.c0 `r2d_hit_nonzero_any_add`** — whatever addition the running sum uses (exact, or IEEE double `+`), as long as
`add c 0 = c`: a *hit* of the first loop (`return index` inside the `for`) with `0 ≤ u` never lands on an entry that is
exactly `0`. -/
theorem r2d_hit_nonzero_any_add (add : Rat → Rat → Rat) (hadd : ∀ c, add c 0 = c) (probs : List Rat) (u : Rat)
    (hu : 0 ≤ u) (i : Nat) (h : r2dLoopW add probs u 0 0 = some i) :
    ∃ hi : i < probs.length, probs[i] ≠ 0 := by
  obtain ⟨k, rfl, hk⟩ := r2dLoopW_hit add (· ≠ 0) (fun c _ hp => (not_not.1 hp ▸ hadd c).le) probs u 0 0 i hu h
  simpa only [Nat.zero_add] using hk

/-- the exact model is the instance `add = (+)`, and the loop only sees the running sums (driver op `r2dcs` runs it on
the float sums of the implementation, for every vector incl. non-dyadic ones on the boundaries) -/
theorem r2dLoop_is_instance (add : Rat → Rat → Rat) (probs : List Rat) (u : Rat) :
    r2dLoop probs u 0 0 = r2dLoopW (· + ·) probs u 0 0 ∧
    r2dLoopW add probs u 0 0 = r2dCums (scanAdd add 0 probs) u 0 ∧
    randomNumberToData probs u = randomNumberToDataW (· + ·) probs u := by
  refine ⟨r2dLoop_eq_W probs u 0 0, r2dLoopW_eq_cums add probs u 0 0, ?_⟩
  simp only [randomNumberToData, randomNumberToDataW, r2dLoop_eq_W]

/-- a rounding addition under which the first loop falls through on a normalised vector although `u < 1` (the situation of
the repaired defect D19, fix 007afc6): the backward loop then returns the last POSITIVE outcome, not the trailing zero -/
example : r2dLoopW (fun a b => if a + b > 9/10 then 9/10 else a + b) [1/2, 1/2, 0] (19/20) 0 0 = none ∧
    randomNumberToDataW (fun a b => if a + b > 9/10 then 9/10 else a + b) [1/2, 1/2, 0] (19/20) = 1 := by decide +kernel

/-- **C14.c1 `r2d_hit_pos`** (exact arithmetic) — no sign hypothesis on the entries (the code
accepts entries down to `−atol`), no `u < Σ probs`: a hit has strictly positive probability. -/
theorem r2d_hit_pos (probs : List Rat) (u : Rat) (hu : 0 ≤ u) (i : Nat) (h : r2dLoop probs u 0 0 = some i) :
    ∃ hi : i < probs.length, 0 < probs[i] := by
  obtain ⟨k, rfl, hk⟩ := r2dLoopW_hit (· + ·) (0 < ·) (fun _ _ hp => add_le_of_nonpos_right (not_lt.1 hp)) probs u 0 0 i hu
    (r2dLoop_eq_W probs u 0 0 ▸ h)
  simpa only [Nat.zero_add] using hk

example : r2dLoop [1/2, -1/1000, 1/2 + 1/1000] (1/2) 0 0 = some 2 := by decide +kernel

/-- **C14.c `r2d_pos_any_add`** — "only outcomes of non-zero probability", for the code as it is and in a form that holds
for the float arithmetic: for ANY addition of the running sum with `add c 0 = c`, every vector of non-negative entries with
at least one positive entry, and every `u ≥ 0` (no normalisation, no `u < Σ probs`, no exactness), the outcome is in range
and has strictly positive probability — a hit never lands on a zero entry, and a fall-through returns the last positive one. -/
theorem r2d_pos_any_add (add : Rat → Rat → Rat) (hadd : ∀ c, add c 0 = c) (probs : List Rat)
    (hnn : ∀ p ∈ probs, 0 ≤ p) (hex : ∃ p ∈ probs, 0 < p) (u : Rat) (hu : 0 ≤ u) :
    ∃ i : Nat, ∃ hi : i < probs.length, randomNumberToDataW add probs u = i ∧ 0 < probs[i] := by
  rw [randomNumberToDataW_def]
  cases h : r2dLoopW add probs u 0 0 with
  | some i =>
    obtain ⟨hi, hne⟩ := r2d_hit_nonzero_any_add add hadd probs u hu i h
    exact ⟨i, hi, rfl, lt_of_le_of_ne (hnn _ (List.getElem_mem hi)) (Ne.symm hne)⟩
  | none =>
    obtain ⟨p, hp, hpos⟩ := hex
    rcases fallResult_cases probs with ⟨j, hj, hf, hj0, -⟩ | ⟨hno, -⟩
    · exact ⟨j, hj, hf, hj0⟩
    · exact absurd hpos (hno p hp)

/-- **C14.c `r2d_pos`** — the exact-arithmetic instance of `r2d_pos_any_add` (the executed `randomNumberToData`). -/
theorem r2d_pos (probs : List Rat) (hnn : ∀ p ∈ probs, 0 ≤ p) (hex : ∃ p ∈ probs, 0 < p) (u : Rat) (hu : 0 ≤ u) :
    ∃ i : Nat, ∃ hi : i < probs.length, randomNumberToData probs u = i ∧ 0 < probs[i] := by
  rw [(r2dLoop_is_instance (· + ·) probs u).2.2]
  exact r2d_pos_any_add (· + ·) (fun c => by simp) probs hnn hex u hu

/-- **C14.c' `r2d_residual`** — the fall-through branch spelled out: if `Σ probs ≤ u` (exact sums; through rounding also for a
normalised vector) the first loop falls through and the result is the LAST outcome of positive probability; only when no entry
is positive it is `len − 1`. -/
theorem r2d_residual (probs : List Rat) (hnn : ∀ p ∈ probs, 0 ≤ p) (u : Rat) (hu : 0 ≤ u) (hge : probs.sum ≤ u) :
    randomNumberToData probs u = fallResult probs ∧
    ((∃ j : Nat, ∃ hj : j < probs.length, fallResult probs = j ∧ 0 < probs[j] ∧
        ∀ k (hk : k < probs.length), j < k → ¬ 0 < probs[k]) ∨
     ((∀ p ∈ probs, ¬ 0 < p) ∧ fallResult probs = (probs.length : Int) - 1)) := by
  refine ⟨?_, fallResult_cases probs⟩
  rw [randomNumberToData_def]
  cases hloop : r2dLoop probs u 0 0 with
  | none => rfl
  | some j =>
    obtain ⟨k, -, -, -, h2⟩ := (r2dLoop_spec probs u 0 0 hu).1 j hloop
    rw [zero_add] at h2
    exact absurd ((h2.trans_le (sum_take_le_sum probs hnn _)).trans_le hge) (lt_irrefl u)

/-- a sub-normalised vector with a trailing zero and `u` above its sum: the last POSITIVE outcome (before fix 007afc6: 2) -/
example : randomNumberToData [1/4, 1/2, 0] (7/8) = 1 := by decide +kernel
/-- no positive entry at all: `len − 1` -/
example : randomNumberToData [0, 0, 0] (1/2) = 2 := by decide +kernel

/-- **C14.d `data_valid`** — generated data (`generate_data_from_prob_dist` after the uniforms are drawn), for any number of
data: for every vector of non-negative entries with at least one positive entry and uniforms `≥ 0`, every datum is in range
and has non-zero probability. (By `r2d_pos_any_add` the same holds with the float addition of the running sum.) -/
theorem data_valid (probs : List Rat) (hnn : ∀ p ∈ probs, 0 ≤ p) (hex : ∃ p ∈ probs, 0 < p) (us : List Rat)
    (hus : ∀ u ∈ us, 0 ≤ u) :
    (dataOfUniforms probs us).length = us.length ∧
    ∀ d ∈ dataOfUniforms probs us, ∃ i : Nat, ∃ hi : i < probs.length, d = i ∧ 0 < probs[i] := by
  refine ⟨List.length_map _, fun d hd => ?_⟩
  obtain ⟨u, hu, rfl⟩ := List.mem_map.1 hd
  exact r2d_pos probs hnn hex u (hus u hu)

example : dataOfUniforms [1/2, 0, 1/4, 1/4] [0, 1/2, 3/4, 7/8, 1/4] = [0, 2, 3, 3, 0] := by decide +kernel
example : dataOfUniforms [1/4, 1/2, 0] [7/8, 99] = [1, 1] := by decide +kernel

/-! ## empirical distributions (`calc_empi_dist_sequence`) -/

/-- the vocabulary of the statements below, defined in `QProofs/C14.lean`, written out: the count vector and the specified
entry `(n, counts(data[:n]) / n)` -/
theorem countsOf_def (m : Nat) (l : List Int) :
    countsOf m l = (List.range' 0 m).map fun k => l.count ((k : Nat) : Int) := rfl
theorem empiEntry_def (m : Nat) (data : List Int) (n : Int) :
    empiEntry m data n = (n, (countsOf m (data.take n.toNat)).map fun (c : Nat) => ((c : Int) : Rat) / (n : Rat)) := rfl

/-- **C14.g `empi_ok_iff`** — full characterisation of success (first requested size positive): `calc_empi_dist_sequence`
returns exactly when `measurement_num ≥ 0`, the sample sizes are strictly increasing and none exceeds the data length,
and every datum of the consumed prefix `data[:last size]` satisfies `0 ≤ d < measurement_num` (data behind the last
requested size are never looked at); what it returns is then the specified entry of every size, in order. -/
theorem empi_ok_iff (mnum : Int) (data : List Int) (n0 : Int) (rest : List Int) (out : List (Int × List Rat))
    (hpos : 0 < n0) :
    calcEmpiDistSequence mnum data (n0 :: rest) = .ok out ↔
      (0 ≤ mnum ∧ Increasing (n0 :: rest) ∧ (∀ n ∈ n0 :: rest, n ≤ (data.length : Int)) ∧
        ∀ x ∈ data.take (lastD n0 rest).toNat, 0 ≤ x ∧ x < mnum) ∧
      out = (n0 :: rest).map (empiEntry mnum.toNat data) := by
  rw [calcEmpiDistSequence_def]
  by_cases hm : mnum < 0
  · simp only [hm, if_true, reduceCtorEq, false_iff]
    exact fun h => absurd h.1.1 (not_le.2 hm)
  · have hm' : 0 ≤ mnum := not_lt.1 hm
    by_cases hle : n0 > (data.length : Int)
    · simp only [hm, if_false, hle, if_true, reduceCtorEq, false_iff]
      exact fun h => absurd (h.1.2.2.1 n0 List.mem_cons_self) (not_le.2 hle)
    · simp only [hm, if_false, hle]
      rw [empiLoop_ok_iff _ data data 0 _ n0 0 rest [] out [] rfl rfl (countsOf_nil _).symm (by simpa using hpos)
        (not_lt.1 hle), rangeOK_zero_iff]
      simp only [hm', List.forall_mem_cons, not_lt.1 hle, inRangeD_toNat hm', true_and, List.reverse_nil,
        List.nil_append]

/-- **C14.e `empi_counts`** — whenever `calc_empi_dist_sequence` returns (positive sample sizes), it returns, for
*every* requested sample size `n` in order, exactly `(n, counts of the prefix data[:n] / n)` — nothing else of the
data enters. ∀ outcome counts, data lengths, numbers of sample sizes. -/
theorem empi_counts (mnum : Int) (data : List Int) (ns : List Int) (out : List (Int × List Rat))
    (hpos : ∀ n ∈ ns, 0 < n) (h : calcEmpiDistSequence mnum data ns = .ok out) :
    out = ns.map (empiEntry mnum.toNat data) := by
  cases ns with
  | nil => rw [calcEmpiDistSequence_def] at h; split at h <;> cases h; rfl
  | cons n0 rest => exact ((empi_ok_iff mnum data n0 rest out (hpos n0 List.mem_cons_self)).1 h).2

theorem empi_nonneg (m : Nat) (data : List Int) (n : Int) (hn : 0 < n) :
    ∀ e ∈ (empiEntry m data n).2, 0 ≤ e := by
  intro e he
  obtain ⟨c, _, rfl⟩ := List.mem_map.1 he
  exact div_nonneg (Int.cast_nonneg (Int.natCast_nonneg c)) (Int.cast_nonneg hn.le)

/-- **C14.e' `empi_sum_one`** — an entry whose prefix lies within range sums to one. -/
theorem empi_sum_one (m : Nat) (data : List Int) (n : Int) (hn : 0 < n) (hle : n ≤ data.length)
    (hr : ∀ x ∈ data.take n.toNat, 0 ≤ x ∧ x < (m : Int)) :
    ((empiEntry m data n).2).sum = 1 := by
  refine (sum_map_div ((Int.castAddHom Rat).comp (Nat.castAddMonoidHom Int)) _ _).trans ?_
  rw [countsOf_sum m _ hr, List.length_take, Nat.min_eq_left (by omega)]
  show (((n.toNat : Nat) : Int) : Rat) / (n : Rat) = 1
  rw [Int.toNat_of_nonneg hn.le]
  exact div_self (Int.cast_pos.2 hn).ne'


/-- **C14.f `empi_cumulative`** — cumulative consistency: for `n₁ ≤ n₂` the count vector behind the entry for `n₂`
is the one behind `n₁` plus the counts of the slice `data[n₁:n₂]` (so `n₂·e₂ − n₁·e₁` is that slice's count vector). -/
theorem empi_cumulative (m : Nat) (data : List Int) (n1 n2 : Nat) (h : n1 ≤ n2) :
    countsOf m (data.take n2) =
      List.zipWith (· + ·) (countsOf m (data.take n1)) (countsOf m ((data.take n2).drop n1)) := by
  have := countsFrom_append 0 m ((data.take n2).take n1) ((data.take n2).drop n1)
  rwa [List.take_append_drop, List.take_take, Nat.min_eq_left h] at this

/-- **C14.f' `empi_cumulative_out`** — cumulative consistency stated on the OUTPUT of `calc_empi_dist_sequence`: for any two
returned entries `(n₁, e₁)`, `(n₂, e₂)` with `n₁ ≤ n₂`, `n₂·e₂ = n₁·e₁ + (count vector of the slice data[n₁:n₂])`. -/
theorem empi_cumulative_out (mnum : Int) (data : List Int) (ns : List Int) (out : List (Int × List Rat))
    (hpos : ∀ n ∈ ns, 0 < n) (h : calcEmpiDistSequence mnum data ns = .ok out)
    (a b : Int × List Rat) (ha : a ∈ out) (hb : b ∈ out) (hab : a.1 ≤ b.1) :
    b.2.map (fun x => x * (b.1 : Rat)) =
      List.zipWith (· + ·) (a.2.map fun x => x * (a.1 : Rat))
        ((countsOf mnum.toNat ((data.take b.1.toNat).drop a.1.toNat)).map fun (c : Nat) => ((c : Int) : Rat)) := by
  have hout := empi_counts mnum data ns out hpos h
  rw [hout] at ha hb
  obtain ⟨n1, hn1, rfl⟩ := List.mem_map.1 ha
  obtain ⟨n2, hn2, rfl⟩ := List.mem_map.1 hb
  have h1 : (empiEntry mnum.toNat data n1).1 = n1 := rfl
  have h2 : (empiEntry mnum.toNat data n2).1 = n2 := rfl
  rw [h1, h2] at hab ⊢
  rw [entry_times_n _ _ _ (hpos n1 hn1), entry_times_n _ _ _ (hpos n2 hn2),
    empi_cumulative mnum.toNat data n1.toNat n2.toNat (by have := hpos n1 hn1; omega), List.map_zipWith,
    List.zipWith_map]
  simp only [Nat.cast_add, Int.cast_add]


example : calcEmpiDistSequence 3 [0, 1, 2, 2, 1] [2, 5] = .ok [(2, [1/2, 1/2, 0]), (5, [1/5, 2/5, 2/5])] ∧
    countsOf 3 (([0, 1, 2, 2, 1] : List Int).take 5 |>.drop 2) = [0, 1, 2] := by decide +kernel

/-- `Increasing` and `lastD` of `empi_ok_iff`, written out: strictly increasing sample sizes; the last requested size -/
theorem increasing_def (a b : Int) (t : List Int) :
    (Increasing [] ↔ True) ∧ (Increasing [a] ↔ True) ∧ (Increasing (a :: b :: t) ↔ a < b ∧ Increasing (b :: t)) :=
  ⟨Iff.rfl, Iff.rfl, Iff.rfl⟩
theorem lastD_def (a b : Int) (t : List Int) : lastD a [] = a ∧ lastD a (b :: t) = lastD b t := ⟨rfl, rfl⟩

/-- **C14.g' `empi_error_sound`** — every error names an actual defect at the reported position: a negative
`measurement_num`; a sample size `num_sums[p]` beyond the data; a datum `data[i]` outside `0 ≤ d < measurement_num`
with all data before it inside; a pair `num_sums[p-1] ≥ num_sums[p]`. -/
theorem empi_error_sound (mnum : Int) (data : List Int) (ns : List Int) (e : EmpiErr)
    (h : calcEmpiDistSequence mnum data ns = .error e) :
    (e = .negativeMeasurementNum ∧ mnum < 0) ∨
    (∃ p n, e = .numSumTooLarge p ∧ ns[p]? = some n ∧ n > (data.length : Int)) ∨
    (∃ i d, e = .dataOutOfRange i ∧ data[i]? = some d ∧ ¬ (0 ≤ d ∧ d < mnum) ∧
        ∀ j x, j < i → data[j]? = some x → 0 ≤ x ∧ x < mnum) ∨
    (∃ p a b, e = .notIncreasing (p + 1) ∧ ns[p]? = some a ∧ ns[p + 1]? = some b ∧ a ≥ b) := by
  rw [calcEmpiDistSequence_def] at h
  split at h
  · rename_i hm; cases h; exact .inl ⟨rfl, hm⟩
  · rename_i hm
    split at h
    · cases h
    · rename_i n0 rest
      split at h
      · rename_i hgt; cases h; exact .inr (.inl ⟨0, n0, rfl, rfl, hgt⟩)
      · have := empiLoop_error_sound _ data (n0 :: rest) data 0 _ n0 0 rest [] e [] [] rfl rfl rfl rfl nofun h
        simpa only [inRangeD_toNat (not_lt.1 hm)] using Or.inr this

/-- **C14.e'' `empi_ok_sum_one`** — no extra hypothesis: every entry a successful call returns (positive sizes) is a
non-negative vector summing to one, because success implies that the consumed prefix lies within range. -/
theorem empi_ok_sum_one (mnum : Int) (data : List Int) (ns : List Int) (out : List (Int × List Rat))
    (hpos : ∀ n ∈ ns, 0 < n) (h : calcEmpiDistSequence mnum data ns = .ok out) :
    ∀ entry ∈ out, entry.2.sum = 1 ∧ ∀ x ∈ entry.2, 0 ≤ x := by
  cases ns with
  | nil => cases empi_counts mnum data [] out hpos h; nofun
  | cons n0 rest =>
    obtain ⟨⟨hm, hinc, hle, hrange⟩, rfl⟩ := (empi_ok_iff mnum data n0 rest out (hpos n0 List.mem_cons_self)).1 h
    intro entry hentry
    obtain ⟨n, hn, rfl⟩ := List.mem_map.1 hentry
    refine ⟨empi_sum_one mnum.toNat data n (hpos n hn) (hle n hn) fun x hx => ?_, empi_nonneg mnum.toNat data n (hpos n hn)⟩
    rw [Int.toNat_of_nonneg hm]
    exact hrange x (List.take_subset_take_left data (Int.toNat_le_toNat (increasing_bounds n0 rest hinc n hn).2) hx)

example : Increasing [2, 5] ∧ lastD 2 [5] = 5 := by simp [Increasing, lastD]


/-- **C14.g3 `empi_first_size_nonpositive`** (the code as it is, outside the property's domain): a first sample size
`≤ 0` is never reached — all data are validated and the result is the empty list, whatever sizes follow. -/
theorem empi_first_size_nonpositive (mnum : Int) (data : List Int) (n0 : Int) (rest : List Int)
    (hm : 0 ≤ mnum) (hn : n0 ≤ 0) (hr : ∀ x ∈ data, 0 ≤ x ∧ x < mnum) :
    calcEmpiDistSequence mnum data (n0 :: rest) = .ok [] := by
  rw [calcEmpiDistSequence_def, if_neg (not_lt.2 hm)]
  simp only []
  rw [if_neg (by omega)]
  exact empiLoop_never _ _ _ _ _ _ _ _ _ (by simpa using hn) fun x hx => (inRangeD_toNat hm x).2 (hr x hx)

/-- **C14.g'' `empi_validation`** — the validation errors, in the order of the code: negative `measurement_num`; a first
sample size beyond the data; a datum outside `0 ≤ d < measurement_num` *within the consumed prefix* (here: the very
first datum); nothing requested ⇒ empty result without looking at the data. -/
theorem empi_validation (mnum : Int) (data : List Int) (ns : List Int) :
    (mnum < 0 → calcEmpiDistSequence mnum data ns = .error .negativeMeasurementNum) ∧
    (0 ≤ mnum → calcEmpiDistSequence mnum data [] = .ok []) ∧
    (∀ n0 rest, 0 ≤ mnum → (data.length : Int) < n0 →
        calcEmpiDistSequence mnum data (n0 :: rest) = .error (.numSumTooLarge 0)) ∧
    (∀ d ds n0 rest, 0 ≤ mnum → n0 ≤ ((d :: ds).length : Int) → ¬ (0 ≤ d ∧ d < mnum) →
        calcEmpiDistSequence mnum (d :: ds) (n0 :: rest) = .error (.dataOutOfRange 0)) := by
  refine ⟨?_, ?_, ?_, ?_⟩
  · intro h; simp [calcEmpiDistSequence_def, h]
  · intro h; simp [calcEmpiDistSequence_def, Int.not_lt.2 h]
  · intro n0 rest h hl; simp [calcEmpiDistSequence_def, Int.not_lt.2 h, hl]
  · intro d ds n0 rest h hl hd
    have hm : ((mnum.toNat : Nat) : Int) = mnum := Int.toNat_of_nonneg h
    simp only [calcEmpiDistSequence_def, Int.not_lt.2 h, if_false, Int.not_lt.2 hl, empiLoop_cons, hm]
    rw [if_pos hd]

example : calcEmpiDistSequence 3 [0, 1, 2, 2, 1] [2, 5] = .ok [(2, [1/2, 1/2, 0]), (5, [1/5, 2/5, 2/5])] := by
  decide +kernel
example : calcEmpiDistSequence 3 [0, 1, 2] [2, 2] = .error (.notIncreasing 1) := by decide +kernel
/-- a first sample size `0` is never reached: the result is silently empty (mirrors the code) -/
example : calcEmpiDistSequence 3 [0, 1, 2] [0] = .ok [] := by decide +kernel

/-! ## seed plumbing (`to_stream`, one stream per call), for an arbitrary deterministic generator `P`

Scope (what Python does outside it is not modelled): the probability vector passes `validate_prob_dist` (otherwise Python
raises BEFORE drawing and the stream is not advanced), an integer seed is a Python `int ≥ 0` (`MT19937` raises for negative
seeds), sample sizes on the multinomial path are positive (`0` yields `nan`, negative raises). `to_stream` is applied once
here; the code applies it again inside data_generator — harmless because `to_stream(generator)` is the generator itself and
`to_stream(np.random)` is `np.random` (the `else` branch of the generated table, `toStream_table`). The plumbing functions
(`toStream`, `genData`, `genDatasetArgs`, held / global / fresh streams) are executed against the implementation by the
driver op `dsargs` on recorded tapes. -/

/-- **C14.h `seed_int_pure`** — with an integer seed the generated data are a function of (seed, arguments) only:
the store (global numpy state, every generator object the caller holds — i.e. all earlier calls and unrelated
draws) does not occur in the result and is left unchanged. -/
theorem seed_int_pure {G : Type} (P : PRNG G) (st : Store G) (s : Int) (probs : List Rat) (n : Nat) :
    genData P st (.int s) probs n = some (dataOfUniforms probs (drawN P (P.seed s) n).1, st) := by
  simp [genData, toStream_int, genDataOn_fresh]

/-- same for `Experiment.generate_dataset` (all schedules draw successively from the one fresh generator) … -/
theorem seed_int_pure_dataset {G : Type} (P : PRNG G) (st : Store G) (s : Int) (jobs : List (List Rat × Nat)) :
    genDataset P st (.int s) jobs = some ((datasetPure P (P.seed s) jobs).1, st) := by
  simp [genDataset, toStream_int, genDatasetOn_fresh]

/-- … and for `generate_empi_dists_sequence_from_prob_dists` (multinomial draws, schedule-major). -/
theorem seed_int_pure_empis {G : Type} (P : PRNG G) (st : Store G) (s : Int) (jobs : List (List Rat × List Int)) :
    genEmpisSeq P st (.int s) jobs = some ((empisSeqPure P (P.seed s) jobs).1, st) := by
  simp [genEmpisSeq, toStream_int, genEmpisSeqOn_fresh]

/-- **C14.h' `seed_list_entries_pure`** — list-valued seeds (`generate_dataset_from_prob_dists(…, [s₀, s₁, …])`): when every
entry carries an integer seed, entry `i` is the data of a *fresh* generator for `sᵢ` — a function of `(sᵢ, probsᵢ, nᵢ)`
alone, whatever the other entries are (equal seeds included) and whatever the store; the store is unchanged. -/
theorem seed_list_entries_pure {G : Type} (P : PRNG G) (st : Store G) (jobs : List (Int × List Rat × Nat)) :
    genDatasetArgs P st (jobs.map fun j => (SeedArg.int j.1, j.2.1, j.2.2)) =
      some (jobs.map fun j => dataOfUniforms j.2.1 (drawN P (P.seed j.1) j.2.2).1, st) := by
  induction jobs with
  | nil => rfl
  | cons j rest ih =>
    simp only [List.map_cons, genDatasetArgs, seed_int_pure, ih]


/-- anything that is neither `None`, a Python `int` nor a Generator (np.int64, bool, float …) is handed on as it is and
cannot be drawn from: no data (Python: AttributeError at `.random`) -/
theorem seed_other_rejected {G : Type} (P : PRNG G) (st : Store G) (probs : List Rat) (n : Nat) :
    genData P st .other probs n = none := rfl

/-- a counter PRNG on which purity and sharing are distinguishable (state = counter, uniform = (state mod 4)/4) -/
def ctrPRNG : PRNG Nat where
  seed := fun s => s.toNat
  next := fun g => (((g % 4 : Nat) : Int) / 4, g + 1)
  multi := fun g n _ => ([n, 0], g + 1)

/-- two list entries with the same int seed: identical data (a fresh generator each) … -/
example : (genDatasetArgs ctrPRNG ⟨0, []⟩ [(.int 1, [1/2, 1/2], 2), (.int 1, [1/2, 1/2], 2)]).map (·.1) =
    some [[0, 1], [0, 1]] := by decide +kernel
/-- … whereas one shared generator object advances, and the global state is used for `None` -/
example : (genDatasetArgs ctrPRNG ⟨0, [1]⟩ [(.gen 0, [1/2, 1/2], 2), (.gen 0, [1/2, 1/2], 2), (.none, [1/2, 1/2], 2)]).map (·.1) =
    some [[0, 1], [1, 0], [0, 0]] := by decide +kernel
example : (genData ctrPRNG ⟨7, [1]⟩ (.int 2) [1/2, 1/2] 3).map (fun r => (r.1, r.2.glob, r.2.gens)) = some ([1, 1, 0], 7, [1]) := by
  decide +kernel

/-- `datasetPure` of `seed_int_pure_dataset`, written out: schedule `k+1` continues the uniform stream where schedule `k` stopped -/
theorem datasetPure_cons {G : Type} (P : PRNG G) (g : G) (probs : List Rat) (n : Nat) (rest : List (List Rat × Nat)) :
    datasetPure P g ((probs, n) :: rest) =
      (dataOfUniforms probs (drawN P g n).1 :: (datasetPure P (drawN P g n).2 rest).1,
       (datasetPure P (drawN P g n).2 rest).2) := rfl

/-- **C14.i `shared_stream_advances`** — successive calls on one generator object consume consecutive segments of
its stream: two calls asking for `n₁` and `n₂` data return the two halves of what one call for `n₁ + n₂` uniforms
would have produced; the generator object is advanced accordingly, the global state and the other generators are
untouched. (So the two results differ unless the generator's stream repeats.) -/
theorem shared_stream_advances {G : Type} (P : PRNG G) (st : Store G) (k : Nat) (g : G) (probs : List Rat)
    (n1 n2 : Nat) (hk : st.gens[k]? = some g) :
    ∃ d1 d2 st1 st2, genData P st (.gen k) probs n1 = some (d1, st1) ∧
      genData P st1 (.gen k) probs n2 = some (d2, st2) ∧
      d1 ++ d2 = dataOfUniforms probs (drawN P g (n1 + n2)).1 ∧
      st2.gens = st.gens.set k (drawN P g (n1 + n2)).2 ∧ st2.glob = st.glob := by
  have hlt : k < st.gens.length := (List.getElem?_eq_some_iff.1 hk).1
  let g1 := (drawN P g n1).2
  let g2 := (drawN P g1 n2).2
  refine ⟨dataOfUniforms probs (drawN P g n1).1, dataOfUniforms probs (drawN P g1 n2).1,
    { st with gens := st.gens.set k g1 }, { st with gens := (st.gens.set k g1).set k g2 }, ?_, ?_, ?_, ?_, ?_⟩
  · simp [genData, toStream_gen, genDataOn, Stream.get, Stream.put, hk, g1]
  · simp [genData, toStream_gen, genDataOn, Stream.get, Stream.put, hlt, g1, g2]
  · rw [drawN_add]; simp [dataOfUniforms, g1]
  · rw [drawN_add]; simp [g1, g2]
  · rfl

/-- **C14.j `global_stream`** — without seed or generator the global numpy state is the stream: it is used, advanced,
and nothing else changes; re-seeding it (`Experiment.reset_seed_data`) makes the next unseeded call a function of
that seed alone. -/
theorem global_stream {G : Type} (P : PRNG G) (st : Store G) (probs : List Rat) (n : Nat) (reseed : Int → G) (s : Int) :
    genData P st .none probs n =
        some (dataOfUniforms probs (drawN P st.glob n).1, { st with glob := (drawN P st.glob n).2 }) ∧
    genData P (resetSeedData reseed st (some s)) .none probs n =
        some (dataOfUniforms probs (drawN P (reseed s) n).1,
              { st with glob := (drawN P (reseed s) n).2 }) ∧
    resetSeedData reseed st none = st := by
  refine ⟨by simp [genData, toStream_none, genDataOn, Stream.get, Stream.put],
    by simp [genData, toStream_none, genDataOn, Stream.get, Stream.put, resetSeedData], rfl⟩


/-! ## the pipeline: uniforms → data → empirical distributions -/

/-- **C14.k `empi_of_stream_prefix`** — the sampling pipeline end to end (`generate_data_from_prob_dist` after the
uniforms are drawn, then `calc_empi_dist_sequence` with `measurement_num = len(probs)`): for valid sample sizes the run
always succeeds, and the entry for `n` is the `n`-shot empirical distribution of the *first `n` uniforms of the same
stream* — counts of `dataOfUniforms probs (us.take n)` divided by `n` — for every `n` requested, whatever follows. -/
theorem empi_of_stream_prefix (probs : List Rat) (hnn : ∀ p ∈ probs, 0 ≤ p) (hex : ∃ p ∈ probs, 0 < p) (us : List Rat)
    (hus : ∀ u ∈ us, 0 ≤ u) (n0 : Int) (rest : List Int) (hpos : 0 < n0)
    (hinc : Increasing (n0 :: rest)) (hle : ∀ n ∈ n0 :: rest, n ≤ (us.length : Int)) :
    calcEmpiDistSequence probs.length (dataOfUniforms probs us) (n0 :: rest) =
      .ok ((n0 :: rest).map fun n =>
        (n, (countsOf probs.length (dataOfUniforms probs (us.take n.toNat))).map
              fun (c : Nat) => ((c : Int) : Rat) / (n : Rat))) := by
  have hlen : (dataOfUniforms probs us).length = us.length := by simp [dataOfUniforms]
  have hrange : ∀ x ∈ dataOfUniforms probs us, 0 ≤ x ∧ x < (probs.length : Int) := by
    intro x hx
    obtain ⟨i, hi, rfl, _⟩ := (data_valid probs hnn hex us hus).2 x hx
    exact ⟨by omega, by exact_mod_cast hi⟩
  rw [(empi_ok_iff probs.length (dataOfUniforms probs us) n0 rest _ hpos).2
    ⟨⟨by omega, hinc, by rw [hlen]; exact hle, fun x hx => hrange x (List.mem_of_mem_take hx)⟩, rfl⟩]
  congr 1
  apply List.map_congr_left
  intro n _
  simp only [empiEntry, Int.toNat_natCast, dataOfUniforms, List.map_take]

example : calcEmpiDistSequence 3 (dataOfUniforms [1/2, 1/4, 1/4] [0, 3/4, 1/2, 7/8]) [2, 4] =
    .ok [(2, [1/2, 0, 1/2]), (4, [1/4, 1/4, 1/2])] := by decide +kernel



/-! ## the multinomial path (`generate_empi_dist(s)_sequence_from_prob_dist(s)`: Experiment.generate_empi_dist(s)_sequence and the
three entry points of the four tomography classes) -/

theorem validEmpi_def (probs e : List Rat) : ValidEmpi probs e ↔
    (e.length = probs.length ∧ (∀ x ∈ e, 0 ≤ x) ∧ e.sum = 1 ∧ ∀ i : Nat, probs[i]? = some 0 → e[i]? = some 0) := Iff.rfl

/-- **C14.l `genEmpiSeq_valid`** — under the contract `MultiOK` of `multinomial.rvs` (counts per outcome, non-negative, summing
to `n`, zero on zero-probability outcomes; trusted, tested by the oracle) every empirical distribution this path returns, for
positive sample sizes, is `(n, v)` for the requested sizes in order with `v` a vector of one entry per outcome, non-negative,
summing to one and vanishing on outcomes of probability zero — on any stream. NOT claimed (and false): cumulative consistency —
each size is an independent draw. The tomography layer (copy of the experiment, target index, schedule-major consumption,
transposition) is skeleton-matched by the translator and checked by the reference-stream oracle only. -/
theorem genEmpiSeq_valid {G : Type} (P : PRNG G) (hP : MultiOK P) (probs : List Rat) :
    ∀ (ns : List Int) (st : Store G) (s : Stream G) (r : List (Int × List Rat)) (st' : Store G) (s' : Stream G),
      (∀ n ∈ ns, 0 < n) → genEmpiSeqOn P st s probs ns = some (r, st', s') →
      r.map (·.1) = ns ∧ ∀ e ∈ r, ValidEmpi probs e.2 := by
  intro ns st s r st' s' hpos h
  fun_induction genEmpiSeqOn P st s probs ns generalizing r
  case case1 => cases h; simp
  case case2 => cases h
  case case3 => cases h
  case case4 _ _ probs n _ g _ counts g' hm _ _ _ r0 _ _ hrec ih =>
    cases h
    rw [List.forall_mem_cons] at hpos
    obtain ⟨h1, h2⟩ := ih r0 hpos.2 hrec
    have hv := validEmpi_of_counts P hP g n hpos.1 probs
    rw [hm] at hv
    exact ⟨by rw [List.map_cons, h1], List.forall_mem_cons.2 ⟨hv, h2⟩⟩

/-- a sampler that puts all `n` shots on the entries equal to `1`: it meets the clauses of `MultiOK` on vectors with exactly
one entry `1` (the example below), not for every `p`; no instance of `MultiOK` itself is exhibited in this file
(`ctrPRNG.multi` fails `len` for 3 outcomes) -/
def oneOutcomePRNG : PRNG Unit where
  seed := fun _ => ()
  next := fun _ => (0, ())
  multi := fun _ n p => (p.map fun q => if q = 1 then n else 0, ())

example : (genEmpiSeqOn oneOutcomePRNG ⟨(), []⟩ .glob [0, 1, 0] [5, 7]).map (·.1) = some [(5, [0, 1, 0]), (7, [0, 1, 0])] := by
  decide +kernel


/-! ## error branches of `generate_data_from_prob_dist` (executed by driver op `gde`) -/

/-- **C14.m `validateProb_ok_iff`** — `validate_prob_dist(prob_dist, eps)` passes exactly when every entry is non-negative up
to `eps` (`p ≥ 0` or `|p| ≤ eps`) and the sum is within `eps` of one. -/
theorem validateProb_ok_iff (probs : List Rat) (eps : Rat) :
    validateProb probs eps = .ok () ↔
      (∀ p ∈ probs, 0 ≤ p ∨ rabs p ≤ eps) ∧ rabs (probs.foldr (· + ·) 0 - 1) ≤ eps := by
  rw [validateProb, ← firstNegative_none_iff eps probs 0]
  split
  · simp [*]
  · split <;> simp [*]

/-- **C14.m' `validateProb_error_sound`** — the reported entry really is below `−eps`, and it is the first such entry -/
theorem validateProb_error_sound (probs : List Rat) (eps : Rat) (i : Nat)
    (h : validateProb probs eps = .error (.negativeEntry i)) :
    ∃ hi : i < probs.length, probs[i] < 0 ∧ ¬ rabs probs[i] ≤ eps := by
  unfold validateProb at h
  split at h
  · next j hf =>
    cases h
    obtain ⟨k, rfl, hk⟩ := firstNegative_some eps probs 0 _ hf
    simpa only [Nat.zero_add] using hk
  · split at h <;> cases h

/-- **C14.n `genDataE_ok_iff`** — `generate_data_from_prob_dist` returns data exactly when the vector passes validation, the
argument is `None`, a generator the caller holds, or a non-negative Python int, and then the data and the store afterwards are
those of `genData` (so all seed-purity / stream theorems apply). -/
theorem genDataE_ok_iff {G : Type} (P : PRNG G) (st : Store G) (a : SeedArg) (probs : List Rat) (n : Nat) (eps : Rat)
    (d : List Int) (st' : Store G) :
    genDataE P st a probs n eps = (.ok d, st') ↔
      validateProb probs eps = .ok () ∧ a ≠ .other ∧ (∀ s, a = .int s → 0 ≤ s) ∧ genData P st a probs n = some (d, st') := by
  rw [genDataE_eq, ← and_assoc (a := a ≠ _), ← seedErr_eq_none_iff]
  split <;> simp_all

/-- **C14.n' `genDataE_error_draws_nothing`** — on every error (invalid vector, negative seed, a seed that is neither `None`,
an int nor a generator: np.int64, bool, float …) nothing has been drawn: the store after the call is the store before. -/
theorem genDataE_error_draws_nothing {G : Type} (P : PRNG G) (st : Store G) (a : SeedArg) (probs : List Rat) (n : Nat)
    (eps : Rat) (e : GenErr) (st' : Store G) (h : genDataE P st a probs n eps = (.error e, st')) : st' = st := by
  rw [genDataE_eq] at h
  split at h <;> first | exact (Prod.mk.inj h).2.symm | cases h
/-- the order of the checks, on concrete inputs: validation first, then the seed -/
example : (genDataE ctrPRNG ⟨0, [1]⟩ (.int (-1)) [1/2, 1/5] 2 (1/100)).1 = .error .sumNotOne := by decide +kernel
example : (genDataE ctrPRNG ⟨0, [1]⟩ (.int (-1)) [1/2, 1/2] 2 (1/100)).1 = .error .negativeSeed := by decide +kernel
example : (genDataE ctrPRNG ⟨0, [1]⟩ .other [1/2, 1/2] 2 (1/100)).1 = .error .notAStream := by decide +kernel
example : (genDataE ctrPRNG ⟨0, [1]⟩ (.gen 0) [1/2, -1/10, 3/5] 2 (1/100)).1 = .error (.negativeEntry 1) := by decide +kernel
example : (genDataE ctrPRNG ⟨0, [1]⟩ (.gen 0) [1/2, -1/1000, 501/1000] 2 (1/100)).1 = .ok [0, 2] := by decide +kernel


/-! ## `QTomography.reset_seed` / `Experiment.reset_seed_data` (executed by driver op `rseed`) -/

/-- **C14.o `reset_seed_replays`** — the replay mechanism of the global-state path: after `reset_seed()` on an object holding the
seed `s`, after `reset_seed(s')` for ANY integer `s'` (zero included - fix b42e0b1), and again after any further `reset_seed()`,
the next unseeded generation is a function of the seed alone: the data of the stream `reseed s`, whatever was drawn before. -/
theorem reset_seed_replays {G : Type} (P : PRNG G) (reseed : Int → G) (t : TomoSeed G) (probs : List Rat) (n : Nat) (s s' : Int)
    (hs : t.seedData = some s) :
    (genData P (tomoResetSeed reseed t none).store .none probs n).map (·.1) =
        some (dataOfUniforms probs (drawN P (reseed s) n).1) ∧
    (tomoResetSeed reseed t (some s')).seedData = some s' ∧
    (genData P (tomoResetSeed reseed t (some s')).store .none probs n).map (·.1) =
        some (dataOfUniforms probs (drawN P (reseed s') n).1) ∧
    (genData P (tomoResetSeed reseed (tomoResetSeed reseed t (some s')) none).store .none probs n).map (·.1) =
        some (dataOfUniforms probs (drawN P (reseed s') n).1) := by
  simp [tomoResetSeed, expResetSeedData, resetSeedData, hs, genData, toStream_none, genDataOn, Stream.get, Stream.put]

/-- an object built without `seed_data` is not re-seeded by `reset_seed()` (`np.random.seed` is not called for `None`) -/
theorem reset_seed_none_is_noop {G : Type} (reseed : Int → G) (t : TomoSeed G) (h : t.seedData = none) :
    tomoResetSeed reseed t none = t := by
  cases t; simp_all [tomoResetSeed, expResetSeedData, resetSeedData]

/-- history on the counter PRNG: draw, rewind with `reset_seed()`, draw the same again; `reset_seed(0)` switches to seed 0 -/
example : runResets ctrPRNG (fun s => s.toNat) [1/2, 1/2] ⟨some 1, ⟨1, []⟩⟩
    [(none, 2), (some none, 0), (none, 2), (some (some 0), 0), (none, 2), (some none, 0), (none, 1)] =
    some [[0, 1], [0, 1], [0, 0], [0]] := by decide +kernel

end QM.C14
