import QProofs.C02
import Mathlib.Data.Complex.Basic
/-!
# C02 — all representations of one object denote the same operator: property theorems

`K` is any commutative ring with a conjugation (`StarRing`): ℂ, the Gaussian rationals `CRat` on
which the driver executes the very same definitions (instances in QProofs/C02), …  `d`, `n` (number of
basis elements) and all list lengths are arbitrary.  The matrix basis `B` is an argument; the
hypotheses on it are the ones the library itself states for its bases:

* `Orthonormal B` : `np.vdot(B_a, B_b) = tr(B_a^† B_b) = δ_ab`;
* `Complete B`    : `Σ_a B_a[x] conj(B_a[y]) = δ_xy` — *proved* from orthonormality when `n = d²`;
* `HermitianBasis B`.

Conversions that end in `truncate_hs` are stated twice: for the value before truncation (`…Raw`, any star-ring), and
for the EXECUTED functions (`hsOfChoiSparse`, `hsOfChoiDict`, `hsOfChoiLoop`, `toVarFromChoi`, `vecOfDensity`,
`toVarFromDensity`, `toVarFromMatrices`, `hsOfKraus`) on real data whose entries are `0` or at least `eps` in modulus
(`…_executed`, with the counter-instance `hs_choi_hs_executed_needs_threshold`).
The Kraus theorems named `…_exact_kernel` assume EXACT `eigh` / `sqrt` / `abs` (no floating-point output satisfies that:
they describe the algorithm, not the float run); `kraus_roundtrip_residual` is the contract-free version (deviation = Choi
residual, isometrically).
-/
open Matrix
set_option linter.unusedSectionVars false
namespace QM.C02

variable {K : Type} [CommRing K] [StarRing K] {d n : Nat}

/-- alternative implementations agree: the loop `density += coefficient * basis` of
`State.to_density_matrix`, `Povm.matrices`, `Povm.matrix` and the sparse matrix–vector form of
`to_density_matrix_from_vec` / `to_matrices_from_vecs` give the same matrix, `Σ_a v_a B_a`. -/
theorem density_variants_agree (B : Basis K d n) (v : Vec K n) :
    densityLoop B v = densitySparse B v ∧
      ∀ i j, (densitySparse B v).get i j = ∑ a, v.get a * (B.get a).get i j := by
  refine ⟨?_, densitySparse_get B v⟩
  apply Mat.ext'; intro i j
  rw [densityLoop_get, densitySparse_get]

/-- defining formula of the inverse direction: `to_vec_from_density_matrix_with_sparsity`
computes `vec_a = np.vdot(B_a, ρ) = tr(B_a^† ρ)`. -/
theorem vecOfDensity_formula (B : Basis K d n) (rho : Mat K d d) (a : Fin n) :
    (vecOfDensityRaw B rho).get a = vdot (B.get a) rho ∧
      vdot (B.get a) rho = ((ctransp (B.get a)).mul rho).trace :=
  ⟨vecOfDensityRaw_get B rho a, vdot_eq_trace _ rho⟩

/-- round trip vec → density matrix → vec is the identity for every orthonormal family
(any number `n` of basis elements, any `d`). -/
theorem vec_density_vec (B : Basis K d n) (h : Orthonormal B) (v : Vec K n) :
    vecOfDensityRaw B (densitySparse B v) = v ∧ vecOfDensityRaw B (densityLoop B v) = v := by
  have key : vecOfDensityRaw B (densitySparse B v) = v := by
    apply Vec.toV_injective
    rw [toV_vecOfDensityRaw, toV_densitySparse_flat, Matrix.mulVec_mulVec, (orthonormal_iff B).1 h,
      Matrix.one_mulVec]
  exact ⟨key, by rw [(density_variants_agree B v).1]; exact key⟩

/-- round trip matrix → vec → matrix is the identity for a complete family. -/
theorem density_vec_density (B : Basis K d n) (h : Complete B) (rho : Mat K d d) :
    densitySparse B (vecOfDensityRaw B rho) = rho :=
  densitySparse_vecOfDensityRaw B h rho

/-- `d²` orthonormal `d × d` matrices are complete (dimension count); hence for the bases the
library ships orthonormality alone gives both round trips. -/
theorem density_vec_density_of_orthonormal (B : Basis K d (d * d)) (h : Orthonormal B)
    (rho : Mat K d d) : Complete B ∧ densitySparse B (vecOfDensityRaw B rho) = rho :=
  ⟨complete_of_orthonormal B h, density_vec_density B (complete_of_orthonormal B h) rho⟩

/-- linearity of both directions. -/
theorem state_conversions_linear (B : Basis K d n) (c : K) (u v : Vec K n) (r s : Mat K d d) :
    densitySparse B ((u.smul c).add v) = ((densitySparse B u).smul c).add (densitySparse B v) ∧
    vecOfDensityRaw B ((r.smul c).add s) = ((vecOfDensityRaw B r).smul c).add (vecOfDensityRaw B s) := by
  constructor
  · apply flat_injective; apply Vec.toV_injective
    simp only [flat_add, flat_smul, Vec.toV_add, Vec.toV_smul, toV_densitySparse_flat, Matrix.mulVec_add,
      Matrix.mulVec_smul]
  · apply Vec.toV_injective
    simp only [toV_vecOfDensityRaw, flat_add, flat_smul, Vec.toV_add, Vec.toV_smul, Matrix.mulVec_add,
      Matrix.mulVec_smul]

/-- the three implementations of HS → Choi (`to_choi_from_hs`, `_with_dict`, `_with_sparsity`) agree
and equal the defining formula `C = Σ_{αβ} HS_{αβ} B_α ⊗ conj(B_β)`; no hypothesis on the basis
(`0 < d`: `reduce` of an empty list raises). -/
theorem choi_variants_agree [DecidableEq K] (B : Basis K d (d * d)) (hs : Mat K (d * d) (d * d))
    (hd : 0 < d) :
    choiLoop B hs = some (choiSparse B hs) ∧ choiDict B hs = choiSparse B hs ∧
      ∀ i j, (choiSparse B hs).get i j
        = ∑ al, ∑ be, hs.get al be * ((B.get al).get (pdiv i) (pdiv j) * star ((B.get be).get (pmod i) (pmod j))) := by
  refine ⟨choiLoop_eq B hs hd, ?_, fun i j => choiSparse_get B hs i j⟩
  apply Mat.ext'; intro i j
  rw [choiSparse_get, choiDict, Mat.get_ofFn, ← sum_pairs fun p => hs.get p.1 p.2 * bbcEntry B p.1 p.2 i j]
  exact foldl_dict _ _ (fun al be c => hs.get al be * c) fun _ _ => mul_zero _

/-- the plain and the sparse implementation of Choi → HS compute `tr((B_α ⊗ conj B_β)^† C)`
for every basis and every (also non-Hermitian) `C`. -/
theorem hsOfChoi_loop_eq_sparse (B : Basis K d (d * d)) (c : Mat K (d * d) (d * d)) :
    hsOfChoiLoopRaw B c = hsOfChoiSparseRaw B c := by
  apply Mat.ext'; intro al be
  rw [hsOfChoiSparseRaw_eq, unflat_get, vecOfDensityRaw_get, vdot_eq_trace, bbcBasis_get, pdiv_pidx, pmod_pidx]
  exact Mat.get_ofFn _ al be

/-- the dict implementation of Choi → HS (`coefficient * choi[j, i]`, no conjugate) agrees with
the other two **when the basis is Hermitian**. -/
theorem hsOfChoi_dict_eq_sparse [DecidableEq K] (B : Basis K d (d * d)) (hB : HermitianBasis B)
    (c : Mat K (d * d) (d * d)) :
    hsOfChoiDictRaw B c = hsOfChoiSparseRaw B c := by
  apply Mat.ext'; intro al be
  rw [hsOfChoiSparseRaw_get, Finset.sum_comm, hsOfChoiDictRaw, Mat.get_ofFn]
  refine ((foldl_dict _ _ (fun i j e => e * c.get j i) fun _ _ => zero_mul _).trans (sum_pairs _)).trans ?_
  apply Finset.sum_congr rfl; intro i _
  apply Finset.sum_congr rfl; intro j _
  congr 1
  simp only [bbcEntry, conj_eq_star, star_mul', star_star]
  rw [hB al (pdiv i) (pdiv j), hB be (pmod j) (pmod i)]

/-- without Hermiticity the dict implementation is a *different* function: on the (orthonormal, not
Hermitian) computational basis of the 2×2 matrices and `C = E₀₁` it disagrees with the other two. The
property quantifies over Hermitian bases only, so this is a documented hypothesis, not a defect. -/
theorem hsOfChoi_dict_needs_hermitian :
    ∃ (B : Basis CRat 2 (2 * 2)) (c : Mat CRat (2 * 2) (2 * 2)), Orthonormal B ∧
      hsOfChoiDictRaw B c ≠ hsOfChoiSparseRaw B c := by
  refine ⟨compBasis 2 true, eMat 0 1, comp_orthonormal 2, fun h => ?_⟩
  -- the entries at `(0, 2)` are `1` and `0`
  have := congrArg (Mat.get · 0 2) h
  rw [hsOfChoiSparseRaw_eMat] at this
  revert this
  decide +kernel

/-- round trip HS → Choi → HS is the identity for an orthonormal basis (all implementations, before
`truncate_hs`). -/
theorem hs_choi_hs (B : Basis K d (d * d)) (h : Orthonormal B) (hs : Mat K (d * d) (d * d)) :
    hsOfChoiSparseRaw B (choiSparse B hs) = hs ∧ hsOfChoiLoopRaw B (choiSparse B hs) = hs := by
  have key : hsOfChoiSparseRaw B (choiSparse B hs) = hs := by
    rw [hsOfChoiSparseRaw_eq, choiSparse_eq, (vec_density_vec _ (bbcBasis_orthonormal B h) _).1,
      unflat_flat]
  exact ⟨key, by rw [hsOfChoi_loop_eq_sparse]; exact key⟩

/-- round trip Choi → HS → Choi is the identity for an orthonormal basis of `d²` elements. -/
theorem choi_hs_choi (B : Basis K d (d * d)) (h : Orthonormal B) (c : Mat K (d * d) (d * d)) :
    choiSparse B (hsOfChoiSparseRaw B c) = c := by
  rw [choiSparse_eq, hsOfChoiSparseRaw_eq, flat_unflat,
    densitySparse_vecOfDensityRaw _ (complete_of_orthonormal _ (bbcBasis_orthonormal B h))]

/-- both conversions are linear. -/
theorem choi_conversions_linear (B : Basis K d (d * d)) (a : K) (x y : Mat K (d * d) (d * d)) :
    choiSparse B ((x.smul a).add y) = ((choiSparse B x).smul a).add (choiSparse B y) ∧
    hsOfChoiSparseRaw B ((x.smul a).add y)
      = ((hsOfChoiSparseRaw B x).smul a).add (hsOfChoiSparseRaw B y) := by
  constructor
  · simp only [choiSparse_eq, flat_add, flat_smul]
    exact (state_conversions_linear _ a _ _ x y).1
  · apply flat_injective
    simp only [hsOfChoiSparseRaw_eq, flat_add, flat_smul, flat_unflat]
    exact (state_conversions_linear _ a (flat x) (flat y) x y).2

/-! ## variables <-> Choi (DESIGN §5-D3, repaired in /repo 15e40aa) -/

/-- variables ↔ HS with the equality constraint: deleting the first row undoes inserting it. -/
theorem hsToVar_varToHs {n : Nat} (var : Vec K ((n - 1) * n)) : hsToVarEq (varToHsEq var) = var := by
  apply Vec.ext'; intro x
  rw [hsToVarEq, Vec.get_ofFn, varToHsEq, Mat.get_ofFn, dif_neg (Nat.succ_ne_zero _)]
  exact congrArg var.get (pidx_pdiv_pmod x)

/-- `to_var_from_choi ∘ to_choi_from_var = id` for an orthonormal basis, both settings of
`on_para_eq_constraint` (values before `truncate_hs`; see `truncEntry_real`). A body that applies the
forward conversion instead (the former defect) fails this on `B0`, see `forward_is_not_inverse`. -/
theorem toVarFromChoi_roundtrip (B : Basis K d (d * d)) (h : Orthonormal B)
    (v : Vec K ((d * d) * (d * d))) (w : Vec K ((d * d - 1) * (d * d))) :
    toVarFromChoiFreeRaw B (toChoiFromVarFree B v) = v ∧
    toVarFromChoiEqRaw B (toChoiFromVarEq B w) = w := by
  constructor
  · rw [toVarFromChoiFreeRaw, toChoiFromVarFree, (hs_choi_hs B h _).1, flat_unflat]
  · rw [toVarFromChoiEqRaw, toChoiFromVarEq, (hs_choi_hs B h _).1, hsToVar_varToHs]

/-- Hermitian orthonormal basis of the 2×2 matrices with Gaussian-rational entries:
`E₀₀, ((1+i)E₀₁+(1−i)E₁₀)/2, ((1−i)E₀₁+(1+i)E₁₀)/2, E₁₁`. -/
def B0 : Basis CRat 2 (2 * 2) := #v[
  #v[#v[⟨1, 0⟩, ⟨0, 0⟩], #v[⟨0, 0⟩, ⟨0, 0⟩]],
  #v[#v[⟨0, 0⟩, ⟨1/2, 1/2⟩], #v[⟨1/2, -1/2⟩, ⟨0, 0⟩]],
  #v[#v[⟨0, 0⟩, ⟨1/2, -1/2⟩], #v[⟨1/2, 1/2⟩, ⟨0, 0⟩]],
  #v[#v[⟨0, 0⟩, ⟨0, 0⟩], #v[⟨0, 0⟩, ⟨1, 0⟩]]]

theorem B0_orthonormal : Orthonormal B0 := by
  intro a b; revert a b; decide +kernel

theorem B0_hermitian : HermitianBasis B0 := by
  intro a i j; revert a i j; decide +kernel

/-- regression witness for the former defect D3: applying the *forward* conversion a second time is not
the inverse — on the orthonormal Hermitian basis `B0` and the variable vector `e₅` (HS = unit matrix `E₁₁`)
`flat (choiSparse B0 (choiSparse B0 (unflat v))) ≠ v`. -/
theorem forward_is_not_inverse :
    ¬ (∀ v : Vec CRat ((2 * 2) * (2 * 2)), flat (choiSparse B0 (toChoiFromVarFree B0 v)) = v) := by
  intro h
  -- the inverse conversion applied to `h v` makes forward and inverse conversion agree on `unflat v`;
  -- for `v = e₅ = vec E₁₁` their entries at `(0, 3)` are single coefficients of `B0 ⊗ conj B0`: `1/2` and `1`
  have := congrArg (fun u => (hsOfChoiSparseRaw B0 (unflat u)).get 0 3) (h (flat (eMat 1 1)))
  simp only [unflat_flat, (hs_choi_hs B0 B0_orthonormal _).1, toChoiFromVarFree, choiSparse_eMat,
    hsOfChoiSparseRaw_eMat] at this
  revert this
  decide +kernel

/-! ## POVM element access (DESIGN §5-D2, repaired in /repo da605d0) -/

/-- `Povm.matrix(i)` returns `Σ_a vecs[i]_a B_a` for every valid index and raises IndexError otherwise. -/
theorem povmMatrix_ok {d n : Nat} (B : Basis CRat d n) (vecs : List (Vec CRat n)) (i : Nat) :
    (∀ hi : i < vecs.length, povmMatrix B vecs i = .ok (densityLoop B vecs[i])) ∧
    (vecs.length ≤ i → povmMatrix B vecs i = .error .indexError) := by
  constructor
  · intro hi; simp [povmMatrix, hi]
  · intro hi; simp [povmMatrix, List.getElem?_eq_none hi]

/-- the alternative implementation `Povm.matrix_with_sparsity(i)` agrees with `Povm.matrix(i)` on every
index, valid or not (same element, same error). -/
theorem povm_matrix_variants_agree {d n : Nat} (B : Basis CRat d n) (vecs : List (Vec CRat n)) (i : Nat) :
    povmMatrixSparse B vecs i = povmMatrix B vecs i := by
  unfold povmMatrixSparse povmMatrix
  cases vecs[i]? with
  | none => rfl
  | some v => exact congrArg Except.ok (density_variants_agree B v).1.symm

/-- tuple access of a tensor-product POVM: the multi-index is resolved to the **row-major** serial index
(first factor slowest: `(i, j) ↦ i·n₂ + j`, `(i, j, k) ↦ (i·n₂ + j)·n₃ + k`), out-of-range components and
tuples of the wrong length are errors, and `matrix_with_sparsity(tuple) = matrix(tuple)` on every input. -/
theorem povm_tuple_access {d n : Nat} (B : Basis CRat d n) (vecs : List (Vec CRat n)) (lens idx : List Nat) :
    povmMatrixSparseMd B vecs lens idx = povmMatrixMd B vecs lens idx ∧
    (∀ a b i j, i < a → j < b → mdSerial [a, b] [i, j] = .ok (i * b + j)) ∧
    (∀ a b c i j k, i < a → j < b → k < c → mdSerial [a, b, c] [i, j, k] = .ok ((i * b + j) * c + k)) ∧
    (lens.length ≠ idx.length → mdSerial lens idx = .error .lenMismatch) := by
  refine ⟨?_, ?_, ?_, ?_⟩
  · unfold povmMatrixSparseMd povmMatrixMd
    cases mdSerial lens idx with
    | error e => rfl
    | ok s => exact povm_matrix_variants_agree B vecs s
  · intro a b i j hi hj; simp [mdSerial, mdSerialAux, hi, hj]
  · intro a b c i j k hi hj hk; simp [mdSerial, mdSerialAux, hi, hj, hk]
  · intro h; simp [mdSerial, h]

/-- tuple access for ANY number of factors: when every component is in range the serial index is the row-major (Horner)
value `(((i₁·n₂ + i₂)·n₃ + i₃) …)`; an out-of-range component is an IndexError. -/
theorem mdSerial_general (lens idx : List Nat) (hlen : lens.length = idx.length) :
    ((∀ p ∈ lens.zip idx, p.2 < p.1) →
      mdSerial lens idx = .ok ((lens.zip idx).foldl (fun acc p => acc * p.1 + p.2) 0)) ∧
    ((∃ p ∈ lens.zip idx, ¬ p.2 < p.1) → mdSerial lens idx = .error .indexError) := by
  rw [mdSerial, if_neg (not_not.2 hlen), mdSerialAux_eq lens idx 0 hlen]
  exact ⟨fun h => if_pos h, fun ⟨p, hp, hb⟩ => if_neg fun h => hb (h p hp)⟩

/-- `convert_vec` re-expresses the same operator: `Σ_b w_b T_b = Σ_a v_a F_a` when the target
basis is complete. -/
theorem convertVec_same_operator (F T : Basis K d n) (hT : Complete T) (v : Vec K n) :
    densitySparse T (convertVec F T v) = densitySparse F v := by
  apply flat_injective
  apply Vec.toV_injective
  rw [toV_densitySparse_flat, toV_convertVec, toM_transU, toV_densitySparse_flat,
    Matrix.mulVec_mulVec, ← Matrix.mul_assoc, (complete_iff T).1 hT, Matrix.one_mul]

/-- `convert_vec` there and back is the identity (source orthonormal, target complete). -/
theorem convertVec_roundtrip (F T : Basis K d n) (hF : Orthonormal F) (hT : Complete T) (v : Vec K n) :
    convertVec T F (convertVec F T v) = v := by
  rw [convertVec_comp F T F hT, convertVec_self F hF]

/-- `convert_hs` there and back is the identity (source orthonormal, target complete). -/
theorem convertHs_roundtrip (F T : Basis K d n) (hF : Orthonormal F) (hT : Complete T) (hs : Mat K n n) :
    convertHs T F (convertHs F T hs) = hs := by
  rw [convertHs_comp F T F hT, convertHs_self F hF]

/-- `convert_vec` and `convert_hs` are linear. -/
theorem convert_linear (F T : Basis K d n) (c : K) (u v : Vec K n) (x y : Mat K n n) :
    convertVec F T ((u.smul c).add v) = ((convertVec F T u).smul c).add (convertVec F T v) ∧
    convertHs F T ((x.smul c).add y) = ((convertHs F T x).smul c).add (convertHs F T y) := by
  constructor
  · apply Vec.toV_injective
    simp only [toV_convertVec, Vec.toV_add, Vec.toV_smul, Matrix.mulVec_add, Matrix.mulVec_smul]
  · apply Mat.toM_injective
    simp only [toM_convertHs, Mat.toM_add, Mat.toM_smul, Matrix.mul_add, Matrix.add_mul, Matrix.mul_smul,
      Matrix.smul_mul]

/-- computational-basis form (`convert_to_comp_basis("row_major")`): the converted HS matrix is
`Mᵀ · HS · conj(M)` with `M` the stacked flattened basis, and it acts on the row-major flattened
matrix as the map itself: `hs_cb · vec(ρ) = vec(Σ_a (HS · vec_B(ρ))_a B_a)`. -/
theorem comp_basis_action (B : Basis K d (d * d)) (hs : Mat K (d * d) (d * d)) (rho : Mat K d d) :
    (convertHs B (compBasis d true) hs).mulVec (flat rho)
      = flat (densitySparse B (hs.mulVec (vecOfDensityRaw B rho))) := by
  apply Vec.toV_injective
  rw [Mat.toV_mulVec, toM_convertHs_toComp, toV_densitySparse_flat, Mat.toV_mulVec, toV_vecOfDensityRaw]
  simp only [Matrix.mulVec_mulVec, Matrix.mul_assoc]

/-- Kraus → HS (`to_hs_from_kraus_matrices` before truncation) is
`conj(M) · (Σ_K K ⊗ conj K) · Mᵀ`, i.e. the inverse change of basis of the computational-basis
form; converting it back gives `Σ_K K ⊗ conj K` for an orthonormal basis. -/
theorem hsOfKraus_comp (B : Basis K d (d * d)) (h : Orthonormal B) (ks : List (Mat K d d)) :
    convertHs B (compBasis d true) (hsOfKrausRaw B ks) = krausTensorSum ks := by
  unfold hsOfKrausRaw
  exact convertHs_roundtrip (compBasis d true) B (comp_orthonormal d) (complete_of_orthonormal B h) _

/-- for **every** basis the Choi matrix is the index reshuffle `(i₁i₂),(j₁j₂) ↦ (i₁j₁),(i₂j₂)` of the HS matrix
expressed in the row-major computational basis (the relation between `to_choi_*` and
`convert_to_comp_basis`). -/
theorem choi_eq_reshuffled_comp (B : Basis K d (d * d)) (hs : Mat K (d * d) (d * d)) (i j : Fin (d * d)) :
    (choiSparse B hs).get i j
      = (convertHs B (compBasis d true) hs).get (pidx (pdiv i) (pdiv j)) (pidx (pmod i) (pmod j)) := by
  rw [choiSparse_eq_reshuffle, ← toM_convertHs_toComp]; rfl

/-- defining formula through Kraus operators: for an orthonormal basis the Choi matrix of the HS matrix
built from Kraus operators is `Σ_K |K⟫⟪K|` with `|K⟫` the row-major flattening. -/
theorem choi_of_kraus (B : Basis K d (d * d)) (h : Orthonormal B) (ks : List (Mat K d d)) (i j : Fin (d * d)) :
    (choiSparse B (hsOfKrausRaw B ks)).get i j
      = (ks.map fun k => (flat k).get i * star ((flat k).get j)).sum := by
  rw [choi_eq_reshuffled_comp, hsOfKraus_comp B h, krausTensorSum_get]
  simp

theorem choiSparse_hsOfKrausRaw (B : Basis K d (d * d)) (h : Orthonormal B) (ks : List (Mat K d d)) :
    choiSparse B (hsOfKrausRaw B ks) = choiOfKraus ks := by
  apply Mat.ext'; intro i j
  rw [choi_of_kraus B h, choiOfKraus, Mat.get_ofFn]

theorem hsOfKrausRaw_eq (B : Basis K d (d * d)) (h : Orthonormal B) (ks : List (Mat K d d)) :
    hsOfKrausRaw B ks = hsOfChoiSparseRaw B (choiOfKraus ks) := by
  rw [← choiSparse_hsOfKrausRaw B h, (hs_choi_hs B h _).1]

theorem hsOfKrausRaw_of_choi (B : Basis K d (d * d)) (h : Orthonormal B) (hs : Mat K (d * d) (d * d))
    (ks : List (Mat K d d)) (e : choiOfKraus ks = choiSparse B hs) : hsOfKrausRaw B ks = hs := by
  rw [hsOfKrausRaw_eq B h, e, (hs_choi_hs B h hs).1]

/-- defining formula of Kraus → HS: for an orthonormal basis the HS matrix of `to_hs_from_kraus_matrices`
represents the channel `ρ ↦ Σ_K K ρ K^†` (coefficients in, coefficients out). -/
theorem kraus_hs_action (B : Basis K d (d * d)) (h : Orthonormal B) (ks : List (Mat K d d)) (rho : Mat K d d) :
    densitySparse B ((hsOfKrausRaw B ks).mulVec (vecOfDensityRaw B rho)) = krausApply ks rho := by
  apply flat_injective
  rw [← comp_basis_action, hsOfKraus_comp B h, krausTensorSum_action]

/-- process-matrix formula: for **every** basis `to_process_matrix_from_hs`
(`χ_{αβ} = tr((E_α^† ⊗ E_β^T) HS_cb)`) equals the Choi matrix; hence (orthonormal basis) for a map given by
Kraus operators `χ = Σ_K k k^†` with `k` the computational-basis coefficients of `K`, i.e.
`Λ(ρ) = Σ_{αβ} χ_{αβ} E_α ρ E_β^†`. -/
theorem processMatrix_eq_choi (B : Basis K d (d * d)) (hs : Mat K (d * d) (d * d)) :
    processMatrix B hs = choiSparse B hs := by
  apply Mat.ext'; intro al be
  rw [choi_eq_reshuffled_comp]
  simp only [processMatrix, Mat.get_ofFn, compBasis, Vec.get_ofFn, if_true, ctransp_eMat, transpose_eMat, kron_eMat,
    trace_eMat_mul]

theorem processMatrix_of_kraus (B : Basis K d (d * d)) (h : Orthonormal B) (ks : List (Mat K d d))
    (al be : Fin (d * d)) :
    (processMatrix B (hsOfKrausRaw B ks)).get al be
      = (ks.map fun k => k.get (pdiv al) (pmod al) * star (k.get (pdiv be) (pmod be))).sum := by
  rw [processMatrix_eq_choi, choi_of_kraus B h]
  simp

/-- row- versus column-major computational basis: the column-major basis is the row-major one
permuted by the transpose permutation `σ(i·d+j) = j·d+i`, the column-major HS matrix is the row-major
one with rows and columns permuted by `σ`, and it acts on the **column-major** flattening
(`flatten('F')`) as the map itself. -/
theorem comp_basis_col_eq_row_permuted (B : Basis K d (d * d)) (hs : Mat K (d * d) (d * d))
    (rho : Mat K d d) :
    (∀ x, (compBasis d false : Basis K d (d * d)).get x = (compBasis d true : Basis K d (d * d)).get (swapIdx x)) ∧
    (∀ x y, (convertHs B (compBasis d false) hs).get x y
        = (convertHs B (compBasis d true) hs).get (swapIdx x) (swapIdx y)) ∧
    (convertHs B (compBasis d false) hs).mulVec (flatCol rho)
      = flatCol (densitySparse B (hs.mulVec (vecOfDensityRaw B rho))) := by
  have h2 :=
    convertHs_reindex B (compBasis d true) (compBasis d false) swapIdx (compBasis_col_get d) hs
  refine ⟨compBasis_col_get d, h2, ?_⟩
  apply Vec.ext'; intro x
  rw [flatCol_get, ← comp_basis_action]
  simp only [Mat.mulVec, Vec.get_ofFn, fsum_eq_sum, h2, flatCol_get]
  exact sum_swapIdx (fun y => (convertHs B (compBasis d true) hs).get (swapIdx x) y * (flat rho).get y)

/-- HS → Kraus → HS, gauge-free form (**partial**): for an orthonormal basis, *any* list of operators whose
`Σ_K |K⟫⟪K|` equals the Choi matrix of `hs` (this is what `to_kraus_matrices_from_hs` builds from numpy's
`eigh`: `K_e = sqrt(λ_e)·unvec(v_e)` with `C = Σ_e λ_e v_e v_e^†`; phases, order and the choice of eigenvectors
do not matter) is mapped back to `hs` by `to_hs_from_kraus_matrices`.
That the executable `krausRaw` / `krausFull` (zero-eigenvalue filter, stable descending sort, phase convention)
produce such a list holds only under the exact contract of `eigh` / `sqrt` / `abs`: `kraus_roundtrip_exact_kernel`,
`kraus_full_roundtrip_exact_kernel`; without a contract see `kraus_roundtrip_residual`. -/
theorem kraus_roundtrip_partial (B : Basis K d (d * d)) (h : Orthonormal B) (hs : Mat K (d * d) (d * d))
    (ks : List (Mat K d d))
    (hk : ∀ i j, (choiSparse B hs).get i j = (ks.map fun k => (flat k).get i * star ((flat k).get j)).sum) :
    hsOfKrausRaw B ks = hs :=
  hsOfKrausRaw_of_choi B h hs ks (Mat.ext' fun i j => by rw [hk, choiOfKraus, Mat.get_ofFn])

/-- HS → Kraus → HS as a theorem about the executable `krausRaw` (zero-eigenvalue filter, stable descending
sort, scaling by `sqrt`), **under the explicit contract of numpy's kernels only**:
* `hspec`: the eigenpairs handed in reproduce the Choi matrix, `C = Σ_e λ_e v_e v_e^†` (orthonormality of
  the eigenvectors is *not* needed);
* `hsqrt`: `sqrtVal² = val` on the eigenvalues that pass the filter;
* `hzero`: eigenvalues inside the zero filter (`|λ| ≤ atolSettings`) are exactly 0 (exact arithmetic).
Then for a map that passes the CP verdict, `to_hs_from_kraus_matrices(to_kraus_matrices_from_hs(hs)) = hs`
(before `truncate_hs`).  `krausRaw` is the list before the phase convention of step 3; the complete function,
phase convention included, is `krausFull` / `kraus_full_roundtrip_exact_kernel` below. -/
theorem kraus_roundtrip_exact_kernel {d : Nat} (B : Basis CRat d (d * d)) (h : Orthonormal B)
    (hs : Mat CRat (d * d) (d * d)) (eigs : List (EigPair d)) (atol atolS : Rat)
    (hcp : isCp (choiSparse B hs) eigs atol = true)
    (hspec : ∀ i j, (choiSparse B hs).get i j
      = (eigs.map fun e => CRat.ofRat e.val * (e.vec.get i * conj (e.vec.get j))).sum)
    (hsqrt : ∀ e ∈ eigs, closeZero e.val atolS = false → e.sqrtVal * e.sqrtVal = e.val)
    (hzero : ∀ e ∈ eigs, closeZero e.val atolS = true → e.val = 0) :
    hsOfKrausRaw B (krausRaw B hs eigs atol atolS) = hs :=
  hsOfKrausRaw_of_choi B h hs _ (choiOfKraus_krausRaw B hs eigs atol atolS hcp ⟨hspec, hsqrt, hzero⟩)

/-- a map that fails the CP verdict has no Kraus operators (`[]`). -/
theorem kraus_empty_of_not_cp {d : Nat} (B : Basis CRat d (d * d)) (hs : Mat CRat (d * d) (d * d))
    (eigs : List (EigPair d)) (atol atolS : Rat) (hcp : isCp (choiSparse B hs) eigs atol = false) :
    krausRaw B hs eigs atol atolS = [] := by
  simp [krausRaw, hcp]

/-- exact behaviour of `truncate_hs` on one entry: it raises iff the imaginary part is non-zero and
not below the threshold; otherwise it returns the real part, or 0 when that is below the threshold. -/
theorem truncEntry_spec (eps : Rat) (z : CRat) :
    (truncEntry eps z = .error .imagNonZero ↔ (¬ rabs z.im < eps ∧ z.im ≠ 0)) ∧
    (∀ r, truncEntry eps z = .ok r → (r = z.re ∧ ¬ rabs z.re < eps) ∨ (r = 0 ∧ rabs z.re < eps)) := by
  rw [truncEntry_eq]
  by_cases h : rabs z.im < eps ∨ z.im = 0
  · rw [if_pos h]
    refine ⟨iff_of_false (fun h' => by cases h') fun h' => h.elim h'.1 h'.2, fun r hr => ?_⟩
    cases hr
    exact cut_cases eps z.re
  · rw [if_neg h]
    exact ⟨iff_of_true rfl (not_or.1 h), fun r hr => by cases hr⟩

/-- a matrix with real entries is never rejected, and entries at least `eps` in modulus are returned
unchanged (the list version is `truncList_ofRat`; the executed round trips are in the section "the EXECUTED conversions"). -/
theorem truncEntry_real (eps : Rat) (x : Rat) (hx : ¬ rabs x < eps) :
    truncEntry eps ⟨x, 0⟩ = .ok x := by
  simp [truncEntry, hx]

/-- `to_vec_from_density_matrix_with_sparsity` / `to_vec_from_matrix_with_sparsity` as executed: the call is
**accepted iff** every complex coefficient `c_a = vdot(B_a, ρ)` has imaginary part below the threshold or
exactly zero; otherwise it raises, and the only error is the "imaginary parts" ValueError. -/
theorem vecOfDensity_accepts_iff {d n : Nat} (eps : Rat) (B : Basis CRat d n) (rho : Mat CRat d d) :
    ((∃ r, vecOfDensity eps B rho = .ok r) ↔
      ∀ a, rabs ((vecOfDensityRaw B rho).get a).im < eps ∨ ((vecOfDensityRaw B rho).get a).im = 0) ∧
    (∀ e, vecOfDensity eps B rho = .error e → e = .imagNonZero) := by
  unfold vecOfDensity
  exact ⟨(truncList_isOk_iff eps _).trans (forall_mem_toList _ _), truncList_error eps _⟩

/-- accepted ⇒ the returned real vector is the coefficient vector up to the threshold: entry `a` is
`Re c_a`, or `0` when `|Re c_a| < eps` (fluctuation cut), and `|Im c_a| < eps` or `Im c_a = 0`. -/
theorem vecOfDensity_accepted_coeffs {d n : Nat} (eps : Rat) (B : Basis CRat d n) (rho : Mat CRat d d)
    (r : List Rat) (h : vecOfDensity eps B rho = .ok r) :
    r.length = n ∧ ∀ (a : Fin n) (ha : a.val < r.length),
      let c := (vecOfDensityRaw B rho).get a
      (rabs c.im < eps ∨ c.im = 0) ∧ ((r[a.val] = c.re ∧ ¬ rabs c.re < eps) ∨ (r[a.val] = 0 ∧ rabs c.re < eps)) := by
  obtain ⟨hg, rfl⟩ := truncList_ok eps _ r h
  refine ⟨by simp, fun a ha => ⟨(forall_mem_toList _ _).1 hg a, ?_⟩⟩
  rw [List.getElem_map]
  exact cut_cases eps _

/-- accepted with threshold 0 ⇒ **the result rebuilds the input**: the complex coefficient vector is exactly the
returned real vector, and for a complete basis `Σ_a r_a B_a = ρ`. -/
theorem vecOfDensity_accepted_rebuilds {d n : Nat} (B : Basis CRat d n) (hC : Complete B) (rho : Mat CRat d d)
    (r : List Rat) (h : vecOfDensity 0 B rho = .ok r) :
    ∃ v : Vec CRat n, (∀ (a : Fin n) (ha : a.val < r.length), v.get a = CRat.ofRat r[a.val]) ∧
      densitySparse B v = rho := by
  refine ⟨vecOfDensityRaw B rho, fun a ha => ?_, density_vec_density B hC rho⟩
  obtain ⟨him, hre⟩ := (vecOfDensity_accepted_coeffs 0 B rho r h).2 a ha
  obtain ⟨h', _⟩ := hre.resolve_right fun h => rabs_not_lt_zero _ h.2
  exact CRat.ext' h'.symm (him.resolve_left (rabs_not_lt_zero _))

/-- a Hermitian matrix is never rejected (Hermitian basis, every threshold): its coefficients are real. -/
theorem vecOfDensity_hermitian_accepted {d n : Nat} (eps : Rat) (B : Basis CRat d n) (hB : HermitianBasis B)
    (rho : Mat CRat d d) (hr : IsHermitianMat rho) : ∃ r, vecOfDensity eps B rho = .ok r := by
  rw [(vecOfDensity_accepts_iff eps B rho).1]
  intro a
  exact Or.inr ((CRat.star_eq_iff _).1 (coeff_real_of_hermitian B hB rho hr a))

/-- **a non-Hermitian matrix is rejected, not converted into some other operator** (complete Hermitian basis,
threshold 0; with a threshold `eps` exactly the inputs with some `|Im c_a| ≥ eps` are rejected, see
`vecOfDensity_accepts_iff`). -/
theorem vecOfDensity_nonhermitian_rejected {d n : Nat} (B : Basis CRat d n) (hB : HermitianBasis B)
    (hC : Complete B) (rho : Mat CRat d d) (hr : ¬ IsHermitianMat rho) :
    vecOfDensity 0 B rho = .error .imagNonZero := by
  cases h : vecOfDensity 0 B rho with
  | error e => rw [(vecOfDensity_accepts_iff 0 B rho).2 e h]
  | ok r =>
    refine absurd (hermitian_of_coeff_real B hB hC rho fun a => ?_) hr
    exact (CRat.star_eq_iff _).2
      (((vecOfDensity_accepts_iff 0 B rho).1.1 ⟨r, h⟩ a).resolve_left (rabs_not_lt_zero _))

/-- the same guard in `to_hs_from_choi_with_sparsity` / `_with_dict` as executed: accepted iff every entry of
the raw complex HS matrix has imaginary part below the threshold or zero; the only error is the ValueError. -/
theorem hsOfChoi_accepts_iff {d : Nat} (eps : Rat) (B : Basis CRat d (d * d)) (c : Mat CRat (d * d) (d * d)) :
    ((∃ r, hsOfChoiSparse eps B c = .ok r) ↔
      ∀ z ∈ matList (hsOfChoiSparseRaw B c), rabs z.im < eps ∨ z.im = 0) ∧
    ((∃ r, hsOfChoiDict eps B c = .ok r) ↔
      ∀ z ∈ matList (hsOfChoiDictRaw B c), rabs z.im < eps ∨ z.im = 0) ∧
    (∀ e, hsOfChoiSparse eps B c = .error e ∨ hsOfChoiDict eps B c = .error e → e = .imagNonZero) := by
  refine ⟨truncList_isOk_iff eps _, truncList_isOk_iff eps _, ?_⟩
  rintro e (h | h) <;> exact truncList_error eps _ e h

/-- **HS → Kraus preserves the channel** (∀ d): under the explicit kernel contract `EighContract`, for a map
that passes the CP verdict, the operators `K_e` returned by the executable `krausRaw` satisfy
`Σ_e K_e ρ K_e^† = Λ(ρ)` for every matrix `ρ`, where `Λ` is the map denoted by `hs`
(coefficients of `ρ` in `B`, multiplied by `hs`, re-expanded in `B`); moreover Kraus → HS → Choi returns the
Choi matrix of `hs`, and Kraus → HS returns `hs`. -/
theorem kraus_channel_preserved_exact_kernel {d : Nat} (B : Basis CRat d (d * d)) (h : Orthonormal B)
    (hs : Mat CRat (d * d) (d * d)) (eigs : List (EigPair d)) (atol atolS : Rat)
    (hcp : isCp (choiSparse B hs) eigs atol = true) (hc : EighContract B hs eigs atolS) (rho : Mat CRat d d) :
    krausApply (krausRaw B hs eigs atol atolS) rho = densitySparse B (hs.mulVec (vecOfDensityRaw B rho)) ∧
    choiSparse B (hsOfKrausRaw B (krausRaw B hs eigs atol atolS)) = choiSparse B hs ∧
    hsOfKrausRaw B (krausRaw B hs eigs atol atolS) = hs := by
  have hrt := hsOfKrausRaw_of_choi B h hs _ (choiOfKraus_krausRaw B hs eigs atol atolS hcp hc)
  refine ⟨?_, by rw [hrt], hrt⟩
  rw [← kraus_hs_action B h, hrt]

/-- **the complete `to_kraus_matrices_from_hs`** (`krausFull`: CP verdict, zero filter, stable descending sort,
`sqrt` scaling AND the phase convention of step 3 — first non-zero entry made non-negative in numpy's complex
order) under the explicit contracts of numpy's `eigh`, `sqrt` (`EighContract`) and `abs` (`AbsContract`):
Kraus → HS returns `hs`, and the returned operators act as the channel denoted by `hs`. -/
theorem kraus_full_roundtrip_exact_kernel {d : Nat} (B : Basis CRat d (d * d)) (h : Orthonormal B)
    (hs : Mat CRat (d * d) (d * d)) (eigs : List (EigPair d)) (atol atolS : Rat)
    (hcp : isCp (choiSparse B hs) eigs atol = true) (hc : EighContract B hs eigs atolS)
    (habs : AbsContract eigs) (rho : Mat CRat d d) :
    hsOfKrausRaw B (krausFull B hs eigs atol atolS) = hs ∧
    krausApply (krausFull B hs eigs atol atolS) rho = densitySparse B (hs.mulVec (vecOfDensityRaw B rho)) := by
  have hrt := hsOfKrausRaw_of_choi B h hs _
    ((choiOfKraus_krausFull B hs eigs atol atolS habs).trans (choiOfKraus_krausRaw B hs eigs atol atolS hcp hc))
  exact ⟨hrt, by rw [← kraus_hs_action B h, hrt]⟩

/-- the phase convention of step 3 (each operator multiplied by a unit-modulus scalar) does not change
`Σ K ⊗ conj K`, hence neither the HS matrix nor the channel: Kraus-equivalence. -/
theorem kraus_phase_invariant (B : Basis K d (d * d)) (ps : List K) (ks : List (Mat K d d))
    (hp : ∀ p ∈ ps, p * star p = 1) (hlen : ps.length = ks.length) :
    krausTensorSum (phased ps ks) = krausTensorSum ks ∧ hsOfKrausRaw B (phased ps ks) = hsOfKrausRaw B ks := by
  have e : krausTensorSum (phased ps ks) = krausTensorSum ks := by
    apply Mat.ext'; intro x y
    rw [krausTensorSum_get, krausTensorSum_get, phased_sum ps ks hp hlen]
  exact ⟨e, by unfold hsOfKrausRaw; rw [e]⟩

/-! ## the EXECUTED conversions (through `truncate_hs`) on real data

The round trips above are about the values before `truncate_hs` (`…Raw`).  The functions the driver executes — and the
library's — end with `truncate_hs`, whose fluctuation cut maps every entry with `0 < |x| < eps` to `0`.  So the executed round
trips hold exactly on data whose entries are `0` or at least `eps` in modulus (hypothesis `hbig`), and FAIL otherwise
(`hs_choi_hs_executed_needs_threshold`). -/

/-- executed HS → Choi → HS, all three implementations: sparse and dict (Hermitian basis) through `truncate_hs`, the plain
loop through `.real`. -/
theorem hs_choi_hs_executed {d : Nat} (eps : Rat) (B : Basis CRat d (d * d)) (h : Orthonormal B)
    (hs : Mat Rat (d * d) (d * d)) (hbig : ∀ x ∈ matList hs, x = 0 ∨ ¬ rabs x < eps) :
    hsOfChoiSparse eps B (choiSparse B (ofRatMat hs)) = .ok (matList hs) ∧
    (HermitianBasis B → hsOfChoiDict eps B (choiSparse B (ofRatMat hs)) = .ok (matList hs)) ∧
    hsOfChoiLoop B (choiSparse B (ofRatMat hs)) = matList hs := by
  refine ⟨?_, ?_, ?_⟩
  · unfold hsOfChoiSparse
    rw [(hs_choi_hs B h _).1, truncList_ofRatMat eps _ hbig]
  · intro hB
    unfold hsOfChoiDict
    rw [hsOfChoi_dict_eq_sparse B hB, (hs_choi_hs B h _).1, truncList_ofRatMat eps _ hbig]
  · unfold hsOfChoiLoop
    rw [(hs_choi_hs B h _).2, matList_ofRatMat, realList_map_ofRat]

/-- the hypothesis `hbig` cannot be dropped: on the orthonormal Hermitian basis `B0`, with threshold `1/2`, the HS matrix with
the single entry `1/4` does NOT come back (the fluctuation cut zeroes it). -/
theorem hs_choi_hs_executed_needs_threshold :
    ∃ (hs : Mat Rat (2 * 2) (2 * 2)), hsOfChoiSparse (1 / 2) B0 (choiSparse B0 (ofRatMat hs)) ≠ .ok (matList hs) := by
  refine ⟨Mat.ofFn fun i j => if i.val = 1 ∧ j.val = 2 then 1 / 4 else 0, ?_⟩
  rw [hsOfChoiSparse, (hs_choi_hs B0 B0_orthonormal _).1, matList_ofRatMat]
  decide +kernel

/-- the three executed Choi → HS implementations on ANY input: whenever the guarded variants accept, each returned entry is
the plain loop's entry (`.real`, no guard), or `0` where that entry is below the threshold.  (On inputs the guard rejects
the loop variant still returns the real part: the variants agree on accepted inputs only.) -/
theorem hsOfChoi_executed_agree {d : Nat} (eps : Rat) (B : Basis CRat d (d * d)) (c : Mat CRat (d * d) (d * d))
    (r : List Rat) (h : hsOfChoiSparse eps B c = .ok r) :
    r.length = (hsOfChoiLoop B c).length ∧
    ∀ (k : Nat) (h1 : k < r.length) (h2 : k < (hsOfChoiLoop B c).length),
      r[k] = (hsOfChoiLoop B c)[k] ∨ (r[k] = 0 ∧ rabs (hsOfChoiLoop B c)[k] < eps) := by
  obtain ⟨_, rfl⟩ := truncList_ok eps _ r h
  simp only [hsOfChoiLoop, hsOfChoi_loop_eq_sparse, realList, List.length_map, List.getElem_map, true_and]
  exact fun k _ _ => (cut_cases eps _).imp_left And.left

/-- executed variables → Choi → variables (`to_var_from_choi ∘ to_choi_from_var`, the repaired D3 call site), both settings
of `on_para_eq_constraint`; with the flag on, `truncate_hs` also sees the inserted row `(1, 0, …)`, hence `eps ≤ 1`. -/
theorem toVarFromChoi_executed {d : Nat} (eps : Rat) (B : Basis CRat d (d * d)) (h : Orthonormal B)
    (v : Vec Rat ((d * d) * (d * d))) (w : Vec Rat ((d * d - 1) * (d * d)))
    (hv : ∀ x ∈ v.toList, x = 0 ∨ ¬ rabs x < eps) (hw : ∀ x ∈ w.toList, x = 0 ∨ ¬ rabs x < eps)
    (heps : ¬ rabs (1 : Rat) < eps) :
    toVarFromChoi eps B (toChoiFromVarFree B (ofRatVec v)) false = .ok v.toList ∧
    toVarFromChoi eps B (toChoiFromVarEq B (ofRatVec w)) true = .ok w.toList := by
  constructor
  · have e : matList (unflat v : Mat Rat (d * d) (d * d)) = v.toList := by rw [matList, flat_unflat]
    rw [toVarFromChoi, ← hsOfChoiSparse, toChoiFromVarFree, unflat_ofRatVec,
      (hs_choi_hs_executed eps B h _ (by rwa [e])).1, e]
    rfl
  · rw [toVarFromChoi, ← hsOfChoiSparse, toChoiFromVarEq, varToHsEq_ofRat, (hs_choi_hs_executed eps B h _ ?_).1]
    · exact congrArg Except.ok ((matList_drop_eq _).trans (congrArg _ (hsToVar_varToHs w)))
    · refine (forall_mem_toList _ _).2 fun a => ?_
      simp only [flat_get, varToHsEq, Mat.get_ofFn]
      split
      · split
        · exact Or.inr heps
        · exact Or.inl rfl
      · exact (forall_mem_toList _ _).1 hw _

/-- executed vec → matrix → vec for states / POVM elements, and `to_var_from_density_matrix` with both flags
(`np.delete(vec, 0)` when the flag is on). -/
theorem vec_density_vec_executed {d n : Nat} (eps : Rat) (B : Basis CRat d n) (h : Orthonormal B) (v : Vec Rat n)
    (hv : ∀ x ∈ v.toList, x = 0 ∨ ¬ rabs x < eps) :
    vecOfDensity eps B (densitySparse B (ofRatVec v)) = .ok v.toList ∧
    toVarFromDensity eps B (densitySparse B (ofRatVec v)) false = .ok v.toList ∧
    toVarFromDensity eps B (densitySparse B (ofRatVec v)) true = .ok (v.toList.drop 1) := by
  have e : vecOfDensity eps B (densitySparse B (ofRatVec v)) = .ok v.toList := by
    unfold vecOfDensity
    rw [(vec_density_vec B h _).1, ofRatVec, toList_ofFn_comp, truncList_ofRat eps _ hv]
  refine ⟨e, ?_, ?_⟩ <;> simp [toVarFromDensity, e, bind, Except.bind, pure, Except.pure]

/-- executed `to_var_from_matrices ∘ to_matrices_from_vecs`: one `truncate_hs` per element, the last element dropped when
`on_para_eq_constraint`, then stacked. -/
theorem toVarFromMatrices_executed {d n : Nat} (eps : Rat) (B : Basis CRat d n) (h : Orthonormal B) (vs : List (Vec Rat n))
    (hv : ∀ v ∈ vs, ∀ x ∈ v.toList, x = 0 ∨ ¬ rabs x < eps) (onEq : Bool) :
    toVarFromMatrices eps B (vs.map fun v => densitySparse B (ofRatVec v)) onEq
      = .ok (((if onEq then vs.dropLast else vs).map fun v => v.toList).flatMap id) := by
  rw [toVarFromMatrices, mapM_map_eq_ok _ _ (fun v => v.toList) vs fun v hv' =>
    (vec_density_vec_executed eps B h v (hv v hv')).1]
  cases onEq <;> simp [bind, Except.bind, pure, Except.pure, List.map_dropLast]

/-- executed Kraus → HS: when the untruncated HS matrix is the real matrix `hs` (entries 0 or ≥ eps), the executed
`to_hs_from_kraus_matrices` returns it; in particular (exact kernels) for the list produced by the complete
`to_kraus_matrices_from_hs`: HS → Kraus → HS as executed. -/
theorem hsOfKraus_executed {d : Nat} (eps : Rat) (B : Basis CRat d (d * d)) (ks : List (Mat CRat d d))
    (hs : Mat Rat (d * d) (d * d)) (hne : ks ≠ []) (hraw : hsOfKrausRaw B ks = ofRatMat hs)
    (hbig : ∀ x ∈ matList hs, x = 0 ∨ ¬ rabs x < eps) :
    hsOfKraus eps B ks = .ok (matList hs) := by
  rw [hsOfKraus_eq eps B ks hne, hraw, truncList_ofRatMat eps _ hbig]

theorem hs_kraus_hs_executed_exact_kernel {d : Nat} (eps : Rat) (B : Basis CRat d (d * d)) (h : Orthonormal B)
    (hs : Mat Rat (d * d) (d * d)) (eigs : List (EigPair d)) (atol atolS : Rat)
    (hcp : isCp (choiSparse B (ofRatMat hs)) eigs atol = true) (hc : EighContract B (ofRatMat hs) eigs atolS)
    (habs : AbsContract eigs) (hne : krausFull B (ofRatMat hs) eigs atol atolS ≠ [])
    (hbig : ∀ x ∈ matList hs, x = 0 ∨ ¬ rabs x < eps) :
    hsOfKraus eps B (krausFull B (ofRatMat hs) eigs atol atolS) = .ok (matList hs) :=
  hsOfKraus_executed eps B _ hs hne
    (kraus_full_roundtrip_exact_kernel B h (ofRatMat hs) eigs atol atolS hcp hc habs (Mat.zero)).1 hbig

/-! ## Kraus round trip without kernel contracts: the deviation IS the Choi residual -/

/-- for ANY list of operators (e.g. what floating-point `eigh` / `sqrt` / `abs` actually produce — no exactness assumed):
Kraus → HS is Choi → HS of `Σ_K |K⟫⟪K|`; hence the deviation of HS → Kraus → HS from `hs` is the image of the Choi residual
`R = Σ_K |K⟫⟪K| − C(hs)` under the (norm-preserving) Choi → HS map: `‖HS(Kraus) − hs‖_F = ‖R‖_F` exactly.  `R` collects the
eigh residual, the dropped eigenvalues `|λ| ≤ atol`, the rounding of `sqrt` and a non-unit phase modulus.  With exact kernels
`R = 0` (`kraus_full_roundtrip_exact_kernel`). -/
theorem kraus_roundtrip_residual (B : Basis K d (d * d)) (h : Orthonormal B) (hs : Mat K (d * d) (d * d))
    (ks : List (Mat K d d)) :
    hsOfKrausRaw B ks = hsOfChoiSparseRaw B (choiOfKraus ks) ∧
    (hsOfKrausRaw B ks).sub hs = hsOfChoiSparseRaw B ((choiOfKraus ks).sub (choiSparse B hs)) ∧
    frobSq ((hsOfKrausRaw B ks).sub hs) = frobSq ((choiOfKraus ks).sub (choiSparse B hs)) := by
  have e1 := hsOfKrausRaw_eq B h ks
  have e2 := hsOfChoiSparseRaw_sub B (choiOfKraus ks) (choiSparse B hs)
  rw [← e1, (hs_choi_hs B h hs).1] at e2
  exact ⟨e1, e2.symm, by rw [← e2, frobSq_hsOfChoi B h]⟩

/-- `convert_hs` / `convert_vec` compose: going `F → T → S` is going `F → S` when the intermediate basis is complete
(e.g. basis → computational basis → another basis). -/
theorem convert_comp {n : Nat} (F T S : Basis K d n) (hT : Complete T) (hs : Mat K n n) (v : Vec K n) :
    convertHs T S (convertHs F T hs) = convertHs F S hs ∧ convertVec T S (convertVec F T v) = convertVec F S v :=
  ⟨convertHs_comp F T S hT hs, convertVec_comp F T S hT v⟩

/-- the COLUMN-major computational basis is orthonormal too, so `convert_to_comp_basis("column_major")` followed by
`convert_hs(·, comp_basis("column_major"), basis)` is the identity for an orthonormal basis (as for row-major). -/
theorem comp_col_roundtrip (B : Basis K d (d * d)) (h : Orthonormal B) (hs : Mat K (d * d) (d * d)) (rm : Bool) :
    Orthonormal (compBasis d rm : Basis K d (d * d)) ∧
    convertHs (compBasis d rm) B (convertHs B (compBasis d rm) hs) = hs := by
  have ho : Orthonormal (compBasis d rm : Basis K d (d * d)) := by
    cases rm
    · exact comp_col_orthonormal d
    · exact comp_orthonormal d
  exact ⟨ho, convertHs_roundtrip B (compBasis d rm) h (complete_of_orthonormal _ ho) hs⟩

/-- `to_process_matrix_from_hs` is linear (it is the Choi matrix). -/
theorem processMatrix_linear (B : Basis K d (d * d)) (a : K) (x y : Mat K (d * d) (d * d)) :
    processMatrix B ((x.smul a).add y) = ((processMatrix B x).smul a).add (processMatrix B y) := by
  rw [processMatrix_eq_choi, processMatrix_eq_choi, processMatrix_eq_choi, (choi_conversions_linear B a x y).1]

/-- Hermiticity is carried both ways for a Hermitian basis: a real (self-conjugate) HS matrix has a Hermitian Choi matrix,
and a Hermitian Choi matrix has a real HS matrix — so on Hermitian Choi matrices the guard of `truncate_hs` inside
`to_hs_from_choi_with_sparsity` / `_with_dict` never fires. -/
theorem choi_hermitian_iff_hs_real (B : Basis K d (d * d)) (hB : HermitianBasis B) (hs c : Mat K (d * d) (d * d)) :
    ((∀ al be, star (hs.get al be) = hs.get al be) → IsHermitianMat (choiSparse B hs)) ∧
    (IsHermitianMat c → ∀ al be, star ((hsOfChoiSparseRaw B c).get al be) = (hsOfChoiSparseRaw B c).get al be) := by
  constructor
  · intro hr
    rw [choiSparse_eq]
    exact densitySparse_hermitian _ (bbcBasis_hermitian B hB) _ fun y => by rw [flat_get]; exact hr _ _
  · intro hc al be
    rw [hsOfChoiSparseRaw_eq, unflat_get]
    exact coeff_real_of_hermitian _ (bbcBasis_hermitian B hB) c hc _

/-- Kraus → HS as executed NEVER raises on a Hermitian orthonormal basis (any threshold, any non-empty operator list): the HS
matrix of `Σ K ⊗ conj K` has real entries, so `truncate_hs` has nothing to reject. -/
theorem hsOfKraus_never_rejected {d : Nat} (eps : Rat) (B : Basis CRat d (d * d)) (h : Orthonormal B) (hB : HermitianBasis B)
    (ks : List (Mat CRat d d)) (hne : ks ≠ []) : ∃ r, hsOfKraus eps B ks = .ok r := by
  rw [hsOfKraus_eq eps B ks hne, truncList_isOk_iff]
  refine (forall_mem_toList _ _).2 fun x => Or.inr ?_
  rw [← CRat.star_eq_iff, flat_get, hsOfKrausRaw_eq B h]
  exact (choi_hermitian_iff_hs_real B hB Mat.zero _).2 (choiOfKraus_hermitian ks) _ _

/-! ## tie to the source: the model is built from the terms GENERATED from quara's code (lean/QGen/C02.lean)

`harness/c02gen.py` locates each decisive expression of the conversion code in the working tree (index order,
operand order, conjugation, transposition, flattening, guard conditions, callees) and translates it to a term
over the model's matrix operations.  The theorems below state that the hand-written model is made of exactly
these generated terms; a source edit at such a site changes `QGen.C02.*` and breaks the theorem (or, outside the
translatable grammar, makes the generator fail loudly). -/

/-- HS → Choi: the loop body `hs[alpha][beta] * bb`, `bb = B_α ⊗ conj(B_β)`; the dict body
`choi[i, j] += hs[alpha, beta] * coefficient` with coefficients read from the same Kronecker product. -/
theorem gen_choi_forward [DecidableEq K] (B : Basis K d (d * d)) (hs : Mat K (d * d) (d * d)) (i j al be : Fin (d * d)) :
    choiLoop B hs = reduceAdd ((pairs (d * d)).map fun p =>
        QGen.C02.choiLoopTerm hs (QGen.C02.bbc_dense B p.1 p.2) p.1 p.2) ∧
    (choiDict B hs).get i j
      = (dictHsToChoi B i j).foldl (fun acc t => acc + QGen.C02.choiDictTerm hs t.1 t.2.1 t.2.2) 0 ∧
    bbcEntry B al be i j = (QGen.C02.bbc_dictFwd B al be).get i j := by
  refine ⟨rfl, by simp [choiDict, QGen.C02.choiDictTerm], ?_⟩
  rw [← bbc_get]; rfl

/-- Choi → HS: the loop entry `(np.conjugate(b_bc.T) @ choi).diagonal().sum()`, the dict body
`hs[alpha, beta] += coefficient * choi[j, i]` (transposed index, no conjugate). -/
theorem gen_choi_inverse [DecidableEq K] (B : Basis K d (d * d)) (c : Mat K (d * d) (d * d)) (i j al be : Fin (d * d)) :
    (hsOfChoiLoopRaw B c).get al be = QGen.C02.hsLoopEntry (QGen.C02.bbc_dense B al be) c ∧
    (hsOfChoiDictRaw B c).get al be
      = (dictChoiToHs B al be).foldl (fun acc t => acc + QGen.C02.hsDictTerm c t.1 t.2.1 t.2.2) 0 ∧
    bbcEntry B al be i j = (QGen.C02.bbc_dictInv B al be).get i j := by
  refine ⟨?_, by simp [hsOfChoiDictRaw, QGen.C02.hsDictTerm], ?_⟩
  · simp only [hsOfChoiLoopRaw, Mat.get_ofFn, QGen.C02.hsLoopEntry, conjM_transpose]; rfl
  · rw [← bbc_get]; rfl

/-- the sparse tables: row `(α, β)` is the row-major flattening of `sparse.kron(B_α, conj B_β)` of length
`element_size = d ** 2 ** 2`; the forward table is its transpose, the inverse table its conjugate; the product is
reshaped to `(dim², dim²)`; the state tables have rows `flatten(B_a)` and `flatten(B_a.conjugate())`. -/
theorem gen_sparse_tables (B : Basis K d (d * d)) (x y : Fin ((d * d) * (d * d))) {n : Nat} (Bn : Basis K d n)
    (a : Fin n) (z : Fin (d * d)) :
    (bbcT B).get x y = (flat (QGen.C02.bbc_sparse B (pdiv y) (pmod y))).get x ∧
    (bbcConj B).get y x = conj ((flat (QGen.C02.bbc_sparse B (pdiv y) (pmod y))).get x) ∧
    QGen.C02.elementSize d = (d * d) * (d * d) ∧ QGen.C02.choiShape d = (d * d, d * d) ∧
    (basisT Bn).get z a = (QGen.C02.basisRow (Bn.get a)).get z ∧
    (basisConj Bn).get a z = (QGen.C02.basisConjRow (Bn.get a)).get z := by
  refine ⟨?_, ?_, ?_, ?_, ?_, ?_⟩
  · simp only [bbcT, Mat.get_ofFn, flat_get, ← bbc_get]; rfl
  · simp only [bbcConj, Mat.get_ofFn, flat_get, ← bbc_get]; rfl
  · simp only [QGen.C02.elementSize]; ring
  · simp only [QGen.C02.choiShape, Prod.mk.injEq]; constructor <;> ring
  · simp [basisT, QGen.C02.basisRow]
  · simp [basisConj, QGen.C02.basisConjRow, conjM]

/-- change of basis: `U[a, b] = vdot(to_a, from_b)` (product over `(to_basis, from_basis)`),
`to_hs = U @ from_hs @ U.conj().T`, `converted_vec = rep_mat @ from_vec`; `mutil.vdot` is `np.vdot(a, b)` and
`mutil.flatten` is `matrix.flatten()`. -/
theorem gen_basis_change {n : Nat} (F T : Basis K d n) (hs : Mat K n n) (v : Vec K n) (A C : Mat K d d) :
    convertHs F T hs = QGen.C02.convertHsFormula (QGen.C02.convertHsU F T) hs ∧
    convertVec F T v = QGen.C02.convertVecFormula (QGen.C02.convertVecRep F T) v ∧
    QGen.C02.mutilVdot A C = vdot A C ∧ QGen.C02.mutilFlatten A = flat A := by
  refine ⟨?_, rfl, rfl, rfl⟩
  simp only [convertHs, QGen.C02.convertHsFormula, transpose_conjM]; rfl

/-- Kraus → HS sums `np.kron(mat, mat.conjugate())`; the process-matrix entry is
`(kron(B_alpha.conj().T, B_beta.T) @ hs_comp).diagonal().sum()` on the row-major computational basis. -/
theorem gen_kraus_process (B : Basis K d (d * d)) (hs : Mat K (d * d) (d * d)) (ks : List (Mat K d d))
    (al be : Fin (d * d)) :
    krausTensorSum ks = ks.foldl (fun acc k => acc.add (QGen.C02.krausTensorTerm k)) Mat.zero ∧
    (processMatrix B hs).get al be
      = QGen.C02.processEntry ((compBasis d true : Basis K d (d * d)).get al) ((compBasis d true : Basis K d (d * d)).get be)
          (convertHs B (compBasis d true) hs) := by
  refine ⟨rfl, ?_⟩
  simp only [processMatrix, Mat.get_ofFn, QGen.C02.processEntry, transpose_conjM]

/-- `get_comp_basis`: the element built at loop step `(outer, inner)` has its 1 at the generated position
(row-major: `(outer, inner)`, column-major: `(inner, outer)`). -/
theorem gen_comp_basis (rm : Bool) (x : Fin (d * d)) (i j : Fin d) :
    ((compBasis d rm : Basis K d (d * d)).get x).get i j
      = if (i.val, j.val) = QGen.C02.compEntry rm (pdiv x).val (pmod x).val then 1 else 0 := by
  cases rm <;> simp [compBasis, eMat_get, QGen.C02.compEntry, Fin.ext_iff]

/-- `truncate_hs`: the model's entry function is the generated guard / raise / `.real` / fluctuation-cut skeleton
with the generated conditions `np.abs(matrix.imag) < eps` and `np.abs(matrix) < eps`. -/
theorem gen_truncate (eps : Rat) (z : CRat) : truncEntry eps z = QGen.C02.truncEntryGen eps z := by
  simp only [truncEntry, QGen.C02.truncEntryGen, QGen.C02.truncImagCond, QGen.C02.truncFluctCond,
    decide_eq_true_eq]

/-- the variable ↔ Choi glue calls what the source calls (D3 site): `to_var_from_choi` = `convert_hs_to_var` of the GENERATED
callee applied to the Choi matrix (`to_hs_from_choi_with_sparsity`, the inverse conversion), also as executed through
`truncate_hs`; `to_choi_from_var` = the generated forward callee on `convert_var_to_hs(var)`.  If the source called the forward
conversion again (the former defect), `QGen.C02.toVarFromChoiHs` would be `choiSparse` and this theorem would fail. -/
theorem gen_callees (B : Basis K d (d * d)) (c : Mat K (d * d) (d * d)) (v : Vec K ((d * d) * (d * d)))
    (w : Vec K ((d * d - 1) * (d * d))) :
    toVarFromChoiFreeRaw B c = flat (QGen.C02.toVarFromChoiHs B c) ∧
    toVarFromChoiEqRaw B c = hsToVarEq (QGen.C02.toVarFromChoiHs B c) ∧
    toChoiFromVarFree B v = QGen.C02.toChoiFromVarChoi B (unflat v) ∧
    toChoiFromVarEq B w = QGen.C02.toChoiFromVarChoi B (varToHsEq w) := ⟨rfl, rfl, rfl, rfl⟩

theorem gen_callees_executed {d : Nat} (eps : Rat) (B : Basis CRat d (d * d)) (c : Mat CRat (d * d) (d * d)) (onEq : Bool) :
    toVarFromChoi eps B c onEq
      = (truncList eps (matList (QGen.C02.toVarFromChoiHs B c))).map fun l => if onEq then l.drop (d * d) else l := by
  unfold toVarFromChoi QGen.C02.toVarFromChoiHs
  cases truncList eps (matList (hsOfChoiSparseRaw B c)) <;> rfl

/-- coefficient vector ↔ matrix: the sparse forms are the generated `basis_T_sparse.dot(vec).reshape((dim, dim))` /
`basisconjugate_sparse.dot(flatten(M))` (state.py and povm.py, incl. the repaired `Povm.matrix_with_sparsity`, D2 site), the
dense loops of `State.to_density_matrix`, `Povm.matrices`, `Povm.matrix` fold the generated body `acc += coefficient * basis`. -/
theorem gen_vec_matrix {n : Nat} (B : Basis K d n) (v : Vec K n) (rho : Mat K d d) :
    densitySparse B v = QGen.C02.densitySparseTerm B v ∧ densitySparse B v = QGen.C02.povmMatrixSparseTerm B v ∧
    vecOfDensityRaw B rho = QGen.C02.vecOfDensityTerm B rho ∧ vecOfDensityRaw B rho = QGen.C02.povmVecOfMatrixTerm B rho ∧
    densityLoop B v = (List.finRange n).foldl (fun acc a => QGen.C02.densityLoopTerm acc (v.get a) (B.get a)) Mat.zero ∧
    densityLoop B v = (List.finRange n).foldl (fun acc a => QGen.C02.povmMatricesLoopTerm acc (v.get a) (B.get a)) Mat.zero ∧
    densityLoop B v = (List.finRange n).foldl (fun acc a => QGen.C02.povmMatrixLoopTerm acc (v.get a) (B.get a)) Mat.zero :=
  ⟨rfl, rfl, rfl, rfl, rfl, rfl, rfl⟩

/-- `matrix_basis.calc_matrix_expansion_coefficient` computes `np.trace(np.conjugate(np.transpose(bi)) @ from_mat)` per basis element,
`calc_mat_from_coefficient_basis` folds `mat += ci * bi`: the generated terms are the model's coefficient vector / dense loop
(so these helpers are the vec ↔ matrix conversions of the theorems above, for ANY basis, Hermitian or not). -/
theorem gen_expansion_helpers {n : Nat} (B : Basis K d n) (rho : Mat K d d) (v : Vec K n) (a : Fin n) :
    (vecOfDensityRaw B rho).get a = QGen.C02.expansionCoeff (B.get a) rho ∧
    densityLoop B v = (List.finRange n).foldl (fun acc a => QGen.C02.matFromCoeffTerm acc (v.get a) (B.get a)) Mat.zero := by
  refine ⟨?_, rfl⟩
  rw [(vecOfDensity_formula B rho a).1, (vecOfDensity_formula B rho a).2]
  simp only [QGen.C02.expansionCoeff, conjM_transpose]

/-- the parameter checks of `convert_hs` / `convert_vec` are the generated `if … : raise ValueError` chains, in source order. -/
theorem gen_convert_checks :
    convertHsChecks = QGen.C02.convertHsChecksGen ∧ convertVecChecks = QGen.C02.convertVecChecksGen := ⟨rfl, rfl⟩

/-- `to_kraus_matrices_from_hs` is assembled from the generated pieces: the CP verdict (`is_cp` =
`is_positive_semidefinite` of the sparse Choi matrix: Hermitian test, close-to-zero eigenvalues deleted, the rest `>= 0`), the
zero filter `not np.isclose(λ, 0, atol=Settings.get_atol())`, `sorted(…, key=λ, reverse=True)`, the scaling
`np.sqrt(λ) * v.reshape((dim, dim))`; `krausFull` adds the generated phase step (first non-zero entry, `value < 0` in numpy's
complex order, `1 / (value / abs(value)) * k`, the loop's `else`) on each. -/
theorem gen_kraus_extraction {d : Nat} (B : Basis CRat d (d * d)) (hs : Mat CRat (d * d) (d * d)) (eigs : List (EigPair d))
    (atol atolS : Rat) :
    isCp (choiSparse B hs) eigs atol = QGen.C02.isCpGen (QGen.C02.toChoiFromVarChoi B hs) eigs atol ∧
    krausRaw B hs eigs atol atolS
      = (if !QGen.C02.isCpGen (choiSparse B hs) eigs atol then []
         else (QGen.C02.krausSort (eigs.filter (QGen.C02.krausKeep atolS))).map QGen.C02.krausScale) ∧
    krausFull B hs eigs atol atolS
      = (if !QGen.C02.isCpGen (choiSparse B hs) eigs atol then []
         else (QGen.C02.krausSort (eigs.filter (QGen.C02.krausKeep atolS))).map
            fun e => QGen.C02.phaseFixGen (QGen.C02.krausScale e) e.absScaled) ∧
    (∀ (k : Mat CRat d d) (a : Vec Rat (d * d)), phaseFactor k a = QGen.C02.phaseFactorGen k a ∧ phaseFix k a = QGen.C02.phaseFixGen k a) :=
  ⟨rfl, rfl, rfl, fun _ _ => ⟨rfl, rfl⟩⟩

/-- `convert_var_to_hs(…, True)` inserts the row `np.eye(1, dim²)` at the generated index (0) and shifts every other row down;
`convert_hs_to_var(…, True)` deletes the row with the generated index (0). -/
theorem gen_var_rows {n : Nat} (var : Vec K ((n - 1) * n)) (hs : Mat K n n) :
    (∀ (i j : Fin n), i.val = QGen.C02.varRowIndex → (varToHsEq var).get i j = if j.val = 0 then 1 else 0) ∧
    (∀ (i j : Fin n) (_ : i.val ≠ QGen.C02.varRowIndex) (hb : i.val - 1 < n - 1),
      (varToHsEq var).get i j = var.get (pidx ⟨i.val - 1, hb⟩ j)) ∧
    (∀ x, (hsToVarEq hs).get x
      = hs.get ⟨(pdiv x).val + (QGen.C02.varRowDeleted + 1), by have := (pdiv x).isLt; simp [QGen.C02.varRowDeleted]; omega⟩ (pmod x)) := by
  refine ⟨?_, ?_, ?_⟩
  · intro i j h
    rw [varToHsEq, Mat.get_ofFn, dif_pos (show i.val = 0 from h)]
  · intro i j h hb
    rw [varToHsEq, Mat.get_ofFn, dif_neg (show ¬ i.val = 0 from h)]
  · intro x; rw [hsToVarEq, Vec.get_ofFn]; rfl

/-! ## measurement processes: per-outcome and list-valued conversions (mprocess.py) -/

/-- `MProcess.to_choi_matrix(i)`, `…_with_dict(i)`, `…_with_sparsity(i)`, `to_process_matrix(i)` all return the Choi matrix of the
`i`-th HS matrix for a valid outcome index, and raise IndexError past the end. -/
theorem mprocess_outcome_conversions {d : Nat} (B : Basis CRat d (d * d)) (hss : List (Mat CRat (d * d) (d * d))) (i : Nat)
    (hd : 0 < d) :
    (∀ hi : i < hss.length,
      mpChoiSparse B hss i = .ok (choiSparse B hss[i]) ∧ mpChoiDict B hss i = .ok (choiSparse B hss[i]) ∧
      mpChoiLoop B hss i = .ok (choiSparse B hss[i]) ∧ mpProcessMatrix B hss i = .ok (choiSparse B hss[i])) ∧
    (hss.length ≤ i →
      mpChoiSparse B hss i = .error .indexError ∧ mpChoiDict B hss i = .error .indexError ∧
      mpChoiLoop B hss i = .error .indexError ∧ mpProcessMatrix B hss i = .error .indexError) := by
  constructor
  · intro hi
    have ho : mpOutcome hss i = .ok hss[i] := by simp [mpOutcome, hi]
    simp [mpChoiSparse, mpChoiDict, mpChoiLoop, mpProcessMatrix, ho, (choi_variants_agree B hss[i] hd).1,
      (choi_variants_agree B hss[i] hd).2.1, processMatrix_eq_choi]
  · intro hi
    have ho : mpOutcome hss i = .error .indexError := by simp [mpOutcome, List.getElem?_eq_none hi]
    simp [mpChoiSparse, mpChoiDict, mpChoiLoop, mpProcessMatrix, ho]

/-- `MProcess.convert_basis` / `convert_to_comp_basis` (the whole returned list): converting back returns the list; every
element of the row-major computational-basis list acts on `vec(ρ)` as the corresponding outcome map. -/
theorem mprocess_convert_basis {n : Nat} (F T : Basis K d n) (hF : Orthonormal F) (hT : Complete T) (hss : List (Mat K n n))
    (B : Basis K d (d * d)) (hs' : List (Mat K (d * d) (d * d))) (rho : Mat K d d) :
    mpConvertBasis T F (mpConvertBasis F T hss) = hss ∧
    (mpConvertToComp B true hs').length = hs'.length ∧
    ∀ (i : Nat) (hi : i < hs'.length),
      ((mpConvertToComp B true hs')[i]'(by simpa [mpConvertToComp, mpConvertBasis] using hi)).mulVec (flat rho)
        = flat (densitySparse B (hs'[i].mulVec (vecOfDensityRaw B rho))) := by
  refine ⟨?_, by simp [mpConvertToComp, mpConvertBasis], ?_⟩
  · simp only [mpConvertBasis, List.map_map]
    exact (List.map_congr_left fun hs _ => convertHs_roundtrip F T hF hT hs).trans (List.map_id hss)
  · intro i hi
    simp only [mpConvertToComp, mpConvertBasis, List.getElem_map]
    exact comp_basis_action B _ rho

/-! ## non-vacuity: concrete instances of the hypotheses -/

-- the computational basis is orthonormal over every star-ring, e.g. ℂ, for every d
example (d : Nat) : Orthonormal (compBasis d true : Basis ℂ d (d * d)) := comp_orthonormal d
-- a Hermitian orthonormal (hence complete) basis over the executed scalar type
example : Orthonormal B0 ∧ HermitianBasis B0 ∧ Complete B0 :=
  ⟨B0_orthonormal, B0_hermitian, complete_of_orthonormal B0 B0_orthonormal⟩
-- the general theorems apply literally to the executed definitions at `CRat`
example (hs : Mat CRat (2 * 2) (2 * 2)) : hsOfChoiSparseRaw B0 (choiSparse B0 hs) = hs :=
  (hs_choi_hs B0 B0_orthonormal hs).1
example (hs : Mat CRat (2 * 2) (2 * 2)) : choiDict B0 hs = choiSparse B0 hs :=
  (choi_variants_agree B0 hs (by decide)).2.1

-- the eigh contract of `kraus_roundtrip_exact_kernel` is satisfiable: identity channel on `B0` (HS = 1), Choi matrix
-- `|1⟫⟪1|` given by the single (unnormalised) eigenpair λ = 1, v = (1,0,0,1), plus a zero eigenpair that the
-- filter drops
def idHs : Mat CRat (2 * 2) (2 * 2) := Mat.ofFn fun i j => if i = j then 1 else 0
def idEigs : List (EigPair 2) :=
  [⟨0, 0, #v[⟨1, 0⟩, ⟨0, 0⟩, ⟨0, 0⟩, ⟨-1, 0⟩], #v[0, 0, 0, 0]⟩,
   ⟨1, 1, #v[⟨1, 0⟩, ⟨0, 0⟩, ⟨0, 0⟩, ⟨1, 0⟩], #v[1, 0, 0, 1]⟩]
theorem idHs_choi : choiSparse B0 idHs
    = Mat.ofFn fun i j => if pidx (pdiv i) (pdiv j) = pidx (pmod i) (pmod j) then 1 else 0 :=
  choiSparse_one B0 (complete_of_orthonormal B0 B0_orthonormal)
theorem idEigs_cp : isCp (choiSparse B0 idHs) idEigs 0 = true := by rw [idHs_choi]; decide +kernel
theorem idEigs_contract : EighContract B0 idHs idEigs 0 := by
  refine ⟨?_, by decide +kernel, by decide +kernel⟩
  rw [idHs_choi]; decide +kernel
example : hsOfKrausRaw B0 (krausRaw B0 idHs idEigs 0 0) = idHs :=
  kraus_roundtrip_exact_kernel B0 B0_orthonormal idHs idEigs 0 0 idEigs_cp
    idEigs_contract.spec idEigs_contract.sqrt_exact idEigs_contract.filtered_zero

-- the kernel contract as one hypothesis, on the same instance; the channel of the identity gate is preserved
example : EighContract B0 idHs idEigs 0 := idEigs_contract
example (rho : Mat CRat 2 2) :
    krausApply (krausRaw B0 idHs idEigs 0 0) rho = densitySparse B0 (idHs.mulVec (vecOfDensityRaw B0 rho)) :=
  (kraus_channel_preserved_exact_kernel B0 B0_orthonormal idHs idEigs 0 0 idEigs_cp idEigs_contract rho).1
example (rho : Mat CRat 2 2) : hsOfKrausRaw B0 (krausFull B0 idHs idEigs 0 0) = idHs :=
  (kraus_full_roundtrip_exact_kernel B0 B0_orthonormal idHs idEigs 0 0 idEigs_cp idEigs_contract
    (by unfold AbsContract; decide +kernel) rho).1
-- guard: a Hermitian input (E₀₀) is accepted, the matrix unit E₀₁ is not Hermitian and is rejected
def e00 : Mat CRat 2 2 := #v[#v[⟨1, 0⟩, ⟨0, 0⟩], #v[⟨0, 0⟩, ⟨0, 0⟩]]
def e01 : Mat CRat 2 2 := #v[#v[⟨0, 0⟩, ⟨1, 0⟩], #v[⟨0, 0⟩, ⟨0, 0⟩]]
example : IsHermitianMat e00 := by intro i j; revert i j; decide +kernel
example : vecOfDensity 0 B0 e01 = .error .imagNonZero :=
  vecOfDensity_nonhermitian_rejected B0 B0_hermitian (complete_of_orthonormal B0 B0_orthonormal) e01
    (by intro h; have := h 0 1; revert this; decide +kernel)
example : vecOfDensity 0 B0 e00 = .ok [1, 0, 0, 0] := by decide +kernel
-- a unit-modulus phase over the executed scalars
example : ∀ p ∈ [(⟨0, 1⟩ : CRat), ⟨-1, 0⟩], p * star p = 1 := by decide +kernel

-- executed round trips on real data: the identity HS matrix on B0 with the default-like threshold 1/1000
def idHsR : Mat Rat (2 * 2) (2 * 2) := Mat.ofFn fun i j => if i = j then 1 else 0
theorem idHsR_big : ∀ x ∈ matList idHsR, x = 0 ∨ ¬ rabs x < 1 / 1000 := by decide +kernel
example : hsOfChoiSparse (1 / 1000) B0 (choiSparse B0 (ofRatMat idHsR)) = .ok (matList idHsR) :=
  (hs_choi_hs_executed (1 / 1000) B0 B0_orthonormal idHsR idHsR_big).1
example : hsOfChoiDict (1 / 1000) B0 (choiSparse B0 (ofRatMat idHsR)) = .ok (matList idHsR) :=
  (hs_choi_hs_executed (1 / 1000) B0 B0_orthonormal idHsR idHsR_big).2.1 B0_hermitian
example : vecOfDensity (1 / 1000) B0 (densitySparse B0 (ofRatVec #v[1 / 2, 0, 3, -1])) = .ok [1 / 2, 0, 3, -1] :=
  (vec_density_vec_executed (1 / 1000) B0 B0_orthonormal #v[1 / 2, 0, 3, -1] (by decide +kernel)).1
example : mdSerial [2, 3, 4, 2] [1, 2, 3, 1] = .ok 47 := by decide
-- a map with TWO kept eigenpairs handed in in ascending order (as numpy does) and a Kraus operator whose first non-zero entry
-- is `−i/2` (negative in numpy's complex order): `Λ(ρ) = ¼ρ + ¼ YρY`.  The sort reverses the pairs and the phase branch turns
-- `Y/2` into `i·Y/2`; the contracts of `kraus_full_roundtrip_exact_kernel` are met and the operators are as computed.
def yEigs : List (EigPair 2) :=
  [⟨1, 1, #v[⟨1 / 2, 0⟩, ⟨0, 0⟩, ⟨0, 0⟩, ⟨1 / 2, 0⟩], #v[1 / 2, 0, 0, 1 / 2]⟩,
   ⟨4, 2, #v[⟨0, 0⟩, ⟨0, -1 / 4⟩, ⟨0, 1 / 4⟩, ⟨0, 0⟩], #v[0, 1 / 2, 1 / 2, 0]⟩]
def yKraus : List (Mat CRat 2 2) :=
  [#v[#v[⟨0, 0⟩, ⟨1 / 2, 0⟩], #v[⟨-1 / 2, 0⟩, ⟨0, 0⟩]], #v[#v[⟨1 / 2, 0⟩, ⟨0, 0⟩], #v[⟨0, 0⟩, ⟨1 / 2, 0⟩]]]
def yHs : Mat CRat (2 * 2) (2 * 2) := hsOfKrausRaw B0 yKraus
theorem yHs_choi : choiSparse B0 yHs = choiOfKraus yKraus := choiSparse_hsOfKrausRaw B0 B0_orthonormal yKraus
theorem yEigs_cp : isCp (choiSparse B0 yHs) yEigs 0 = true := by rw [yHs_choi]; decide +kernel
example : krausFull B0 yHs yEigs 0 0 = yKraus := by rw [krausFull, yEigs_cp]; decide +kernel
example : hsOfKrausRaw B0 (krausFull B0 yHs yEigs 0 0) = yHs :=
  (kraus_full_roundtrip_exact_kernel B0 B0_orthonormal yHs yEigs 0 0 yEigs_cp
    ⟨by rw [yHs_choi]; decide +kernel, by decide +kernel, by decide +kernel⟩
    (by unfold AbsContract; decide +kernel) Mat.zero).1

-- a two-outcome measurement process on B0 (identity map and the Y-mixture): outcome access, the four per-outcome conversions
-- and the IndexError past the end
example : mpChoiDict B0 [idHs, yHs] 1 = .ok (choiSparse B0 yHs) ∧ mpProcessMatrix B0 [idHs, yHs] 1 = .ok (choiSparse B0 yHs) ∧
    mpChoiLoop B0 [idHs, yHs] 2 = .error .indexError :=
  have h := (mprocess_outcome_conversions B0 [idHs, yHs] 1 (by decide)).1 (by decide)
  ⟨h.2.1, h.2.2.2, ((mprocess_outcome_conversions B0 [idHs, yHs] 2 (by decide)).2 (by decide)).2.2.1⟩
example : mpConvertBasis (compBasis 2 true) B0 (mpConvertBasis B0 (compBasis 2 true) [idHs, yHs]) = [idHs, yHs] :=
  (mprocess_convert_basis B0 (compBasis 2 true) B0_orthonormal
    (complete_of_orthonormal _ (comp_orthonormal 2)) [idHs, yHs] B0 [] Mat.zero).1
example : convertHsChecks 4 3 2 4 2 4 = .error .notSquare ∧ convertHsChecks 3 3 2 4 2 4 = .error .dimNotSquare ∧
    convertHsChecks 4 4 2 4 3 9 = .error .dimMismatch ∧ convertHsChecks 4 4 2 4 2 5 = .error .lenMismatch := by decide +kernel

-- B0 → column-major computational basis → row-major computational basis is B0 → row-major directly; the
-- column-major round trip; Hermitian Choi matrix of a real HS matrix; Kraus → HS of the complex operators `yKraus` never raises
example : convertHs (compBasis 2 false) (compBasis 2 true) (convertHs B0 (compBasis 2 false) yHs) = convertHs B0 (compBasis 2 true) yHs :=
  (convert_comp B0 (compBasis 2 false) (compBasis 2 true) (complete_of_orthonormal _ (comp_col_orthonormal 2)) yHs Vec.zero).1
example : convertHs (compBasis 2 false) B0 (convertHs B0 (compBasis 2 false) yHs) = yHs :=
  (comp_col_roundtrip B0 B0_orthonormal yHs false).2
example : IsHermitianMat (choiSparse B0 idHs) :=
  (choi_hermitian_iff_hs_real B0 B0_hermitian idHs idHs).1 (by intro al be; revert al be; decide +kernel)
example : ∃ r, hsOfKraus (1 / 1000) B0 yKraus = .ok r :=
  hsOfKraus_never_rejected (1 / 1000) B0 B0_orthonormal B0_hermitian yKraus (by decide)

end QM.C02
