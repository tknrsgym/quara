import QProofs.C04
import QProofs.C04Ineq
import QGen.C04
/-!
# C04 — equality / inequality projections are nearest-point projections: property theorems

Part 1 (this section): the four equality projections of `QModel.C04`, over an arbitrary linearly ordered
field `K` (so literally for the executed instance `Rat`), for all `d` (`n = d²` is arbitrary here), all
outcome counts `m`: membership, orthogonality of the residual to every feasible direction, nearest point,
uniqueness, idempotence, fixed points; object level = variable level: with content for flag True (all four types) and for the Gate
flat-index routine with flag False; for State / Povm / MProcess with flag False the statement is definitional in the model (the
separate `_with_var` code sites are regenerated from the source and proved equal to the same model definition: `gen_state_eq`,
`gen_povm_eq`, `gen_mprocess_eq`; plus the correspondence and the oracle).  Purity (argument unchanged) is NOT a theorem:
snapshots in the correspondence / oracle only.
-/
open Finset
namespace QM.C04

variable {K : Type} [Field K] [LinearOrder K] [IsStrictOrderedRing K] {m n : Nat}

/-! ## State -/

/-- C04.1 (State) membership: the projected vector satisfies the constraint exactly. -/
theorem state_projEq_mem (s : K) (v : Vec K n) : State.Feas s (State.projEq s v) := by
  intro i hi; simp [State.projEq_get, hi]

/-- C04.1 (State) the residual is orthogonal to every feasible direction. -/
theorem state_projEq_orth (s : K) (v y : Vec K n) (hy : State.Feas s y) :
    ip1 (v.sub (State.projEq s v)) (y.sub (State.projEq s v)) = 0 := by
  unfold ip1
  apply Finset.sum_eq_zero; intro i _
  by_cases hi : i.val = 0
  · simp [Vec.sub, State.projEq_get, hi, hy i hi]
  · simp [Vec.sub, State.projEq_get, hi]

/-- C04.1 (State) nearest point: no feasible vector is closer to `v` than its projection. -/
theorem state_projEq_nearest (s : K) (v y : Vec K n) (hy : State.Feas s y) :
    sqd1 v (State.projEq s v) ≤ sqd1 v y :=
  nearest1 _ _ _ (le_of_eq (state_projEq_orth s v y hy))

/-- C04.2 (State) fixed points: feasible vectors are not moved. -/
theorem state_projEq_fix (s : K) (v : Vec K n) (hv : State.Feas s v) : State.projEq s v = v := by
  apply Vec.ext'; intro i
  by_cases hi : i.val = 0
  · simp [State.projEq_get, hi, hv i hi]
  · simp [State.projEq_get, hi]

/-- C04.2 (State) idempotence. -/
theorem state_projEq_idem (s : K) (v : Vec K n) :
    State.projEq s (State.projEq s v) = State.projEq s v :=
  state_projEq_fix s _ (state_projEq_mem s v)

/-- C04.3 (State), flag False — DEFINITIONAL in the model (`projEqVar s false` unfolds to the same `ofFn` as `projEq`); agreement of
the two SOURCE sites: `gen_state_eq`, plus the correspondence (ops `s_eq_obj` / `s_eq_var`) and the oracle. -/
theorem state_var_eq_obj_F (s : K) (v : Vec K n) : State.projEqVar s false v = State.projEq s v := rfl

/-- C04.3 (State) with the parametrised constraint the variable-level routine returns the variable, and so does
the object-level closure `generate_from_var → calc_proj_eq_constraint → to_var`. -/
theorem state_var_eq_obj_T (s : K) (v : Vec K n) :
    State.funcProjEqT s v = State.projEqVar s true v := by
  apply Vec.ext'; intro i
  simp [State.funcProjEqT, State.toVarT, State.projEq_get, State.ofVarT, State.projEqVar]

/-! ## Povm -/

/-- C04.1 (Povm) membership (needs at least one element). -/
theorem povm_projEq_mem (t : K) (A : Mat K m n) (hm : 0 < m) : Povm.Feas t (Povm.projEq t A) := by
  intro i
  have hm' : (m : K) ≠ 0 := by exact_mod_cast hm.ne'
  simp only [Povm.projEq_get, Finset.sum_add_distrib, Finset.sum_sub_distrib, Finset.sum_const,
    Finset.card_univ, Fintype.card_fin, nsmul_eq_mul]
  split <;> field_simp <;> ring

/-- C04.1 (Povm) orthogonality of the residual to feasible directions. -/
theorem povm_projEq_orth (t : K) (A Y : Mat K m n) (hm : 0 < m) (hY : Povm.Feas t Y) :
    ip2 (A.sub (Povm.projEq t A)) (Y.sub (Povm.projEq t A)) = 0 := by
  have hP := povm_projEq_mem t A hm
  unfold ip2
  rw [Finset.sum_comm]
  apply Finset.sum_eq_zero; intro i _
  -- the residual does not depend on the element index
  have hr : ∀ x, (A.sub (Povm.projEq t A)).get x i
      = (∑ x', A.get x' i) / (m : K) - (if i.val = 0 then t / (m : K) else 0) := by
    intro x; simp only [Mat.sub, Mat.get_ofFn, Povm.projEq_get]; ring
  simp only [hr, ← Finset.mul_sum]
  have : ∑ x, (Y.sub (Povm.projEq t A)).get x i = 0 := by
    simp only [Mat.sub, Mat.get_ofFn, Finset.sum_sub_distrib, hY i, hP i, sub_self]
  rw [this, mul_zero]

/-- C04.1 (Povm) nearest point. -/
theorem povm_projEq_nearest (t : K) (A Y : Mat K m n) (hm : 0 < m) (hY : Povm.Feas t Y) :
    sqd2 A (Povm.projEq t A) ≤ sqd2 A Y :=
  nearest2 _ _ _ (le_of_eq (povm_projEq_orth t A Y hm hY))

/-- C04.2 (Povm) fixed points. -/
theorem povm_projEq_fix (t : K) (A : Mat K m n) (hA : Povm.Feas t A) :
    Povm.projEq t A = A := by
  apply Mat.ext'; intro x i
  rw [Povm.projEq_get, hA i]
  split <;> simp

/-- C04.2 (Povm) idempotence. -/
theorem povm_projEq_idem (t : K) (A : Mat K m n) (hm : 0 < m) :
    Povm.projEq t (Povm.projEq t A) = Povm.projEq t A :=
  povm_projEq_fix t _ (povm_projEq_mem t A hm)

/-- C04.3 (Povm) under the parametrised constraint the completed POVM `ofVarT` is feasible, hence the
variable-level projection returns the variable. -/
theorem povm_var_T_id (t : K) (pre : Mat K m n) : Povm.projEqVarT t pre = pre := by
  have hfeas : Povm.Feas t (Povm.ofVarT t pre) := by
    intro i
    rw [Fin.sum_univ_castSucc]
    simp [Povm.ofVarT, fsum_eq_sum]
  unfold Povm.projEqVarT
  rw [povm_projEq_fix t _ hfeas]
  apply Mat.ext'; intro x i
  simp [Povm.toVarT, Povm.ofVarT]

/-- C04.3 (Povm), flag False — DEFINITIONAL in the model (`projEqVarF := projEq`; the `_with_var` site repeats the arithmetic after
`convert_var_to_vecs`, which is a reshape done by the driver's parser); agreement of the two SOURCE sites: `gen_povm_eq` / `gen_mprocess_eq` (both sites are regenerated from the source and proved equal to this
definition), plus correspondence and oracle. -/
theorem povm_var_eq_obj_F (t : K) (A : Mat K m n) : Povm.projEqVarF t A = Povm.projEq t A := rfl

/-! ## Gate -/

/-- C04.1 (Gate) membership. -/
theorem gate_projEq_mem (H : Mat K n n) : Gate.Feas (Gate.projEq H) := by
  intro a b ha; simp [Gate.projEq_get, ha]

/-- C04.1 (Gate) orthogonality. -/
theorem gate_projEq_orth (H Y : Mat K n n) (hY : Gate.Feas Y) :
    ip2 (H.sub (Gate.projEq H)) (Y.sub (Gate.projEq H)) = 0 := by
  unfold ip2
  apply Finset.sum_eq_zero; intro a _
  apply Finset.sum_eq_zero; intro b _
  by_cases ha : a.val = 0
  · simp [Mat.sub, Gate.projEq_get, ha, hY a b ha]
  · simp [Mat.sub, Gate.projEq_get, ha]

/-- C04.1 (Gate) nearest point. -/
theorem gate_projEq_nearest (H Y : Mat K n n) (hY : Gate.Feas Y) :
    sqd2 H (Gate.projEq H) ≤ sqd2 H Y :=
  nearest2 _ _ _ (le_of_eq (gate_projEq_orth H Y hY))

/-- C04.2 (Gate) fixed points. -/
theorem gate_projEq_fix (H : Mat K n n) (hH : Gate.Feas H) : Gate.projEq H = H := by
  apply Mat.ext'; intro a b
  by_cases ha : a.val = 0
  · simp [Gate.projEq_get, ha, hH a b ha]
  · simp [Gate.projEq_get, ha]

/-- C04.2 (Gate) idempotence. -/
theorem gate_projEq_idem (H : Mat K n n) : Gate.projEq (Gate.projEq H) = Gate.projEq H :=
  gate_projEq_fix _ (gate_projEq_mem H)

/-- C04.3 (Gate) the flat index arithmetic of `calc_proj_eq_constraint_with_var(…, False)`
(`new_var[0] = 1; new_var[1:n] = 0`) is the object-level projection on the row-major flattening. -/
theorem gate_var_eq_obj_F (H : Mat K n n) :
    Gate.projEqVar n false (flatten H) = flatten (Gate.projEq H) := by
  apply Vec.ext'; intro k
  have hn : 0 < n := pos_of_lt_mul k.isLt
  simp only [Gate.projEqVar, Bool.false_eq_true, if_false, flatten, Vec.get_ofFn, Gate.projEq_get, e0]
  have hdiv : k.val / n = 0 ↔ k.val < n := Nat.div_eq_zero_iff_lt hn
  by_cases h0 : k.val = 0
  · simp [h0, hn]
  · by_cases hlt : k.val < n
    · have : k.val % n = k.val := Nat.mod_eq_of_lt hlt
      simp [h0, hlt, hdiv.2 hlt, this]
    · have : ¬ k.val / n = 0 := fun h => hlt (hdiv.1 h)
      simp [h0, hlt, this]

/-- C04.3 (Gate) flag True: the closure `generate_from_var → calc_proj_eq_constraint → to_var` returns the variable. -/
theorem gate_var_eq_obj_T (V : Mat K n (n + 1)) : Gate.funcProjEqT V = V := by
  apply Mat.ext'; intro a b
  simp [Gate.funcProjEqT, Gate.toVarT, Gate.projEq_get, Gate.ofVarT]

/-! ## MProcess -/

/-- C04.1 (MProcess) membership. -/
theorem mprocess_projEq_mem (T : Ten K m n n) (hm : 0 < m) : MProcess.Feas (MProcess.projEq T) := by
  intro a b ha
  have hm' : (m : K) ≠ 0 := by exact_mod_cast hm.ne'
  simp only [MProcess.projEq_get, ha, if_true, Finset.sum_sub_distrib, Finset.sum_const,
    Finset.card_univ, Fintype.card_fin, nsmul_eq_mul]
  field_simp
  ring

/-- C04.1 (MProcess) orthogonality. -/
theorem mprocess_projEq_orth (T Y : Ten K m n n) (hm : 0 < m) (hY : MProcess.Feas Y) :
    ip3 (Ten.sub T (MProcess.projEq T)) (Ten.sub Y (MProcess.projEq T)) = 0 := by
  have hP := mprocess_projEq_mem T hm
  unfold ip3
  rw [Finset.sum_comm]
  apply Finset.sum_eq_zero; intro a _
  rw [Finset.sum_comm]
  apply Finset.sum_eq_zero; intro b _
  by_cases ha : a.val = 0
  · have hr : ∀ x, (Ten.sub T (MProcess.projEq T)).get x a b
        = ((∑ x', T.get x' a b) - e0 b) / (m : K) := by
      intro x; simp only [Ten.sub, Ten.get_ofFn, MProcess.projEq_get, ha, if_true]; ring
    simp only [hr, ← Finset.mul_sum]
    have : ∑ x, (Ten.sub Y (MProcess.projEq T)).get x a b = 0 := by
      simp only [Ten.sub, Ten.get_ofFn, Finset.sum_sub_distrib, hY a b ha, hP a b ha, sub_self]
    rw [this, mul_zero]
  · apply Finset.sum_eq_zero; intro x _
    simp [Ten.sub, MProcess.projEq_get, ha]

/-- C04.1 (MProcess) nearest point. -/
theorem mprocess_projEq_nearest (T Y : Ten K m n n) (hm : 0 < m) (hY : MProcess.Feas Y) :
    sqd3 T (MProcess.projEq T) ≤ sqd3 T Y :=
  nearest3 _ _ _ (le_of_eq (mprocess_projEq_orth T Y hm hY))

/-- C04.2 (MProcess) fixed points. -/
theorem mprocess_projEq_fix (T : Ten K m n n) (hT : MProcess.Feas T) :
    MProcess.projEq T = T := by
  apply Ten.ext'; intro x a b
  rw [MProcess.projEq_get]
  split
  · rename_i ha; rw [hT a b ha]; simp
  · rfl

/-- C04.2 (MProcess) idempotence. -/
theorem mprocess_projEq_idem (T : Ten K m n n) (hm : 0 < m) :
    MProcess.projEq (MProcess.projEq T) = MProcess.projEq T :=
  mprocess_projEq_fix _ (mprocess_projEq_mem T hm)

/-- C04.3 (MProcess), flag False — DEFINITIONAL in the model (`projEqVarF := projEq`); agreement of the two SOURCE sites:
`gen_mprocess_eq`, plus correspondence and oracle. -/
theorem mprocess_var_eq_obj_F (T : Ten K m n n) : MProcess.projEqVarF T = MProcess.projEq T := rfl

/-- C04.3 (MProcess) under the parametrised constraint the completed m-process `ofVarT` is feasible (the first row of the last
outcome is `e0 − Σ first rows`), hence the variable-level projection returns the variables. -/
theorem mprocess_var_T_id (pre : Ten K m (n + 1) (n + 1)) (rest : Mat K n (n + 1)) :
    MProcess.projEqVarT pre rest = (pre, rest) := by
  have hfeas : MProcess.Feas (MProcess.ofVarT pre rest) := by
    intro a b ha
    have ha0 : a = (⟨0, Nat.succ_pos n⟩ : Fin (n + 1)) := Fin.ext ha
    rw [ha0, Fin.sum_univ_castSucc]
    simp [MProcess.ofVarT, fsum_eq_sum]
  unfold MProcess.projEqVarT
  rw [mprocess_projEq_fix _ hfeas]
  simp only [MProcess.toVarT, Prod.mk.injEq]
  constructor
  · apply Ten.ext'; intro x a b; simp [MProcess.ofVarT]
  · apply Mat.ext'; intro a b; simp [MProcess.ofVarT]

/-! ## uniqueness of the nearest feasible point (all four types) -/

/-- C04.1 uniqueness: a feasible point at least as close as the projection IS the projection. -/
theorem state_projEq_unique (s : K) (v y : Vec K n) (hy : State.Feas s y) (h : sqd1 v y ≤ sqd1 v (State.projEq s v)) :
    y = State.projEq s v :=
  unique1 _ _ _ (le_of_eq (state_projEq_orth s v y hy)) h

/-- C04.1 uniqueness (Povm). -/
theorem povm_projEq_unique (t : K) (A Y : Mat K m n) (hm : 0 < m) (hY : Povm.Feas t Y)
    (h : sqd2 A Y ≤ sqd2 A (Povm.projEq t A)) : Y = Povm.projEq t A :=
  unique2 _ _ _ (le_of_eq (povm_projEq_orth t A Y hm hY)) h

/-- C04.1 uniqueness (Gate). -/
theorem gate_projEq_unique (H Y : Mat K n n) (hY : Gate.Feas Y) (h : sqd2 H Y ≤ sqd2 H (Gate.projEq H)) :
    Y = Gate.projEq H :=
  unique2 _ _ _ (le_of_eq (gate_projEq_orth H Y hY)) h

/-- C04.1 uniqueness (MProcess). -/
theorem mprocess_projEq_unique (T Y : Ten K m n n) (hm : 0 < m) (hY : MProcess.Feas Y)
    (h : sqd3 T Y ≤ sqd3 T (MProcess.projEq T)) : Y = MProcess.projEq T :=
  unique3 _ _ _ (le_of_eq (mprocess_projEq_orth T Y hm hY)) h

/-! ### tie to the source: definitions regenerated from state.py / gate.py / povm.py / mprocess.py on every run (QGen.C04) equal the hand model -/

/-- tie to the source (State): the element assignments translated from state.py on this run are the model's projections. -/
theorem gen_state_eq (dim : Nat) (s : K) (flag : Bool) (v : Vec K n) :
    QGen.C04.stateEqObj dim s v = State.projEq s v ∧ QGen.C04.stateEqVar dim s flag v = State.projEqVar s flag v :=
  ⟨rfl, rfl⟩

/-- tie to the source (Gate): the element / slice assignments translated from gate.py on this run
(`hs[0][0] = 1; hs[0][1:] = 0` and `new_var[0] = 1; new_var[1 : dim ** 2] = 0`) are the model's projections with `n = dim²`. -/
theorem gen_gate_eq (dim : Nat) (flag : Bool) (hs : Mat K n n) (var : Vec K N) :
    QGen.C04.gateEqObj dim hs = Gate.projEq hs ∧ QGen.C04.gateEqVar dim flag var = Gate.projEqVar (dim * dim) flag var := by
  constructor
  · apply Mat.ext'; intro a b
    simp only [QGen.C04.gateEqObj, Mat.get_ofFn, Gate.projEq_get, e0]
    by_cases ha : a.val = 0 <;> by_cases hb : b.val = 0 <;> simp [ha, hb] <;> omega
  · unfold QGen.C04.gateEqVar Gate.projEqVar
    cases flag
    · simp only [Bool.false_eq_true, if_false]
      apply Vec.ext'; intro k
      simp only [Vec.get_ofFn, pow_two]
      by_cases hk : k.val = 0
      · simp [hk]
      · have : 1 ≤ k.val := Nat.one_le_iff_ne_zero.2 hk
        simp [hk, this]
    · rfl

/-- tie to the source (Povm): the equality arithmetic translated from povm.py on this run (`new_vec = vec - a_bar + c` with
`a_bar = np.sum(vecs, axis=0)/m`, `c = [√d/m, 0, …]`), object level and `_with_var`, is the model's projection — so for flag
False "object level = variable level" is a statement about the two SOURCE sites, not only about the model. -/
theorem gen_povm_eq (t : K) (vecs : Mat K m n) :
    QGen.C04.povmEqObj t vecs = Povm.projEq t vecs ∧ QGen.C04.povmEqVar t vecs = Povm.projEqVarF t vecs := by
  constructor <;>
  · apply Mat.ext'; intro x i
    simp [QGen.C04.povmEqObj, QGen.C04.povmEqVar, Povm.projEqVarF, Povm.projEq]

/-- tie to the source (MProcess): `vec = Σ hs[0]; vec[0] -= 1; hs[0] -= vec / len(hss)` as translated from mprocess.py,
object level and `_with_var`, is the model's projection. -/
theorem gen_mprocess_eq (hss : Ten K m n n) :
    QGen.C04.mprocessEqObj hss = MProcess.projEq hss ∧ QGen.C04.mprocessEqVar hss = MProcess.projEqVarF hss :=
  ⟨rfl, rfl⟩

-- the generated definitions compute (K = ℚ)
example : QGen.C04.povmEqObj (2 : Rat) (#v[#v[1, 2], #v[3, 4]] : Mat Rat 2 2) = #v[#v[0, -1], #v[2, 1]] := by decide +kernel
example : QGen.C04.mprocessEqVar (#v[#v[#v[1, 2], #v[3, 4]], #v[#v[5, 6], #v[7, 8]]] : Ten Rat 2 2 2)
    = #v[#v[#v[-3/2, -2], #v[3, 4]], #v[#v[5/2, 2], #v[7, 8]]] := by decide +kernel

/-- NOT a property theorem with content (kept for the record of defect D5, repaired in /repo d072139): in the model the
"caller's array after the call" is the identity by definition, so this is `rfl`.  Clause C04.4 ("never modify their argument") is
established by the before/after snapshots of every call site in the correspondence and the oracle ONLY. -/
theorem mprocess_eq_var_argument_model_trivial (T : Ten K m n n) (pre : Ten K m (n + 1) (n + 1))
    (rest : Mat K n (n + 1)) :
    MProcess.argAfterEqVarF T = T ∧ MProcess.argAfterEqVarT pre rest = (pre, rest) := ⟨rfl, rfl⟩

/-- … and the value the flag-False routine returns for a feasible argument is the argument (`projEqVarF := projEq`, `mprocess_projEq_fix`). -/
theorem mprocess_eq_var_F_feasible_unchanged (T : Ten K m n n) (hm : 0 < m) (hT : MProcess.Feas T) :
    MProcess.projEqVarF T = T := mprocess_projEq_fix T hT

-- Gate: value, feasibility of the hypotheses of `_fix` / `_nearest` / `_unique`
example : Gate.projEq (#v[#v[3, 4], #v[5, 6]] : Mat Rat 2 2) = #v[#v[1, 0], #v[5, 6]] := by decide +kernel
example (H : Mat Rat 2 2) : sqd2 H (Gate.projEq H) ≤ sqd2 H (Gate.projEq (#v[#v[3, 4], #v[5, 6]] : Mat Rat 2 2)) :=
  gate_projEq_nearest H _ (gate_projEq_mem _)

-- non-vacuity: concrete non-trivial instances (K = ℚ)
example : State.Feas (1/2 : Rat) (State.projEq (1/2) (#v[3, 4, 5] : Vec Rat 3)) := state_projEq_mem _ _
example : Povm.projEq (2 : Rat) (#v[#v[1, 2], #v[3, 4]] : Mat Rat 2 2) = #v[#v[0, -1], #v[2, 1]] := by
  decide +kernel
example : MProcess.projEq (#v[#v[#v[1, 2], #v[3, 4]], #v[#v[5, 6], #v[7, 8]]] : Ten Rat 2 2 2)
    = #v[#v[#v[-3/2, -2], #v[3, 4]], #v[#v[5/2, 2], #v[7, 8]]] := by decide +kernel

/-! # Part 2 — inequality projections (ℝ parameters, ℂ operators)

`projIneqCore B eps lam U` is the common core of all eight `calc_proj_ineq_constraint*` routines: State and
Povm elements use it with the operator basis `B` (size `d`), Gate and MProcess outcomes with
`kronBasis B` (Choi matrices, size `d²`).  `(lam, U)` is the result of `np.linalg.eigh` and a model parameter;
its contract (`U` unitary, `U diag(lam) Uᴴ` = the operator of the input parameters) is a hypothesis.
The nearest-point theorems are for `eps = 0` (no truncation); `_partial`: (i) the truncation thresholds of `truncate_hs`
(`eps = 1e-13` moves each coordinate by less than `eps`: `projIneqCore_eps_partial`; and makes the real code raise where rounding
leaves an imaginary residue ≥ `eps`: `truncate_raises_iff`), (ii) float accuracy of `eigh`, (iii) completeness of the basis, which
enters the theorems for a basis of any size `n` as the explicit hypothesis `hspan` (the clipped operator lies in the real span of
`B`) and is derived for orthonormal Hermitian bases of `d²` elements (section "complete bases"). -/
section ineq
open Matrix
open scoped ComplexOrder MatrixOrder
variable {n d : Nat}

/-- C04.2-psd feasibility: the operator of the projected parameters is the clipped matrix, which is PSD. -/
theorem projIneqCore_feasible_partial (B : Vector (Mat ℂ d d) n) (lam : Vec ℝ d) (U : Mat ℂ d d)
    (p : Vec ℝ n) (hspan : matOfVec B p = clipMat U lam) :
    (matOfVec B p).toM.PosSemidef := by
  rw [hspan, toM_clipMat]; exact Psd.clip_posSemidef _ _

/-- coordinates of a successful `projIneqCore … 0 …` are the real parts of the coefficients tr(B_αᴴ P) of the clipped matrix -/
theorem projIneqCore_coeff (B : Vector (Mat ℂ d d) n) (lam : Vec ℝ d) (U : Mat ℂ d d) (p : Vec ℝ n)
    (hp : projIneqCore B (0 : ℝ) lam U = .ok p) :
    (fun a => p.get a) = Psd.coeff (basisM B) (Psd.clip U.toM (fun i => lam.get i)) := by
  funext a
  rw [truncate_zero_get _ _ hp a, re_coeffs, toM_clipMat]

/-- C04.2-vi: variational inequality in parameter space: for every parameter vector `y` whose operator is PSD,
`⟪x − p, y − p⟫ ≤ 0`. -/
theorem projIneqCore_vi_partial (B : Vector (Mat ℂ d d) n) (hB : Psd.OrthoN (basisM B))
    (x : Vec ℝ n) (lam : Vec ℝ d) (U : Mat ℂ d d) (hU : U.toMᴴ * U.toM = 1)
    (hA : matOfVec B x = rebuild U lam) (p : Vec ℝ n) (hspan : matOfVec B p = clipMat U lam)
    (y : Vec ℝ n) (hy : (matOfVec B y).toM.PosSemidef) :
    ip1 (x.sub p) (y.sub p) ≤ 0 := by
  rw [ip1_sub]
  exact Psd.param_vi (basisM B) hB U.toM hU (fun i => lam.get i) (fun a => x.get a)
    (by rw [← toM_matOfVec, hA]; exact toM_rebuild U lam) (fun a => p.get a) (by rw [← toM_matOfVec, hspan, toM_clipMat])
    (fun a => y.get a) (by rwa [← toM_matOfVec])

/-- C04.2-nearest: eigenvalue clipping returns the parameter vector nearest (Euclidean norm of the parameters) to `x`
among all parameter vectors whose operator is PSD. -/
theorem projIneqCore_nearest_partial (B : Vector (Mat ℂ d d) n) (hB : Psd.OrthoN (basisM B))
    (x : Vec ℝ n) (lam : Vec ℝ d) (U : Mat ℂ d d) (hU : U.toMᴴ * U.toM = 1)
    (hA : matOfVec B x = rebuild U lam) (p : Vec ℝ n) (hspan : matOfVec B p = clipMat U lam)
    (y : Vec ℝ n) (hy : (matOfVec B y).toM.PosSemidef) :
    sqd1 x p ≤ sqd1 x y :=
  nearest1 x p y (projIneqCore_vi_partial B hB x lam U hU hA p hspan y hy)

/-- C04.2-fix: parameters whose operator is already PSD are returned unchanged, whichever unitary
eigen-decomposition `eigh` returns. -/
theorem projIneqCore_fix_partial (B : Vector (Mat ℂ d d) n) (hB : Psd.OrthoN (basisM B))
    (x : Vec ℝ n) (lam : Vec ℝ d) (U : Mat ℂ d d) (hU : U.toMᴴ * U.toM = 1)
    (hA : matOfVec B x = rebuild U lam) (hx : (matOfVec B x).toM.PosSemidef)
    (p : Vec ℝ n) (hp : projIneqCore B (0 : ℝ) lam U = .ok p) : p = x := by
  have hc := projIneqCore_coeff B lam U p hp
  have hA' : (matOfVec B x).toM = U.toM * diagonal (fun i => ((lam.get i : ℝ) : ℂ)) * U.toMᴴ := by
    rw [hA, toM_rebuild]
  have hfix := Psd.clip_fix U.toM hU (fun i => lam.get i) _ hA' hx
  rw [hfix, toM_matOfVec, Psd.coeff_synth _ hB] at hc
  apply Vec.ext'; intro a; exact congrFun hc a

/-- C04.2-idem: projecting the projected parameters again (with any unitary eigen-decomposition `(lam', U')` of
their operator) returns them. -/
theorem projIneqCore_idem_partial (B : Vector (Mat ℂ d d) n) (hB : Psd.OrthoN (basisM B))
    (lam : Vec ℝ d) (U : Mat ℂ d d) (p : Vec ℝ n) (hspan : matOfVec B p = clipMat U lam)
    (lam' : Vec ℝ d) (U' : Mat ℂ d d) (hU' : U'.toMᴴ * U'.toM = 1) (hA' : matOfVec B p = rebuild U' lam')
    (p' : Vec ℝ n) (hp' : projIneqCore B (0 : ℝ) lam' U' = .ok p') : p' = p :=
  projIneqCore_fix_partial B hB p lam' U' hU' hA' (projIneqCore_feasible_partial B lam U p hspan) p' hp'

/-- C04.2 for products of cones (POVM elements, measurement-process outcomes): block-wise nearest points add up
to the nearest point of the stacked parameters. -/
theorem blocks_nearest_partial {m : Nat} (B : Vector (Mat ℂ d d) n) (hB : Psd.OrthoN (basisM B))
    (X P Y : Fin m → Vec ℝ n) (lam : Fin m → Vec ℝ d) (U : Fin m → Mat ℂ d d)
    (hU : ∀ k, (U k).toMᴴ * (U k).toM = 1) (hA : ∀ k, matOfVec B (X k) = rebuild (U k) (lam k))
    (hp : ∀ k, projIneqCore B (0 : ℝ) (lam k) (U k) = .ok (P k))
    (hspan : ∀ k, matOfVec B (P k) = clipMat (U k) (lam k))
    (hy : ∀ k, (matOfVec B (Y k)).toM.PosSemidef) :
    ∑ k, sqd1 (X k) (P k) ≤ ∑ k, sqd1 (X k) (Y k) :=
  Finset.sum_le_sum fun k _ =>
    projIneqCore_nearest_partial B hB (X k) (lam k) (U k) (hU k) (hA k) (P k) (hspan k) (Y k) (hy k)

/-- C04.3 variable-level forms with the parametrised constraint are the object-level results with the constrained
coordinates dropped (definitional in the model; the correspondence ties each to its own code site). -/
theorem povm_ineq_var_T (B : Vector (Mat ℂ d d) n) (eps : ℝ) {m : Nat} (eig : Vector (Vec ℝ d × Mat ℂ d d) (m + 1)) :
    Povm.projIneqVarT B eps eig = (Povm.projIneq B eps eig).map Povm.toVarT := rfl

theorem gate_ineq_var_T (B : Vector (Mat ℂ d d) n) (eps : ℝ) (lam : Vec ℝ (d * d)) (U : Mat ℂ (d * d) (d * d)) :
    Gate.projIneqVarT B eps lam U = (Gate.projIneq B eps lam U).map (Gate.dropRow0 n) := rfl

/-- the Kronecker family `B_α ⊗ conj B_β` (rows of quara's `basis_basisconjugate`) is orthonormal when `B` is -/
theorem orthoN_kronBasis (B : Vector (Mat ℂ d d) n) (hB : Psd.OrthoN (basisM B)) :
    Psd.OrthoN (basisM (kronBasis B)) := by
  intro c c'
  -- `tr((A ⊗ conj C)ᴴ (A' ⊗ conj C')) = tr(Aᴴ A') · tr(C'ᴴ C)`
  rw [basisM_kron, basisM_kron, conjTranspose_submatrix, submatrix_mul_equiv, trace_submatrix_equiv,
    conjTranspose_kronecker, ← mul_kronecker_mul, trace_kronecker, hB,
    ← transpose_conjTranspose (basisM B c.modNat), conjTranspose_conjTranspose,
    ← conjTranspose_transpose (basisM B c'.modNat), ← transpose_mul, trace_transpose, hB]
  have hcc : c = c' ↔ c.divNat = c'.divNat ∧ c'.modNat = c.modNat := by
    rw [← finProdFinEquiv.symm.apply_eq_iff_eq, eq_comm (a := c'.modNat)]; exact Prod.ext_iff
  simp only [hcc, ite_and, ite_mul, one_mul, zero_mul]

/-- C04.2-nearest for Gate (and each MProcess outcome): clipping the Choi spectrum returns the HS parameters nearest to
`x` among all HS parameters with PSD Choi matrix; orthonormality of the Choi basis is derived from that of `B`. -/
theorem gate_projIneq_nearest_partial (B : Vector (Mat ℂ d d) n) (hB : Psd.OrthoN (basisM B))
    (x : Vec ℝ (n * n)) (lam : Vec ℝ (d * d)) (U : Mat ℂ (d * d) (d * d)) (hU : U.toMᴴ * U.toM = 1)
    (hA : matOfVec (kronBasis B) x = rebuild U lam) (p : Vec ℝ (n * n))
    (hp : Gate.projIneq B (0 : ℝ) lam U = .ok p) (hspan : matOfVec (kronBasis B) p = clipMat U lam)
    (y : Vec ℝ (n * n)) (hy : (matOfVec (kronBasis B) y).toM.PosSemidef) :
    sqd1 x p ≤ sqd1 x y :=
  projIneqCore_nearest_partial (kronBasis B) (orthoN_kronBasis B hB) x lam U hU hA p hspan y hy

/-! ### complete bases (`d²` orthonormal Hermitian matrices, as every basis quara ships): no `hspan`, no `hp`

Completeness is derived from orthonormality by the dimension count (`Psd.synth_coeff_of_orthoN`, a left inverse of a square
matrix is a right inverse), so the only idealisations left in the `_partial` theorems below are: exact `eigh` result and
`eps = 0` — and `projIneqCore_eps_partial` bounds the effect of the real `eps > 0`. -/
open QM.Psd in
/-- in exact arithmetic the projection never raises and its operator is the clipped matrix: with an orthonormal Hermitian
basis of `d²` elements the hypothesis `hspan` of the `_partial` theorems is a theorem -/
theorem projIneqCore_ok (B : Vector (Mat ℂ d d) (d * d)) (hB : OrthoN (basisM B)) (hH : HermB B)
    (lam : Vec ℝ d) (U : Mat ℂ d d) :
    ∃ p, projIneqCore B (0 : ℝ) lam U = .ok p ∧ matOfVec B p = clipMat U lam := by
  refine ⟨_, truncate_zero_ok _ (coeffs_clipMat_im B hH lam U), Mat.toM_injective ?_⟩
  rw [toM_matOfVec]
  simp only [Vec.get_ofFn, re_coeffs]
  exact synth_coeff_of_orthoN (basisM B) hB hH _ (by rw [toM_clipMat]; exact clip_isHermitian _ _)

open QM.Psd in
/-- … so the operator of any returned vector is the clipped matrix -/
theorem projIneqCore_span (B : Vector (Mat ℂ d d) (d * d)) (hB : OrthoN (basisM B)) (hH : HermB B)
    (lam : Vec ℝ d) (U : Mat ℂ d d) (p : Vec ℝ (d * d)) (hp : projIneqCore B (0 : ℝ) lam U = .ok p) :
    matOfVec B p = clipMat U lam := by
  obtain ⟨p0, hp0, hspan⟩ := projIneqCore_ok B hB hH lam U
  rw [hp] at hp0
  injection hp0 with h0
  rwa [h0]

open QM.Psd in
/-- C04.2 for a complete basis (State, POVM element): for an orthonormal Hermitian basis of `d²` matrices and an exact
eigh result of the operator of `x`, the routine returns (does not raise) a parameter vector `p` whose operator is PSD and
which satisfies the variational inequality, hence is the nearest parameter vector with PSD operator. -/
theorem projIneqCore_spec_partial (B : Vector (Mat ℂ d d) (d * d)) (hB : OrthoN (basisM B)) (hH : HermB B)
    (x : Vec ℝ (d * d)) (lam : Vec ℝ d) (U : Mat ℂ d d) (hU : U.toMᴴ * U.toM = 1)
    (hA : matOfVec B x = rebuild U lam) :
    ∃ p, projIneqCore B (0 : ℝ) lam U = .ok p ∧ (matOfVec B p).toM.PosSemidef ∧
      ∀ y, (matOfVec B y).toM.PosSemidef → ip1 (x.sub p) (y.sub p) ≤ 0 ∧ sqd1 x p ≤ sqd1 x y := by
  obtain ⟨p, hp, hspan⟩ := projIneqCore_ok B hB hH lam U
  exact ⟨p, hp, projIneqCore_feasible_partial B lam U p hspan, fun y hy =>
    ⟨projIneqCore_vi_partial B hB x lam U hU hA p hspan y hy,
     projIneqCore_nearest_partial B hB x lam U hU hA p hspan y hy⟩⟩

open QM.Psd in
/-- C04.2 for Gate / each MProcess outcome with a complete basis: everything is derived from orthonormality and
Hermiticity of the `d²` operator basis elements (the Choi basis `B_α ⊗ conj B_β` inherits both and has `(d²)²` elements). -/
theorem gate_projIneq_spec_partial (B : Vector (Mat ℂ d d) (d * d)) (hB : OrthoN (basisM B)) (hH : HermB B)
    (x : Vec ℝ ((d * d) * (d * d))) (lam : Vec ℝ (d * d)) (U : Mat ℂ (d * d) (d * d)) (hU : U.toMᴴ * U.toM = 1)
    (hA : matOfVec (kronBasis B) x = rebuild U lam) :
    ∃ p, Gate.projIneq B (0 : ℝ) lam U = .ok p ∧ (matOfVec (kronBasis B) p).toM.PosSemidef ∧
      ∀ y, (matOfVec (kronBasis B) y).toM.PosSemidef → ip1 (x.sub p) (y.sub p) ≤ 0 ∧ sqd1 x p ≤ sqd1 x y :=
  projIneqCore_spec_partial (kronBasis B) (orthoN_kronBasis B hB) (hermB_kron B hH) x lam U hU hA

open QM.Psd in
/-- C04.2 idempotence for a complete basis: projecting the projected parameters again, with any unitary
eigen-decomposition `(lam', U')` of their operator, returns them. -/
theorem projIneqCore_idem_spec_partial (B : Vector (Mat ℂ d d) (d * d)) (hB : OrthoN (basisM B)) (hH : HermB B)
    (lam : Vec ℝ d) (U : Mat ℂ d d) (p : Vec ℝ (d * d)) (hp : projIneqCore B (0 : ℝ) lam U = .ok p)
    (lam' : Vec ℝ d) (U' : Mat ℂ d d) (hU' : U'.toMᴴ * U'.toM = 1) (hA' : matOfVec B p = rebuild U' lam')
    (p' : Vec ℝ (d * d)) (hp' : projIneqCore B (0 : ℝ) lam' U' = .ok p') : p' = p :=
  projIneqCore_idem_partial B hB lam U p (projIneqCore_span B hB hH lam U p hp) lam' U' hU' hA' p' hp'

open QM.Psd in
/-- C04.2 with the real threshold `eps > 0` (`eps_truncate_imaginary_part`, 1e-13 by default): in exact arithmetic the
routine still does not raise, and its result differs from the exact nearest point `p` (the `eps = 0` result) by less than
`eps` in every coordinate — entries of modulus `< eps` are replaced by 0, nothing else changes. -/
theorem projIneqCore_eps_partial (B : Vector (Mat ℂ d d) (d * d)) (hB : OrthoN (basisM B)) (hH : HermB B)
    (lam : Vec ℝ d) (U : Mat ℂ d d) (eps : ℝ) (heps : 0 < eps) :
    ∃ p pe, projIneqCore B (0 : ℝ) lam U = .ok p ∧ projIneqCore B eps lam U = .ok pe ∧
      ∀ a, |pe.get a - p.get a| < eps := by
  obtain ⟨p, hp, _⟩ := projIneqCore_ok B hB hH lam U
  have hpe := truncate_ok_of eps (coeffs B (clipMat U lam)) fun a => Or.inr (coeffs_clipMat_im B hH lam U a)
  refine ⟨p, _, hp, hpe, fun a => ?_⟩
  rw [Vec.get_ofFn, truncate_zero_get _ _ hp a]
  exact abs_chop_sub_lt heps _

-- non-vacuity of the complete-basis hypotheses (d = 1: the single matrix (1)); for d = 2, 3, 4, 6 the harness checks
-- orthonormality, Hermiticity and the count d² of the bases quara ships numerically on every run
open QM.Psd in
example : OrthoN (basisM (Vector.ofFn fun _ => Mat.ofFn fun _ _ => (1 : ℂ) : Vector (Mat ℂ 1 1) (1 * 1))) ∧
    HermB (Vector.ofFn fun _ => Mat.ofFn fun _ _ => (1 : ℂ) : Vector (Mat ℂ 1 1) (1 * 1)) := by
  constructor
  · intro a b
    have : a = b := by apply Fin.ext; have := a.isLt; have := b.isLt; omega
    subst this
    simp [basisM, Matrix.trace, Matrix.mul_apply, Mat.toM]
  · intro a
    ext i j
    simp [basisM, Mat.toM, Matrix.conjTranspose_apply]

open QM.Psd in
/-- the basis the code actually uses for a qubit (`get_normalized_pauli_basis`, σ_a/√2 over ℂ) satisfies the hypotheses of the
complete-basis theorems: orthonormal … -/
theorem pauli_orthoN : OrthoN (basisM pauliB) := by
  have e : ∀ x y : ℂ, star (rs2 * x) * (rs2 * y) = (1 / 2) * (star x * y) := by
    intro x y; rw [star_mul', star_rs2, ← rs2_mul_self]; ring
  intro a b
  simp only [trace_conj_mul, pauliB_apply, e, Fin.sum_univ_two, sigma_tbl, Matrix.cons_val]
  fin_cases a <;> fin_cases b <;> simp <;> norm_num

open QM.Psd in
/-- … and Hermitian (4 = 2² elements by its type). -/
theorem pauli_hermB : HermB pauliB := by
  intro a
  ext i j
  rw [Matrix.conjTranspose_apply, pauliB_apply, pauliB_apply, star_mul', star_rs2, sigma_tbl, sigma_tbl]
  revert a i j
  simp [Fin.forall_fin_succ]

-- non-vacuity of the complete-basis theorems on the real qubit basis: the spec theorem instantiated at the Pauli basis
open QM.Psd in
example (x : Vec ℝ (2 * 2)) (lam : Vec ℝ 2) (U : Mat ℂ 2 2) (hU : U.toMᴴ * U.toM = 1)
    (hA : matOfVec (pauliB : Vector (Mat ℂ 2 2) (2 * 2)) x = rebuild U lam) :
    ∃ p, projIneqCore (pauliB : Vector (Mat ℂ 2 2) (2 * 2)) (0 : ℝ) lam U = .ok p ∧ (matOfVec pauliB p).toM.PosSemidef ∧
      ∀ y, (matOfVec pauliB y).toM.PosSemidef → ip1 (x.sub p) (y.sub p) ≤ 0 ∧ sqd1 x p ≤ sqd1 x y :=
  projIneqCore_spec_partial pauliB pauli_orthoN pauli_hermB x lam U hU hA

/-- C04 (finding D13) the imaginary-part guard of `truncate_hs` as coded: the routine accepts exactly when every
coordinate has `|im| < eps` or `im = 0`; otherwise it raises `ValueError` (model: `Err.imag`). The threshold is
ABSOLUTE (`eps` does not scale with the input). -/
theorem truncate_ok_iff (eps : ℝ) (v : Vec ℂ n) :
    (∃ p, truncate eps v = .ok p) ↔ ∀ a, |(v.get a).im| < eps ∨ (v.get a).im = 0 := by
  refine ⟨fun ⟨p, h⟩ a => ?_, fun h => ⟨_, truncate_ok_of eps v h⟩⟩
  by_contra hcon
  rw [not_or] at hcon
  rw [truncate_err_of eps v a hcon.1 hcon.2] at h
  cases h

theorem truncate_raises_iff (eps : ℝ) (v : Vec ℂ n) :
    truncate eps v = .error .imag ↔ ∃ a, ¬ |(v.get a).im| < eps ∧ (v.get a).im ≠ 0 := by
  classical
  rw [truncate_eq]
  split
  · exact iff_of_true rfl ‹_›
  · exact iff_of_false (fun h => by cases h) ‹_›

/-- C04 (D13) effect of a rounding perturbation of the coefficient vector: if the exact coefficients `v` are real and the
computed ones `w` deviate by less than `eta` in every coordinate (real and imaginary part), then
`eta ≤ eps` ⇒ the routine accepts and every output coordinate is within `eta + eps` of the exact projection coordinate;
while any coordinate with `|im w| ≥ eps` makes it raise — however small that is relative to the size of the input. -/
theorem truncate_perturbed (eps eta : ℝ) (v w : Vec ℂ n) (hv : ∀ a, (v.get a).im = 0)
    (hre : ∀ a, |(w.get a).re - (v.get a).re| < eta) (him : ∀ a, |(w.get a).im - (v.get a).im| < eta)
    (hle : eta ≤ eps) :
    ∃ p, truncate eps w = .ok p ∧ ∀ a, |p.get a - (v.get a).re| < eta + eps := by
  refine ⟨_, truncate_ok_of eps w fun a => Or.inl ?_, fun a => ?_⟩
  · have := him a; rw [hv a, sub_zero] at this; exact this.trans_le hle
  · have h1 := hre a
    have h2 := abs_chop_sub_lt (((abs_nonneg _).trans_lt h1).trans_le hle) (w.get a).re
    rw [Vec.get_ofFn]
    exact (abs_sub_le _ (w.get a).re _).trans_lt (by linarith)

-- non-vacuity of the guard theorems: a coordinate with imaginary part 1 and threshold 1/10 raises
example : truncate (1/10 : ℝ) (Vec.ofFn fun _ : Fin 1 => Complex.I) = .error .imag :=
  (truncate_raises_iff _ _).2 ⟨0, by simp; norm_num, by simp⟩

section blocks
variable {m : Nat}
open QM.Psd in
/-- C04.2 blocks, executed function: a successful `Povm.projIneq` (the function the driver runs: per-element `projIneqCore`, results
sequenced) returns in row `k` exactly the result of the core projection of element `k`. -/
theorem povm_projIneq_blocks (B : Vector (Mat ℂ d d) n) (eps : ℝ) (eig : Vector (Vec ℝ d × Mat ℂ d d) m) (P : Mat ℝ m n)
    (h : Povm.projIneq B eps eig = .ok P) (k : Fin m) : projIneqCore B eps eig[k].1 eig[k].2 = .ok P[k] :=
  (seqV_ofFn _ P).1 h k

open QM.Psd in
/-- the same for `MProcess.projIneq` (per-outcome `Gate.projIneq`, i.e. the core projection w.r.t. the Choi basis). -/
theorem mprocess_projIneq_blocks (B : Vector (Mat ℂ d d) n) (eps : ℝ)
    (eig : Vector (Vec ℝ (d * d) × Mat ℂ (d * d) (d * d)) m) (P : Mat ℝ m (n * n))
    (h : MProcess.projIneq B eps eig = .ok P) (k : Fin m) :
    projIneqCore (kronBasis B) eps eig[k].1 eig[k].2 = .ok P[k] :=
  (seqV_ofFn _ P).1 h k

open QM.Psd in
/-- C04.2 for the executed `Povm.projIneq`, complete basis: given exact eigh results for every element, the routine does not
raise, every element of the result is PSD, and the result is the nearest POVM-parameter array (Euclidean norm of the stacked
parameters) among all arrays with PSD elements. -/
theorem povm_projIneq_spec_partial (B : Vector (Mat ℂ d d) (d * d)) (hB : OrthoN (basisM B)) (hH : HermB B)
    (X : Mat ℝ m (d * d)) (eig : Vector (Vec ℝ d × Mat ℂ d d) m)
    (hU : ∀ k : Fin m, eig[k].2.toMᴴ * eig[k].2.toM = 1) (hA : ∀ k : Fin m, matOfVec B X[k] = rebuild eig[k].2 eig[k].1) :
    ∃ P, Povm.projIneq B (0 : ℝ) eig = .ok P ∧ (∀ k : Fin m, (matOfVec B P[k]).toM.PosSemidef) ∧
      ∀ Y : Mat ℝ m (d * d), (∀ k : Fin m, (matOfVec B Y[k]).toM.PosSemidef) → sqd2 X P ≤ sqd2 X Y :=
  seqV_blocks_nearest _ (fun v => (matOfVec B v).toM.PosSemidef) X fun k =>
    let ⟨p, hp, hf, hn⟩ := projIneqCore_spec_partial B hB hH _ _ _ (hU k) (hA k)
    ⟨p, hp, hf, fun y hy => (hn y hy).2⟩

open QM.Psd in
/-- C04.2 for the executed `MProcess.projIneq`, complete basis (each outcome through the Choi basis). -/
theorem mprocess_projIneq_spec_partial (B : Vector (Mat ℂ d d) (d * d)) (hB : OrthoN (basisM B)) (hH : HermB B)
    (X : Mat ℝ m ((d * d) * (d * d))) (eig : Vector (Vec ℝ (d * d) × Mat ℂ (d * d) (d * d)) m)
    (hU : ∀ k : Fin m, eig[k].2.toMᴴ * eig[k].2.toM = 1)
    (hA : ∀ k : Fin m, matOfVec (kronBasis B) X[k] = rebuild eig[k].2 eig[k].1) :
    ∃ P, MProcess.projIneq B (0 : ℝ) eig = .ok P ∧ (∀ k : Fin m, (matOfVec (kronBasis B) P[k]).toM.PosSemidef) ∧
      ∀ Y : Mat ℝ m ((d * d) * (d * d)), (∀ k : Fin m, (matOfVec (kronBasis B) Y[k]).toM.PosSemidef) → sqd2 X P ≤ sqd2 X Y :=
  povm_projIneq_spec_partial (kronBasis B) (orthoN_kronBasis B hB) (hermB_kron B hH) X eig hU hA

-- non-vacuity on the real qubit basis (the eigh-contract hypotheses are satisfiable for every input: `eig_contract` in QProofs/C05Psd.lean)
open QM.Psd in
example {m : Nat} (X : Mat ℝ m (2 * 2)) (eig : Vector (Vec ℝ 2 × Mat ℂ 2 2) m)
    (hU : ∀ k : Fin m, eig[k].2.toMᴴ * eig[k].2.toM = 1)
    (hA : ∀ k : Fin m, matOfVec (pauliB : Vector (Mat ℂ 2 2) (2 * 2)) X[k] = rebuild eig[k].2 eig[k].1) :
    ∃ P, Povm.projIneq (pauliB : Vector (Mat ℂ 2 2) (2 * 2)) (0 : ℝ) eig = .ok P ∧
      (∀ k : Fin m, (matOfVec pauliB P[k]).toM.PosSemidef) ∧
      ∀ Y : Mat ℝ m (2 * 2), (∀ k : Fin m, (matOfVec pauliB Y[k]).toM.PosSemidef) → sqd2 X P ≤ sqd2 X Y :=
  povm_projIneq_spec_partial pauliB pauli_orthoN pauli_hermB X eig hU hA

end blocks

/-- C04.3 the variable-level State routine with the parametrised constraint is the object-level result with the
first coordinate dropped (definitional). -/
theorem state_ineq_var_T (B : Vector (Mat ℂ d d) (n + 1)) (eps : ℝ) (lam : Vec ℝ d) (U : Mat ℂ d d) :
    State.projIneqVarT B eps lam U = (State.projIneq B eps lam U).map State.toVarT := rfl

/-- C04.3 Gate/MProcess outcomes are the core projection w.r.t. the Kronecker basis `B_α ⊗ conj B_β` (Choi matrix). -/
theorem gate_ineq_is_core (B : Vector (Mat ℂ d d) n) (eps : ℝ) (lam : Vec ℝ (d * d)) (U : Mat ℂ (d * d) (d * d)) :
    Gate.projIneq B eps lam U = projIneqCore (kronBasis B) eps lam U := rfl

-- non-vacuity of the hypotheses of the `projIneqCore_*_partial` theorems: d = 2, the orthonormal Hermitian family
-- {E11, E22}, x = (1, −2) with eigh result U = 1, lam = (1, −2), projection p = (1, 0)
example : Psd.OrthoN (basisM exB) := by
  intro a b
  rw [trace_conj_mul]
  simp [basisM, exB_get, Fin.sum_univ_two]
  fin_cases a <;> fin_cases b <;> simp
example : exU.toMᴴ * exU.toM = 1 := by
  rw [exU_toM, conjTranspose_one, one_mul]
example : matOfVec exB exLam = rebuild exU exLam :=
  Mat.ext' fun i j => by rw [matOfVec_exB, rebuild_exU]
example : projIneqCore exB (0 : ℝ) exLam exU = .ok exP := by
  unfold projIneqCore
  rw [truncate_zero_ok]
  · congr 1; apply Vec.ext'; intro a
    simp [coeffs_exB, clipMat_exU, exP_get]
  · intro a
    simp [coeffs_exB, clipMat_exU]
example : matOfVec exB exP = clipMat exU exLam :=
  Mat.ext' fun i j => by rw [matOfVec_exB, clipMat_exU, exP_get]

end ineq

end QM.C04
