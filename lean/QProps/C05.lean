import QProofs.C05
import QGen.C05
import QProps.C04
import QProofs.C05Psd
/-!
# C05 — physical projection (Dykstra): property theorems about `QModel.C05`

Everything except `section psd` (ℝ parameters, ℂ operators) is over an arbitrary linearly ordered field `K` (so literally for the executed instance `Rat`),
for all vector lengths `N`, all sweep counts and both projection orders (the order only decides which projection is `P1` and which
is `P2`).  The two constraint sets are abstract predicates `A`, `B` on parameter vectors and the projections are characterised by
their variational inequality (`IsProj`).  `IsProj` instances proved: State equality (`isProj_state_eq`), Gate equality on the flat
vector (`isProj_gate_eq`), the inequality projection for a complete basis over ℝ (`isProj_psd`: State, and Gate via the Choi basis);
Povm and MProcess equality on the flat vector (`isProj_povm_eq`, `isProj_mprocess_eq`) and the block-wise inequality projection of
POVM elements / m-process outcomes (`isProj_psd_blocks`, executed blocks = that projection: `povm_projIneq_eq_psdProjBlocks`):
all four types, and `dyk_runMode_tapped` covers both projection orders.
**Bridge to the executed loop:** the driver replays a run with per-sweep constants in place of the inequality projection;
`dyk_run_congr` (a run depends on the projections only through the arguments actually passed) and `dyk_run_tapped` (constants from
exact eigen-decompositions = the genuine projection `psdProj`) make the `IsProj` theorems statements about that executed run.

**Proved about convergence** (C05.7/8): the Boyle–Dykstra potential decreases by at least the stopping value as coded in every sweep,
hence the iterates stay bounded, the stopping values are summable, the loop as coded TERMINATES by its criterion within `n + 1` sweeps
whenever `n·eps > ‖x₀ − z‖²` for a physical `z` (`dyk_terminates`), returns the iterate after min(first stop index,
max_iteration − 1) + 1 sweeps (`dyk_run_returns_min`), the returned point is physical up to `√eps` (`dyk_returned_physical`) and
satisfies the nearest-point inequality up to `‖p‖·√eps` (`dyk_returned_approx_vi_partial`).
**Not proved:** a bound on the DISTANCE of the stopped iterate to the nearest physical point (strong convergence of Dykstra's
sequence); nearest point / order independence are exact statements only at fixed points (`…_partial`); object level = variable
level is not a theorem (one loop in the model; oracle + correspondence only).
-/
open Finset
namespace QM.C05
open QM.C04

variable {K : Type} [Field K] [LinearOrder K] [IsStrictOrderedRing K] {N : Nat}

/-- C05.1 `dyk_invariant`, one sweep: `x' + p' + q' = x + p + q`. -/
theorem dyk_sweep_invariant (P1 P2 : Vec K N → Vec K N) (s : St K N) :
    (sweep P1 P2 s).1.total = s.total := by
  apply Vec.ext'; intro i
  simp only [St.total, sweep, add_get, sub_get]; ring

/-- C05.1 for both values of `mode_proj_order`. -/
theorem dyk_sweepMode_invariant (b : Bool) (Peq Pineq : Vec K N → Vec K N) (s : St K N) :
    (sweepMode b Peq Pineq s).1.total = s.total := by
  unfold sweepMode; split <;> exact dyk_sweep_invariant _ _ s

/-- the invariant along the iterates: `x_k + p_k + q_k = x₀` -/
theorem iter_total (P1 P2 : Nat → Vec K N → Vec K N) (x0 : Vec K N) (k : Nat) :
    (iterSY P1 P2 x0 k).1.total = x0 := by
  induction k with
  | zero => exact Vec.ext' fun i => by simp [St.total, iterSY]
  | succ k ih => show (sweep (P1 k) (P2 k) (iterSY P1 P2 x0 k).1).1.total = x0; rw [dyk_sweep_invariant]; exact ih

/-- C05.1 `dyk_invariant`, whole run (induction over sweeps): every recorded state, before and after every sweep,
satisfies `x_k + p_k + q_k = x_0`. -/
theorem dyk_invariant (eps : K) (P1 P2 : Nat → Vec K N → Vec K N) (maxIter : Nat) (x0 : Vec K N)
    (o : Out K N) (h : run eps P1 P2 maxIter x0 = some o) :
    ∀ rec ∈ o.recs, rec.prev.total = x0 ∧ rec.next.total = x0 := by
  intro rec hrec
  obtain ⟨i, rfl⟩ := mem_recs eps P1 P2 maxIter x0 o h rec hrec
  exact ⟨iter_total P1 P2 x0 i, iter_total P1 P2 x0 (i + 1)⟩

/-- C05.6 `history_consistent` (a): every history record is one sweep of the loop body applied to the recorded previous
state, with the recorded `y`, and its `error_value` is `None` for sweep 0 and the Birgin–Raydan value
`Σ (p_k − p_{k+1})² + (q_k − q_{k+1})²` of the recorded entries otherwise (the `k ≥ 1` guard). -/
theorem dyk_history_steps (eps : K) (P1 P2 : Nat → Vec K N → Vec K N) (maxIter : Nat) (x0 : Vec K N)
    (o : Out K N) (h : run eps P1 P2 maxIter x0 = some o) :
    ∀ rec ∈ o.recs, rec.next = (sweep (P1 rec.k) (P2 rec.k) rec.prev).1 ∧
      rec.y = (sweep (P1 rec.k) (P2 rec.k) rec.prev).2 ∧
      rec.err = if 1 ≤ rec.k then some (errVal rec.prev rec.next) else none := by
  intro rec hrec
  obtain ⟨i, rfl⟩ := mem_recs eps P1 P2 maxIter x0 o h rec hrec
  exact ⟨rfl, rfl, rfl⟩

/-- within the modelled loop `max_iteration = 0` is the only failing input (`k` is unbound after an empty loop; sampled by the
correspondence).  Failures of the real routine outside the loop logic — `ValueError` of the inequality projection (C04 guard),
configuration mismatches in `__add__` — are not part of this model. -/
theorem dyk_run_none_iff (eps : K) (P1 P2 : Nat → Vec K N → Vec K N) (maxIter : Nat) (x0 : Vec K N) :
    run eps P1 P2 maxIter x0 = none ↔ maxIter = 0 := by
  unfold run; split <;> simp_all

/-- C05.2 `dyk_stop_zero_fixed`: a vanishing stopping value means the sweep did not change the state, the
intermediate point `y` equals `x`, and `x` is a common fixed point of the two (shifted) projections. -/
theorem dyk_stop_zero_fixed (P1 P2 : Vec K N → Vec K N) (s : St K N)
    (h : errVal s (sweep P1 P2 s).1 = 0) :
    (sweep P1 P2 s).1 = s ∧ (sweep P1 P2 s).2 = s.x ∧ P1 (s.x.add s.p) = s.x ∧ P2 (s.x.add s.q) = s.x := by
  obtain ⟨hp, hq⟩ := errVal_eq_zero _ _ h
  have hx : (sweep P1 P2 s).1.x = s.x := by
    apply Vec.ext'; intro i
    have := congrArg (fun v => v.get i) (dyk_sweep_invariant P1 P2 s)
    simp only [St.total, add_get] at this
    rw [hp, hq] at this
    linarith
  have hfix := St.ext' hx hp hq
  obtain ⟨hy, hx2⟩ := sweep_fix P1 P2 s hfix
  exact ⟨hfix, hy, hy, hx2⟩

/-- C05.3 `dyk_fixed_is_projection`: at a fixed point of the sweep the point `x` lies in both sets and satisfies the
variational inequality of the metric projection of `x_0` onto the intersection. -/
theorem dyk_fixed_is_projection (A B : Vec K N → Prop) (P1 P2 : Vec K N → Vec K N)
    (h1 : IsProj A P1) (h2 : IsProj B P2) (s : St K N) (hfix : (sweep P1 P2 s).1 = s)
    (x0 : Vec K N) (ht : s.total = x0) :
    A s.x ∧ B s.x ∧ ∀ z, A z → B z → ip1 (x0.sub s.x) (z.sub s.x) ≤ 0 := by
  obtain ⟨hy, hx2⟩ := sweep_fix P1 P2 s hfix
  have hA := h1 (s.x.add s.p)
  have hB := h2 (s.x.add s.q)
  rw [hy] at hA; rw [hx2] at hB
  refine ⟨hA.1, hB.1, ?_⟩
  intro z hzA hzB
  have e : ip1 (x0.sub s.x) (z.sub s.x)
      = ip1 ((s.x.add s.p).sub s.x) (z.sub s.x) + ip1 ((s.x.add s.q).sub s.x) (z.sub s.x) := by
    subst ht
    simp only [ip1, St.total, sub_get, add_get, ← Finset.sum_add_distrib]
    apply Finset.sum_congr rfl; intro i _; ring
  rw [e]
  exact add_nonpos (hA.2 z hzA) (hB.2 z hzB)

/-- C05.3 hence `x` is the nearest point of `A ∩ B` to `x_0` (Euclidean norm of the stacked parameters).
`_partial`: only at an EXACT fixed point (stopping value 0); a real run stops at a value `< eps` — for that see
`dyk_iter_approx_vi` / `dyk_returned_approx_vi_partial`. -/
theorem dyk_fixed_nearest_partial (A B : Vec K N → Prop) (P1 P2 : Vec K N → Vec K N)
    (h1 : IsProj A P1) (h2 : IsProj B P2) (s : St K N) (hfix : (sweep P1 P2 s).1 = s)
    (x0 : Vec K N) (ht : s.total = x0) (z : Vec K N) (hzA : A z) (hzB : B z) :
    sqd1 x0 s.x ≤ sqd1 x0 z :=
  nearest1 x0 s.x z ((dyk_fixed_is_projection A B P1 P2 h1 h2 s hfix x0 ht).2.2 z hzA hzB)

/-- C05.3 `dyk_order_independent_partial`: the fixed points of the two projection orders have the same `x`.
`_partial`: exact fixed points only; for stopped iterates order independence is checked by the oracle (to g(eps)). -/
theorem dyk_order_independent_partial (A B : Vec K N → Prop) (P1 P2 : Vec K N → Vec K N)
    (h1 : IsProj A P1) (h2 : IsProj B P2) (s s' : St K N)
    (hfix : (sweep P1 P2 s).1 = s) (hfix' : (sweep P2 P1 s').1 = s')
    (x0 : Vec K N) (ht : s.total = x0) (ht' : s'.total = x0) : s.x = s'.x := by
  obtain ⟨hA, hB, hvi⟩ := dyk_fixed_is_projection A B P1 P2 h1 h2 s hfix x0 ht
  obtain ⟨hB', hA', hvi'⟩ := dyk_fixed_is_projection B A P2 P1 h2 h1 s' hfix' x0 ht'
  exact eq_of_two_vi x0 s.x s'.x (hvi s'.x hA' hB') (hvi' s.x hB hA)

/-- C05.4 `dyk_fix_physical`, one sweep: a point fixed by both projections is reproduced with `p = q = 0`. -/
theorem dyk_sweep_physical (P1 P2 : Vec K N → Vec K N) (x0 : Vec K N) (h1 : P1 x0 = x0) (h2 : P2 x0 = x0) :
    sweep P1 P2 ⟨x0, Vec.zero, Vec.zero⟩ = (⟨x0, Vec.zero, Vec.zero⟩, x0) := by
  have ha : x0.add Vec.zero = x0 := Vec.ext' fun i => by simp
  have hz : x0.sub x0 = (Vec.zero : Vec K N) := Vec.ext' fun i => by simp
  simp only [sweep, ha, h1, h2, hz]

/-- C05.4 `dyk_fix_physical`, whole run: for a physical input, any `eps > 0` and `max_iteration ≥ 2` the routine stops
at `k = 1` (second sweep: stopping value exactly 0) and returns the input. -/
theorem dyk_fix_physical (eps : K) (heps : 0 < eps) (P1 P2 : Nat → Vec K N → Vec K N) (x0 : Vec K N)
    (h1 : ∀ k, P1 k x0 = x0) (h2 : ∀ k, P2 k x0 = x0) (maxIter : Nat) (hm : 2 ≤ maxIter) :
    ∃ o, run eps P1 P2 maxIter x0 = some o ∧ o.x = x0 ∧ o.k = 1 ∧ o.recs.length = 2 := by
  -- every iterate is the start state, so the stopping value of sweep 1 is 0 and `run_eq` leaves only the stop index 1
  have hit : ∀ k, iterSY P1 P2 x0 k = (⟨x0, Vec.zero, Vec.zero⟩, x0) := fun k => by
    induction k with
    | zero => rfl
    | succ k ih => rw [iterSY, ih]; exact dyk_sweep_physical _ _ x0 (h1 k) (h2 k)
  have hstop : StopAt eps P1 P2 x0 1 := ⟨le_rfl, by rw [errAt, hit, hit, errVal_self]; exact heps⟩
  obtain ⟨o, hrun⟩ : ∃ o, run eps P1 P2 maxIter x0 = some o := ⟨_, by unfold run; rw [if_neg (by omega)]⟩
  obtain ⟨j, hj, hno, hor, rfl⟩ := run_eq eps P1 P2 maxIter x0 o hrun
  have hj1 : j = 1 := le_antisymm (not_lt.1 fun h => hno 1 h hstop) (hor.elim (·.1) (by omega))
  subst hj1
  exact ⟨_, hrun, by rw [hit], rfl, by simp⟩

/-- C05.7 one sweep decreases the Boyle–Dykstra potential by at least the stopping value as coded -/
theorem dyk_lyapunov_step (A B : Vec K N → Prop) (P1 P2 : Vec K N → Vec K N) (h1 : IsProj A P1) (h2 : IsProj B P2)
    (s : St K N) (y z : Vec K N) (hp : NormalAt A y s.p) (hq : NormalAt B s.x s.q) :
    lyap z (sweep P1 P2 s).2 (sweep P1 P2 s).1 + errVal s (sweep P1 P2 s).1 ≤ lyap z y s := by
  have hn := sweep_normal A B P1 P2 h1 h2 s
  have r1 := hp _ hn.1
  have r2 := hq _ hn.2.1
  rw [lyap_identity P1 P2 s y z]; linarith

/-- C05.7 whole run: for every point `z` of the intersection, potential after `k` sweeps + all stopping values so far
≤ ‖x₀ − z‖²; the corrections stay normal to their sets -/
theorem dyk_lyapunov_iter (A B : Vec K N → Prop) (P1 P2 : Nat → Vec K N → Vec K N)
    (h1 : ∀ k, IsProj A (P1 k)) (h2 : ∀ k, IsProj B (P2 k)) (x0 z : Vec K N) (k : Nat) :
    NormalAt A (iterSY P1 P2 x0 k).2 (iterSY P1 P2 x0 k).1.p ∧
    NormalAt B (iterSY P1 P2 x0 k).1.x (iterSY P1 P2 x0 k).1.q ∧
    lyap z (iterSY P1 P2 x0 k).2 (iterSY P1 P2 x0 k).1 + ∑ j ∈ Finset.range k, errAt P1 P2 x0 j ≤ sqd1 x0 z := by
  induction k with
  | zero =>
    simp [NormalAt, iterSY, lyap, ip1_zero_left]
  | succ k ih =>
    obtain ⟨hp, hq, hl⟩ := ih
    have hn := sweep_normal A B (P1 k) (P2 k) (h1 k) (h2 k) (iterSY P1 P2 x0 k).1
    have hs : lyap z (iterSY P1 P2 x0 (k + 1)).2 (iterSY P1 P2 x0 (k + 1)).1 + errAt P1 P2 x0 k ≤ _ :=
      dyk_lyapunov_step A B (P1 k) (P2 k) (h1 k) (h2 k) (iterSY P1 P2 x0 k).1 (iterSY P1 P2 x0 k).2 z hp hq
    refine ⟨hn.2.2.1, hn.2.2.2, ?_⟩
    rw [Finset.sum_range_succ]
    linarith

/-- C05.7 iterates stay in the ball around any physical point through the start: ‖x_k − z‖² ≤ ‖x₀ − z‖²,
and the stopping values are summable: Σ_{j<k} err_j ≤ ‖x₀ − z‖² -/
theorem dyk_bounded_summable (A B : Vec K N → Prop) (P1 P2 : Nat → Vec K N → Vec K N)
    (h1 : ∀ k, IsProj A (P1 k)) (h2 : ∀ k, IsProj B (P2 k)) (x0 z : Vec K N) (hzA : A z) (hzB : B z) (k : Nat) :
    sqd1 (iterSY P1 P2 x0 k).1.x z ≤ sqd1 x0 z ∧ ∑ j ∈ Finset.range k, errAt P1 P2 x0 j ≤ sqd1 x0 z := by
  obtain ⟨hp, hq, hl⟩ := dyk_lyapunov_iter A B P1 P2 h1 h2 x0 z k
  have hge := lyap_ge A B z _ _ hzA hzB hp hq
  have hs : 0 ≤ ∑ j ∈ Finset.range k, errAt P1 P2 x0 j := Finset.sum_nonneg fun j _ => errVal_nonneg _ _
  have h0 := sqd1_nonneg (iterSY P1 P2 x0 k).1.x z
  constructor <;> linarith

/-- C05.7 the stopping criterion fires: if `n·eps > ‖x₀ − z‖²` for some physical `z`, one of the sweeps `1 … n` has a
stopping value below `eps` -/
theorem dyk_stop_exists (A B : Vec K N → Prop) (P1 P2 : Nat → Vec K N → Vec K N)
    (h1 : ∀ k, IsProj A (P1 k)) (h2 : ∀ k, IsProj B (P2 k)) (x0 z : Vec K N) (hzA : A z) (hzB : B z)
    (eps : K) (n : Nat) (hn : sqd1 x0 z < (n : K) * eps) :
    ∃ j, 1 ≤ j ∧ j ≤ n ∧ errAt P1 P2 x0 j < eps := by
  by_contra hcon
  simp only [not_exists, not_and, not_lt] at hcon
  have hsum := (dyk_bounded_summable A B P1 P2 h1 h2 x0 z hzA hzB (n + 1)).2
  rw [Finset.sum_range_succ'] at hsum
  have h0 : 0 ≤ errAt P1 P2 x0 0 := errVal_nonneg _ _
  have hlow : ∑ _j ∈ Finset.range n, eps ≤ ∑ j ∈ Finset.range n, errAt P1 P2 x0 (j + 1) :=
    Finset.sum_le_sum fun j hj => hcon (j + 1) (by omega) (by have := Finset.mem_range.1 hj; omega)
  rw [Finset.sum_const, Finset.card_range, nsmul_eq_mul] at hlow
  linarith

/-- C05.6 stopping-rule glue: the routine returns the iterate after `K+1` sweeps where `K` is the smaller of
`max_iteration − 1` and the first sweep index `≥ 1` whose stopping value is `< eps` -/
theorem dyk_run_returns_min (eps : K) (P1 P2 : Nat → Vec K N → Vec K N) (maxIter : Nat) (x0 : Vec K N)
    (o : Out K N) (h : run eps P1 P2 maxIter x0 = some o) :
    o.x = (iterSY P1 P2 x0 (o.k + 1)).1.x ∧ o.k + 1 ≤ maxIter ∧
      (∀ j, j < o.k → ¬ StopAt eps P1 P2 x0 j) ∧ (StopAt eps P1 P2 x0 o.k ∨ o.k + 1 = maxIter) := by
  obtain ⟨j, h1, h2, h3, rfl⟩ := run_eq eps P1 P2 maxIter x0 o h
  exact ⟨rfl, h1, h2, h3⟩

/-- C05.7 termination of the loop as coded: if a physical point `z` exists and `n·eps > ‖x₀ − z‖²`, then with
`max_iteration ≥ n + 2` the routine stops BY THE CRITERION (no max-iteration warning) after at most `n + 1` sweeps -/
theorem dyk_terminates (A B : Vec K N → Prop) (P1 P2 : Nat → Vec K N → Vec K N)
    (h1 : ∀ k, IsProj A (P1 k)) (h2 : ∀ k, IsProj B (P2 k)) (x0 z : Vec K N) (hzA : A z) (hzB : B z)
    (eps : K) (n : Nat) (hn : sqd1 x0 z < (n : K) * eps) (maxIter : Nat) (hm : n + 2 ≤ maxIter)
    (o : Out K N) (h : run eps P1 P2 maxIter x0 = some o) :
    o.k ≤ n ∧ StopAt eps P1 P2 x0 o.k ∧ o.warned = false := by
  obtain ⟨j, hj1, hj2, hj3⟩ := dyk_stop_exists A B P1 P2 h1 h2 x0 z hzA hzB eps n hn
  obtain ⟨k, _, b3, b4, rfl⟩ := run_eq eps P1 P2 maxIter x0 o h
  have hk : k ≤ j := by
    by_contra hlt
    exact b3 j (by omega) ⟨hj1, hj3⟩
  have hne : k + 1 ≠ maxIter := by omega
  exact ⟨Nat.le_trans hk hj2, b4.resolve_right hne, beq_false_of_ne hne⟩

/-- C05.8 accuracy implied by the stopping threshold, one sweep: the new `x` lies in the second set, the intermediate `y` in the
first, and their squared distance is at most the stopping value (`x' − y' = q − q'`). -/
theorem dyk_sweep_gap (A B : Vec K N → Prop) (P1 P2 : Vec K N → Vec K N) (h1 : IsProj A P1) (h2 : IsProj B P2)
    (s : St K N) :
    A (sweep P1 P2 s).2 ∧ B (sweep P1 P2 s).1.x ∧
      sqd1 (sweep P1 P2 s).1.x (sweep P1 P2 s).2 ≤ errVal s (sweep P1 P2 s).1 := by
  refine ⟨(h1 _).1, (h2 _).1, ?_⟩
  have e : sqd1 (sweep P1 P2 s).1.x (sweep P1 P2 s).2 = sqd1 s.q (sweep P1 P2 s).1.q := by
    rw [sqd1_eq, sqd1_eq]; refine Finset.sum_congr rfl fun i _ => ?_
    simp only [sweep, sub_get, add_get]; ring
  rw [e, errVal_eq]
  exact le_add_of_nonneg_left (sqd1_nonneg _ _)

/-- C05.8 the returned point is physical up to the accuracy implied by `eps_proj_physical`: when the routine stops by the
criterion, the returned `x` lies in the set of the second projection and within `√eps` (squared distance `< eps`) of a point
of the set of the first projection. -/
theorem dyk_returned_physical (A B : Vec K N → Prop) (P1 P2 : Nat → Vec K N → Vec K N)
    (h1 : ∀ k, IsProj A (P1 k)) (h2 : ∀ k, IsProj B (P2 k)) (eps : K) (maxIter : Nat) (x0 : Vec K N)
    (o : Out K N) (h : run eps P1 P2 maxIter x0 = some o) (hs : StopAt eps P1 P2 x0 o.k) :
    B o.x ∧ ∃ y, A y ∧ sqd1 o.x y < eps := by
  obtain ⟨hx, _, _, _⟩ := dyk_run_returns_min eps P1 P2 maxIter x0 o h
  have hg := dyk_sweep_gap A B (P1 o.k) (P2 o.k) (h1 o.k) (h2 o.k) (iterSY P1 P2 x0 o.k).1
  have e : (iterSY P1 P2 x0 (o.k + 1)) = sweep (P1 o.k) (P2 o.k) (iterSY P1 P2 x0 o.k).1 := rfl
  rw [hx, e]
  exact ⟨hg.2.1, _, hg.1, lt_of_le_of_lt hg.2.2 hs.2⟩

/-- the Gate equality projection on the flat vector (`calc_proj_eq_constraint_with_var(…, False)`) is the metric projection
onto the trace-preserving set -/
theorem isProj_gate_eq (n : Nat) : IsProj (GateFlatFeas (K := K) n) (peqGate (n := n)) := by
  intro u
  refine ⟨fun k hk => by simp only [peqGate_get, hk, if_true], fun z hz => le_of_eq (Finset.sum_eq_zero fun k _ => ?_)⟩
  -- below index `n` the projection has the entries prescribed for every feasible vector, from `n` on those of its argument
  simp only [sub_get, peqGate_get]
  by_cases hk : k.val < n
  · simp only [hz k hk, hk, if_true, sub_self, mul_zero]
  · have h0 : k.val ≠ 0 := fun h => hk (h ▸ pos_of_lt_mul k.isLt)
    simp only [hk, h0, if_false, sub_self, zero_mul]

/-- C05.3 quantitative: at EVERY iterate and for every point `z` of the intersection
`⟪x₀ − x_k, z − x_k⟫ ≤ ⟪p_k, y_k − x_k⟫` — the defect of the nearest-point inequality is controlled by the gap `y_k − x_k` -/
theorem dyk_iter_approx_vi (A B : Vec K N → Prop) (P1 P2 : Nat → Vec K N → Vec K N)
    (h1 : ∀ k, IsProj A (P1 k)) (h2 : ∀ k, IsProj B (P2 k)) (x0 z : Vec K N) (hzA : A z) (hzB : B z) (k : Nat) :
    ip1 (x0.sub (iterSY P1 P2 x0 k).1.x) (z.sub (iterSY P1 P2 x0 k).1.x)
      ≤ ip1 (iterSY P1 P2 x0 k).1.p ((iterSY P1 P2 x0 k).2.sub (iterSY P1 P2 x0 k).1.x) := by
  obtain ⟨hp, hq, _⟩ := dyk_lyapunov_iter A B P1 P2 h1 h2 x0 z k
  have a := hp z hzA
  have b := hq z hzB
  have t := iter_total P1 P2 x0 k
  generalize (iterSY P1 P2 x0 k) = sy at *
  subst t
  have e : ip1 (sy.1.total.sub sy.1.x) (z.sub sy.1.x)
      = ip1 sy.1.p (z.sub sy.2) + ip1 sy.1.p (sy.2.sub sy.1.x) + ip1 sy.1.q (z.sub sy.1.x) := by
    simp only [ip1, St.total, sub_get, add_get, ← Finset.sum_add_distrib]
    apply Finset.sum_congr rfl; intro i _; ring
  rw [e]; linarith

/-- C05 congruence (bridge to the executed loop): a run depends on the two projection families only through their values at
the arguments actually passed.  The driver replays the real run with the per-sweep CONSTANT `fun _ => (result of the tapped
eigh)` in place of the inequality projection; whenever that constant equals a genuine projection `P2' k` at the argument of
sweep `k` (exact eigh contract, C04), the executed run IS the run of `P1' P2'`, to which all `IsProj` theorems apply. -/
theorem dyk_run_congr (eps : K) (P1 P2 P1' P2' : Nat → Vec K N → Vec K N) (maxIter : Nat) (x0 : Vec K N)
    (ha1 : ∀ k, P1 k (arg1 P1' P2' x0 k) = P1' k (arg1 P1' P2' x0 k))
    (ha2 : ∀ k, P2 k (arg2 P1' P2' x0 k) = P2' k (arg2 P1' P2' x0 k)) :
    run eps P1 P2 maxIter x0 = run eps P1' P2' maxIter x0 := by
  have hs : ∀ k, sweep (P1 k) (P2 k) (iterSY P1' P2' x0 k).1 = sweep (P1' k) (P2' k) (iterSY P1' P2' x0 k).1 := by
    intro k
    have e1 := ha1 k
    have e2 := ha2 k
    unfold arg2 at e2
    unfold arg1 at e1 e2
    simp only [sweep, e1, e2]
  unfold run
  split
  · rfl
  · exact congrArg some (loop_congr eps P1 P2 P1' P2' x0 hs maxIter 0 [])

/-- C05.6 `history_consistent` (b): the five lists of the history dict are exactly the sequences of iterates
`x_0 … x_{k+1}`, `p_0 …`, `q_0 …`, `None, y_1 … y_{k+1}`, `None, err_1 … err_k` (so records chain, start at `(x₀,0,0)`, and the
recorded `error_value`s are the stopping values of consecutive list entries). -/
theorem dyk_history_lists (eps : K) (P1 P2 : Nat → Vec K N → Vec K N) (maxIter : Nat) (x0 : Vec K N)
    (o : Out K N) (h : run eps P1 P2 maxIter x0 = some o) :
    histX x0 o = (List.range (o.k + 2)).map (fun j => (iterSY P1 P2 x0 j).1.x) ∧
    histP o = (List.range (o.k + 2)).map (fun j => (iterSY P1 P2 x0 j).1.p) ∧
    histQ o = (List.range (o.k + 2)).map (fun j => (iterSY P1 P2 x0 j).1.q) ∧
    histY o = none :: (List.range (o.k + 1)).map (fun j => some (iterSY P1 P2 x0 (j + 1)).2) ∧
    histE o = (List.range (o.k + 1)).map (fun j => errOpt P1 P2 x0 j) := by
  obtain ⟨k, _, _, _, rfl⟩ := run_eq eps P1 P2 maxIter x0 o h
  have hsucc : ∀ (f : Nat → Vec K N), (List.range (k + 2)).map f = f 0 :: (List.range (k + 1)).map (fun j => f (j + 1)) := by
    intro f; rw [List.range_succ_eq_map]; simp [List.map_map, Function.comp_def]
  simp [histX, histP, histQ, histY, histE, hsucc, List.map_map, Function.comp_def, recOf, iterSY, errOpt, errAt]

/-- C05.3 quantitative, at the returned point (`_partial`: a bound on the defect of the variational inequality, not on the distance
to the nearest point): when the routine stops by its criterion, for every physical `z`
`⟪x₀ − x, z − x⟫ ≤ g` with `g² ≤ ‖p‖²·eps`, `p` the first correction at the stop — the returned point satisfies the nearest-point
inequality up to `‖p‖·√eps`. -/
theorem dyk_returned_approx_vi_partial (A B : Vec K N → Prop) (P1 P2 : Nat → Vec K N → Vec K N)
    (h1 : ∀ k, IsProj A (P1 k)) (h2 : ∀ k, IsProj B (P2 k)) (eps : K) (maxIter : Nat) (x0 : Vec K N)
    (o : Out K N) (h : run eps P1 P2 maxIter x0 = some o) (hs : StopAt eps P1 P2 x0 o.k)
    (z : Vec K N) (hzA : A z) (hzB : B z) :
    ∃ g, ip1 (x0.sub o.x) (z.sub o.x) ≤ g ∧
      g * g ≤ ip1 (iterSY P1 P2 x0 (o.k + 1)).1.p (iterSY P1 P2 x0 (o.k + 1)).1.p * eps := by
  obtain ⟨hx, _, _, _⟩ := dyk_run_returns_min eps P1 P2 maxIter x0 o h
  have hv := dyk_iter_approx_vi A B P1 P2 h1 h2 x0 z hzA hzB (o.k + 1)
  have hg : sqd1 (iterSY P1 P2 x0 (o.k + 1)).1.x (iterSY P1 P2 x0 (o.k + 1)).2 ≤ errAt P1 P2 x0 o.k :=
    (dyk_sweep_gap A B (P1 o.k) (P2 o.k) (h1 o.k) (h2 o.k) (iterSY P1 P2 x0 o.k).1).2.2
  rw [← hx] at hv hg
  -- Cauchy–Schwarz on `g = ⟪p, y − x⟫`, and `‖y − x‖²` is at most the stopping value
  refine ⟨_, hv, (ip1_sq_le _ _).trans (mul_le_mul_of_nonneg_left ?_ (ip1_self_nonneg _))⟩
  rw [ip1_sub_self, sqd1_comm]
  exact (hg.trans_lt hs.2).le

section psd
open Matrix QM.Psd
open scoped ComplexOrder
variable {d : Nat}

/-- C05/H1 an `IsProj` instance for the C04 inequality projection over ℝ: for an orthonormal Hermitian basis of `d²` elements
`psdProj` is the metric projection onto the parameter vectors with PSD operator. -/
theorem isProj_psd (B : Vector (Mat ℂ d d) (d * d)) (hB : OrthoN (basisM B)) (hH : HermB B) :
    IsProj (fun v : Vec ℝ (d * d) => (matOfVec B v).toM.PosSemidef) (psdProj B hB hH) := by
  intro u
  obtain ⟨hp, hspan⟩ := psdProj_spec B hB hH u
  obtain ⟨hU, hA⟩ := eig_contract B hH u
  exact ⟨projIneqCore_feasible_partial B _ _ _ hspan,
    fun z hz => projIneqCore_vi_partial B hB u _ _ hU hA _ hspan z hz⟩

/-- whatever exact eigen-decomposition `eigh` returns, the model's result is that projection -/
theorem projIneqCore_eq_psdProj (B : Vector (Mat ℂ d d) (d * d)) (hB : OrthoN (basisM B)) (hH : HermB B)
    (x : Vec ℝ (d * d)) (lam : Vec ℝ d) (U : Mat ℂ d d) (hU : U.toMᴴ * U.toM = 1) (hA : matOfVec B x = rebuild U lam)
    (p : Vec ℝ (d * d)) (hp : projIneqCore B (0 : ℝ) lam U = .ok p) : p = psdProj B hB hH x := by
  have hspan := projIneqCore_span B hB hH lam U p hp
  have hP := isProj_psd B hB hH x
  have v1 := projIneqCore_vi_partial B hB x lam U hU hA p hspan _ hP.1
  have v2 := hP.2 p (projIneqCore_feasible_partial B lam U p hspan)
  exact eq_of_two_vi x p _ v1 v2

/-- C05/H1 the executed loop IS a Dykstra run of genuine projections: the driver replays a run with the inequality projection
replaced by per-sweep constants `c k` computed from the tapped `eigh` results; if every tapped result is an exact
eigen-decomposition of the operator of the argument of its sweep, that run equals the run with the genuine projection `psdProj`
(order `"eq_ineq"`; single-operator types State, and Gate through the Choi basis), so every `IsProj` theorem above applies to it. -/
theorem dyk_run_tapped (B : Vector (Mat ℂ d d) (d * d)) (hB : OrthoN (basisM B)) (hH : HermB B)
    (eps : ℝ) (Peq : Vec ℝ (d * d) → Vec ℝ (d * d)) (c : Nat → Vec ℝ (d * d)) (maxIter : Nat) (x0 : Vec ℝ (d * d))
    (hc : ∀ k, ∃ lam U, U.toMᴴ * U.toM = 1 ∧
      matOfVec B (arg2 (fun _ => Peq) (fun _ => psdProj B hB hH) x0 k) = rebuild U lam ∧
      projIneqCore B (0 : ℝ) lam U = .ok (c k)) :
    run eps (fun _ => Peq) (fun k _ => c k) maxIter x0 = run eps (fun _ => Peq) (fun _ => psdProj B hB hH) maxIter x0 := by
  apply dyk_run_congr
  · intro k; rfl
  · intro k
    obtain ⟨lam, U, hU, hA, hp⟩ := hc k
    exact projIneqCore_eq_psdProj B hB hH _ lam U hU hA (c k) hp

-- non-vacuity of `dyk_run_tapped` on the real qubit basis: constants built from exact eigen-decompositions satisfy its hypothesis
open QM.Psd in
example (Peq : Vec ℝ (2 * 2) → Vec ℝ (2 * 2)) (x0 : Vec ℝ (2 * 2)) :
    ∃ c : Nat → Vec ℝ (2 * 2), ∀ k, ∃ lam U, U.toMᴴ * U.toM = 1 ∧
      matOfVec (pauliB : Vector (Mat ℂ 2 2) (2 * 2)) (arg2 (fun _ => Peq) (fun _ => psdProj pauliB pauli_orthoN pauli_hermB) x0 k)
        = rebuild U lam ∧ projIneqCore (pauliB : Vector (Mat ℂ 2 2) (2 * 2)) (0 : ℝ) lam U = .ok (c k) :=
  ⟨fun k => psdProj pauliB pauli_orthoN pauli_hermB (arg2 (fun _ => Peq) (fun _ => psdProj pauliB pauli_orthoN pauli_hermB) x0 k),
   fun k => ⟨_, _, (eig_contract pauliB pauli_hermB _).1, (eig_contract pauliB pauli_hermB _).2,
     (psdProj_spec pauliB pauli_orthoN pauli_hermB _).1⟩⟩

variable {m : Nat}

/-- C05/H1 both orders: replacing the inequality projection by per-sweep constants `c k` that coincide with a genuine projection
`Pg` at the argument of their sweep does not change the run (`runMode`: `true` = `"eq_ineq"`, inequality second; `false`:
inequality first). -/
theorem dyk_runMode_tapped (eps : K) (eqIneq : Bool) (Peq Pg : Vec K N → Vec K N) (c : Nat → Vec K N)
    (maxIter : Nat) (x0 : Vec K N)
    (hc : ∀ k, c k = Pg (if eqIneq then arg2 (fun _ => Peq) (fun _ => Pg) x0 k else arg1 (fun _ => Pg) (fun _ => Peq) x0 k)) :
    runMode eps eqIneq Peq (fun k _ => c k) maxIter x0 = runMode eps eqIneq Peq (fun _ => Pg) maxIter x0 := by
  cases eqIneq
  · simp only [runMode, Bool.false_eq_true, if_false] at hc ⊢
    exact dyk_run_congr eps _ _ _ _ maxIter x0 (fun k => hc k) (fun k => rfl)
  · simp only [runMode, if_true] at hc ⊢
    exact dyk_run_congr eps _ _ _ _ maxIter x0 (fun k => rfl) (fun k => hc k)

/-- C05/H1 `IsProj` for the POVM / m-process inequality projection on the flat vector (product of PSD cones). -/
theorem isProj_psd_blocks (B : Vector (Mat ℂ d d) (d * d)) (hB : OrthoN (basisM B)) (hH : HermB B) (m : Nat) :
    IsProj (fun v : Vec ℝ (m * (d * d)) => ∀ k : Fin m, (matOfVec B (unflatten v)[k]).toM.PosSemidef)
      (psdProjBlocks B hB hH m) :=
  isProj_blocks _ _ (isProj_psd B hB hH) m

/-- the executed block projection with exact eigh results IS that projection -/
theorem povm_projIneq_eq_psdProjBlocks (B : Vector (Mat ℂ d d) (d * d)) (hB : OrthoN (basisM B)) (hH : HermB B)
    (v : Vec ℝ (m * (d * d))) (eig : Vector (Vec ℝ d × Mat ℂ d d) m)
    (hU : ∀ k : Fin m, eig[k].2.toMᴴ * eig[k].2.toM = 1)
    (hA : ∀ k : Fin m, matOfVec B (unflatten v)[k] = rebuild eig[k].2 eig[k].1)
    (C : Mat ℝ m (d * d)) (hC : Povm.projIneq B (0 : ℝ) eig = .ok C) :
    flatten C = psdProjBlocks B hB hH m v := by
  unfold psdProjBlocks
  congr 1
  apply Vector.ext; intro i hi
  rw [Vector.getElem_ofFn]
  exact projIneqCore_eq_psdProj B hB hH _ _ _ (hU ⟨i, hi⟩) (hA ⟨i, hi⟩) _ (povm_projIneq_blocks B 0 eig C hC ⟨i, hi⟩)

/-- C05/H1 Gate: `IsProj` for the CP projection of a gate (Choi basis `B_α ⊗ conj B_β`; orthonormality, Hermiticity and the count
`(d²)²` are derived from those of the operator basis). -/
theorem isProj_psd_choi (B : Vector (Mat ℂ d d) (d * d)) (hB : OrthoN (basisM B)) (hH : HermB B) :
    IsProj (fun v : Vec ℝ ((d * d) * (d * d)) => (matOfVec (kronBasis B) v).toM.PosSemidef)
      (psdProj (kronBasis B) (orthoN_kronBasis B hB) (hermB_kron B hH)) :=
  isProj_psd (kronBasis B) (orthoN_kronBasis B hB) (hermB_kron B hH)

/-- C05/H1 MProcess: `IsProj` for the outcome-wise CP projection of an m-process on the flat vector. -/
theorem isProj_psd_blocks_choi (B : Vector (Mat ℂ d d) (d * d)) (hB : OrthoN (basisM B)) (hH : HermB B) (m : Nat) :
    IsProj (fun v : Vec ℝ (m * ((d * d) * (d * d))) =>
        ∀ k : Fin m, (matOfVec (kronBasis B) (unflatten v)[k]).toM.PosSemidef)
      (psdProjBlocks (kronBasis B) (orthoN_kronBasis B hB) (hermB_kron B hH) m) :=
  isProj_psd_blocks (kronBasis B) (orthoN_kronBasis B hB) (hermB_kron B hH) m

-- non-vacuity on the real qubit basis
example (m : Nat) := isProj_psd_blocks_choi pauliB pauli_orthoN pauli_hermB m
example := isProj_psd_choi pauliB pauli_orthoN pauli_hermB

end psd

/-- tie to the source, loop frame: the start state `(x, p, q)` of the modelled run is the initialisation translated from the source
(`x = input`, `p = q = zero object`), the returned point is the variable the source returns (`x_next` of the last sweep), and the
model's warning flag is the source's condition `k == max_iteration - 1` evaluated at the final `k`. -/
theorem gen_loop_frame (eps : K) (P1 P2 : Nat → Vec K N → Vec K N) (maxIter : Nat) (x0 : Vec K N)
    (o : Out K N) (h : run eps P1 P2 maxIter x0 = some o) :
    (iterSY P1 P2 x0 0).1 = ⟨(QGen.C05.init x0).1, (QGen.C05.init x0).2.1, (QGen.C05.init x0).2.2⟩ ∧
    o.x = QGen.C05.returned (iterSY P1 P2 x0 (o.k + 1)).2 (iterSY P1 P2 x0 (o.k + 1)).1.p
            (iterSY P1 P2 x0 (o.k + 1)).1.x (iterSY P1 P2 x0 (o.k + 1)).1.q ∧
    o.warned = QGen.C05.warns o.k maxIter := by
  obtain ⟨j, hle, _, _, rfl⟩ := run_eq eps P1 P2 maxIter x0 o h
  refine ⟨rfl, rfl, ?_⟩
  show (j + 1 == maxIter) = (j == maxIter - 1)
  rw [Bool.eq_iff_iff, beq_iff_eq, beq_iff_eq]
  omega

section flat
variable {m n : Nat}
/-- the POVM equality projection on the flat vector is the metric projection onto `{v | the elements sum to the identity}` -/
theorem isProj_povm_eq (t : K) (hm : 0 < m) :
    IsProj (fun v : Vec K (m * n) => Povm.Feas t (unflatten v)) (peqPovm (m := m) (n := n) t) := by
  intro u
  have e : unflatten (peqPovm (m := m) (n := n) t u) = Povm.projEq t (unflatten u) := by
    unfold peqPovm; rw [unflatten_flatten]; rfl
  refine ⟨by show Povm.Feas t (unflatten (peqPovm t u)); rw [e]; exact povm_projEq_mem t _ hm, fun z hz => ?_⟩
  rw [ip1_flat, unflatten_sub, unflatten_sub, e]
  exact le_of_eq (povm_projEq_orth t _ _ hm hz)

/-- the m-process equality projection on the flat vector is the metric projection onto `{v | Σ_x first rows = e0}` -/
theorem isProj_mprocess_eq (hm : 0 < m) :
    IsProj (fun v : Vec K (m * (n * n)) => MProcess.Feas (tenOfVec v)) (peqMProcess (m := m) (n := n)) := by
  intro u
  have e : tenOfVec (peqMProcess (m := m) (n := n) u) = MProcess.projEq (tenOfVec u) := by
    unfold peqMProcess; rw [tenOfVec_vecOfTen]; rfl
  refine ⟨by show MProcess.Feas (tenOfVec (peqMProcess u)); rw [e]; exact mprocess_projEq_mem _ hm, fun z hz => ?_⟩
  rw [ip1_ten, tenOfVec_sub, tenOfVec_sub, e]
  exact le_of_eq (mprocess_projEq_orth _ _ hm hz)
end flat

theorem isProj_univ : IsProj (fun _ : Vec K N => True) id := by
  intro u; refine ⟨trivial, fun z _ => ?_⟩
  simp [ip1]

/-! ### tie to the source: definitions regenerated from qoperation.py on every run (QGen.C05) equal the hand model -/

/-- the sweep bodies of `calc_proj_physical` and `calc_proj_physical_with_var`, as translated from the source on this run,
are the model's `sweepMode` (then-branch = `"eq_ineq"`, else-branch = any other order), at both levels. -/
theorem gen_sweep_bodies (Peq Pineq : Vec K N → Vec K N) (x p q : Vec K N) :
    (QGen.C05.objThen Peq Pineq x p q =
        ((sweepMode true Peq Pineq ⟨x, p, q⟩).2, (sweepMode true Peq Pineq ⟨x, p, q⟩).1.p,
         (sweepMode true Peq Pineq ⟨x, p, q⟩).1.x, (sweepMode true Peq Pineq ⟨x, p, q⟩).1.q)) ∧
    (QGen.C05.objElse Peq Pineq x p q =
        ((sweepMode false Peq Pineq ⟨x, p, q⟩).2, (sweepMode false Peq Pineq ⟨x, p, q⟩).1.p,
         (sweepMode false Peq Pineq ⟨x, p, q⟩).1.x, (sweepMode false Peq Pineq ⟨x, p, q⟩).1.q)) ∧
    QGen.C05.varThen Peq Pineq x p q = QGen.C05.objThen Peq Pineq x p q ∧
    QGen.C05.varElse Peq Pineq x p q = QGen.C05.objElse Peq Pineq x p q := ⟨rfl, rfl, rfl, rfl⟩

/-- the stopping value, the `k ≥ 1` guard, the `<` comparison and the branch literal of the source are those of the model. -/
theorem gen_stop_rule (eps e : K) (s s' : St K N) (P1 P2 : Nat → Vec K N → Vec K N) (k : Nat) :
    QGen.C05.stopValue s.p s'.p s.q s'.q = errVal s s' ∧ stopB eps (some e) = QGen.C05.stops e eps ∧
    (recOf P1 P2 k s).err = (if QGen.C05.guardFrom ≤ k then some (errVal s (sweep (P1 k) (P2 k) s).1) else none) ∧
    QGen.C05.branchLiteral = "eq_ineq" := ⟨rfl, rfl, rfl, rfl⟩

/-! ### the two levels and the two orders; `IsProj` for the State equality projection; concrete runs -/

/-- C05.5 `dyk_obj_eq_var` is NOT a theorem with content here: the model has one loop for both levels (the translator maps the
object-level and the `_with_var` sweep bodies to the same symbols, `gen_sweep_bodies` proves them equal), and the conversions
`convert_var_to_stacked_vector` / `convert_stacked_vector_to_var` are not modelled; agreement of the two levels on the real code
is established by the oracle and the correspondence only (on the stacked vector the constraint projections of the two levels
coincide by QProps.C04 `*_var_eq_obj_F`).  What is stated below is definitional: for the two orders the loop only swaps the roles
of the projections. -/
theorem dyk_runMode_orders (eps : K) (Peq : Vec K N → Vec K N) (Pineq : Nat → Vec K N → Vec K N)
    (maxIter : Nat) (x0 : Vec K N) :
    runMode eps true Peq Pineq maxIter x0 = run eps (fun _ => Peq) Pineq maxIter x0 ∧
    runMode eps false Peq Pineq maxIter x0 = run eps Pineq (fun _ => Peq) maxIter x0 := ⟨rfl, rfl⟩

/-- the hypotheses `IsProj` are satisfiable by the model's own projections: the State equality projection is the
metric projection onto `State.Feas s` (from QProps.C04). -/
theorem isProj_state_eq (s : K) : IsProj (State.Feas s) (peqState (n := N) s) := by
  intro u
  exact ⟨state_projEq_mem s u, fun z hz => le_of_eq (state_projEq_orth s u z hz)⟩

-- non-vacuity of the convergence theorems: A = trace-one states (s = 1/2), P1 its projection, B = everything, P2 = id,
-- x₀ = (3, −1), z = (1/2, 0), eps = 1, n = 8 (‖x₀ − z‖² = 29/4 < 8)
example : ∃ j, 1 ≤ j ∧ j ≤ 8 ∧ errAt (fun _ => peqState (n := 2) (1/2 : Rat)) (fun _ => id) #v[3, -1] j < 1 :=
  dyk_stop_exists _ _ _ _ (fun _ => isProj_state_eq _) (fun _ => isProj_univ) _ #v[1/2, 0]
    (by unfold State.Feas; decide +kernel) trivial 1 8 (by decide +kernel)

-- non-degenerate instance (two genuinely different sets): A = trace-one states (s = 1/2) with P1 its projection, B = {v | 0 ≤ v₁}
-- with P2 = clipping (`isProj_clip`); x₀ = (3, −1), z = (1/2, 0), eps = 1/100, n = 800, max_iteration = 1000:
-- `dyk_terminates` and `dyk_returned_physical`
example (o : Out Rat 2)
    (h : run (1/100 : Rat) (fun _ => peqState (n := 2) (1/2)) (fun _ => clip1) 1000 (#v[3, -1] : Vec Rat 2) = some o) :
    o.k ≤ 800 ∧ o.warned = false ∧ (0 ≤ o.x.get 1) ∧ ∃ y, State.Feas (1/2) y ∧ sqd1 o.x y < 1/100 := by
  have t := dyk_terminates _ _ _ _ (fun _ => isProj_state_eq _) (fun _ => isProj_clip) _ #v[1/2, 0]
    (by unfold State.Feas; decide +kernel) (by decide +kernel) _ 800 (by decide +kernel) _ (by omega) o h
  have r := dyk_returned_physical _ _ _ _ (fun _ => isProj_state_eq _) (fun _ => isProj_clip) _ _ _ o h t.2.1
  exact ⟨t.1, t.2.2, r.1, r.2⟩

-- `dyk_stop_zero_fixed`, `dyk_fixed_is_projection` / `dyk_fixed_nearest_partial`, `dyk_order_independent_partial` on that fixed point
example : errVal exFix (sweep (peqState (n := 2) (1/2 : Rat)) clip1 exFix).1 = 0 := by decide +kernel
example (z : Vec Rat 2) (hzA : State.Feas (1/2) z) (hzB : 0 ≤ z.get 1) : sqd1 (#v[3, -1] : Vec Rat 2) exFix.x ≤ sqd1 #v[3, -1] z :=
  dyk_fixed_nearest_partial _ _ _ _ (isProj_state_eq _) isProj_clip exFix exFix_fixed _ (by decide +kernel) z hzA hzB
example : exFix.x = exFix'.x :=
  dyk_order_independent_partial _ _ _ _ (isProj_state_eq _) isProj_clip exFix exFix' exFix_fixed exFix'_fixed #v[3, -1]
    (by decide +kernel) (by decide +kernel)
-- `dyk_fix_physical`: the physical input (1/2, 2) is returned after two sweeps
example : ∃ o, run (1/100 : Rat) (fun _ => peqState (n := 2) (1/2)) (fun _ => clip1) 5 (#v[1/2, 2] : Vec Rat 2) = some o ∧
    o.x = #v[1/2, 2] ∧ o.k = 1 ∧ o.recs.length = 2 :=
  dyk_fix_physical (1/100) (by norm_num) _ _ #v[1/2, 2] (fun _ => by decide +kernel) (fun _ => by decide +kernel) 5 (by omega)
-- the loop as executed on these two (commuting) sets: criterion stop at k = 1 with stopping value exactly 0
example : (run (1/100 : Rat) (fun _ => peqState (n := 2) (1/2)) (fun _ => clip1) 10 (#v[3, -1] : Vec Rat 2)).map
    (fun o => (o.x, o.k, o.warned)) = some (#v[1/2, 0], 1, false) := by decide +kernel
-- max-iteration branch (max_iteration = 1: the criterion is not evaluated at k = 0, the warning flag is set)
example : (run (1/100 : Rat) (fun _ => peqState (n := 2) (1/2)) (fun _ => clip1) 1 (#v[3, -1] : Vec Rat 2)).map
    (fun o => (o.k, o.warned)) = some (0, true) := by decide +kernel

-- non-commuting sets (trace-one line, half plane v₀ ≤ v₁ with `isProj_half`): the loop CONTINUES over several sweeps and stops by
-- the criterion at k = 5; `dyk_terminates` bounds the sweep count a priori (z = (1/2,1/2), ‖x₀−z‖² = 17/2 < 860·eps)
example : (run (1/100 : Rat) (fun _ => peqState (n := 2) (1/2)) (fun _ => projH) 20 (#v[3, -1] : Vec Rat 2)).map
    (fun o => (o.k, o.warned, decide (o.x.get 0 ≤ o.x.get 1))) = some (5, false, true) := by decide +kernel
example (o : Out Rat 2)
    (h : run (1/100 : Rat) (fun _ => peqState (n := 2) (1/2)) (fun _ => projH) 1000 (#v[3, -1] : Vec Rat 2) = some o) :
    o.k ≤ 860 ∧ o.warned = false :=
  let t := dyk_terminates _ _ _ _ (fun _ => isProj_state_eq _) (fun _ => isProj_half) _ #v[1/2, 1/2]
    (by unfold State.Feas; decide +kernel) (by decide +kernel) _ 860 (by decide +kernel) _ (by omega) o h
  ⟨t.1, t.2.2⟩

end QM.C05
