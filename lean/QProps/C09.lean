import QProofs.C09
import QProps.C08
import QGen.C09
/-!
# C09 — linear estimation inverts the forward model (property theorems)

Everything is about the executed definitions of `QModel/C09.lean` (`estOne`, `aDdag`, `estSeq`, `estimate`,
`lsqCert`, `lsqExact`), for **all** shapes `m n`, all matrices/vectors and any field `K` (ordered field
for the optimality clauses), hence in particular for the executed instance `K = ℚ`.

The two numpy kernels are parameters: `G` = value of `np.linalg.inv(A.T @ A)` with contract
`Contract G A : G · (AᵀA) = 1`, `rank` = value of `np.linalg.matrix_rank(A)`.
-/
open Matrix
namespace QM.C09

variable {K : Type} {m n : Nat}

/-- C09.1 `exact data ⇒ exact recovery`: if the data vector is the forward model's prediction
`A v₀ + b` of some variable vector `v₀`, the coded estimate `inv(AᵀA) Aᵀ (f − b)` is `v₀`. -/
theorem est_exact [Field K] (G : Mat K n n) (A : Mat K m n) (b : Vec K m) (v0 : Vec K n)
    (h : Contract G A) : estOne (aDdag G A) b ((A.mulVec v0).add b) = v0 := by
  apply Vec.toV_injective
  rw [toV_estOne, Vec.toV_add, Mat.toV_mulVec, ← sub_eq_zero, m_exact_err, h.toM, sub_self,
    Matrix.zero_mulVec]

/-- C09.2 `normal equations`: for *every* data vector `f` (normalised or not) the prediction residual of
the coded estimate is orthogonal to the model: `Aᵀ (A v + b − f) = 0`. -/
theorem est_normal [Field K] (G : Mat K n n) (A : Mat K m n) (b f : Vec K m) (h : Contract G A) :
    normalResidual A b f (estOne (aDdag G A) b f) = Vec.zero := by
  apply Vec.toV_injective
  rw [toV_normalResidual, Vec.toV_zero, normal_estOne h]

/-- C09.3a `least squares`: the coded estimate minimises the squared prediction residual over all
variable vectors `w`. -/
theorem est_lsq [Field K] [LinearOrder K] [IsStrictOrderedRing K] (G : Mat K n n) (A : Mat K m n)
    (b f : Vec K m) (h : Contract G A) (w : Vec K n) :
    sqRes A b f (estOne (aDdag G A) b f) ≤ sqRes A b f w := by
  rw [sqRes_eq, sqRes_eq]
  exact m_lsq _ _ _ _ (normal_estOne h b f) _

/-- C09.3b the minimiser is unique: any `w` whose residual is not larger is the coded estimate. -/
theorem est_lsq_unique [Field K] [LinearOrder K] [IsStrictOrderedRing K] (G : Mat K n n)
    (A : Mat K m n) (b f : Vec K m) (h : Contract G A) (w : Vec K n)
    (hw : sqRes A b f w ≤ sqRes A b f (estOne (aDdag G A) b f)) :
    w = estOne (aDdag G A) b f := by
  apply Vec.toV_injective
  rw [sqRes_eq, sqRes_eq] at hw
  exact m_lsq_unique h.toM _ _ _ (normal_estOne h b f) _ hw

/-- C09.3c conversely, every exact solution of the normal equations is the coded estimate. -/
theorem normal_imp_est [Field K] (G : Mat K n n) (A : Mat K m n) (b f : Vec K m) (h : Contract G A)
    (v : Vec K n) (hv : normalResidual A b f v = Vec.zero) : v = estOne (aDdag G A) b f := by
  apply Vec.toV_injective
  rw [toV_estOne, ← sub_eq_zero, m_dist h.toM, ← toV_normalResidual, hv, Vec.toV_zero,
    Matrix.mulVec_zero]

/-- the contract can only hold for a forward model of full column rank (informationally complete
testers): `A d = 0 ⇒ d = 0`. -/
theorem contract_injective [Field K] (G : Mat K n n) (A : Mat K m n) (h : Contract G A)
    (d : Vec K n) (hd : A.mulVec d = Vec.zero) : d = Vec.zero := by
  apply Vec.toV_injective
  rw [Vec.toV_zero]
  apply m_injective h.toM
  have := congrArg Vec.toV hd
  rwa [Mat.toV_mulVec, Vec.toV_zero] at this

/-- the right-associated product the driver runs for large shapes is the coded value
`(inv(AᵀA) @ Aᵀ) @ (f − b)`. -/
theorem estOne_fast [Field K] (G : Mat K n n) (A : Mat K m n) (b f : Vec K m) :
    estOneFast G A b f = estOne (aDdag G A) b f := by
  apply Vec.toV_injective
  rw [toV_estOne]
  simp only [estOneFast, Mat.toV_mulVec, Mat.toM_transpose, Vec.toV_sub]
  rw [Matrix.mulVec_mulVec]

/-- C09.4a `full-rank guard`: when numpy's rank differs from `min(shape)` the estimator raises, whatever the data. -/
theorem guard_reject [Add K] [Mul K] [Sub K] [Zero K] (rank : Nat) (G : Mat K n n) (A : Mat K m n)
    (b : Vec K m) (dss : List (List (Nat × List K))) (h : min m n ≠ rank) :
    estSeq rank G A b dss = .error .notFullRank := by
  simp [estSeq, isFullRank, h]

/-- C09.4b `sequence = map`: when the guard passes, the sequence estimate is the list of the single-dataset
estimates, in order, failing at the first dataset that fails. -/
theorem estSeq_pointwise [Add K] [Mul K] [Sub K] [Zero K] (rank : Nat) (G : Mat K n n)
    (A : Mat K m n) (b : Vec K m) (dss : List (List (Nat × List K))) (h : min m n = rank) :
    estSeq rank G A b dss = dss.mapM (estimate rank G A b) := by
  have e : ∀ ds, estimate rank G A b ds = estData (aDdag G A) b ds := by
    intro ds
    simp only [estimate, estSeq, isFullRank, h, beq_self_eq_true, Bool.not_true, Bool.false_eq_true,
      if_false, List.mapM_cons, List.mapM_nil]
    cases estData (aDdag G A) b ds <;> rfl
  simp only [estSeq, isFullRank, h, beq_self_eq_true, Bool.not_true, Bool.false_eq_true, if_false]
  congr 1
  funext ds
  exact (e ds).symm

/-- C09.4c each entry of a successful sequence estimate is the estimate of that dataset alone. -/
theorem estSeq_get [Add K] [Mul K] [Sub K] [Zero K] (rank : Nat) (G : Mat K n n) (A : Mat K m n)
    (b : Vec K m) (dss : List (List (Nat × List K))) (vs : List (Vec K n))
    (h : estSeq rank G A b dss = .ok vs) :
    vs.length = dss.length ∧
      ∀ i (hi : i < dss.length) (hv : i < vs.length), estimate rank G A b dss[i] = .ok vs[i] := by
  by_cases hr : min m n = rank
  · rw [estSeq_pointwise rank G A b dss hr] at h
    clear hr
    induction dss generalizing vs with
    | nil => cases h; exact ⟨rfl, fun i hi => nomatch hi⟩
    | cons ds dss ih =>
      rw [List.mapM_cons] at h
      cases h1 : estimate rank G A b ds with
      | error e => rw [h1] at h; cases h
      | ok v =>
        cases h2 : dss.mapM (estimate rank G A b) with
        | error e => rw [h1, h2] at h; cases h
        | ok vs' =>
          rw [h1, h2] at h
          cases h
          obtain ⟨hl, hg⟩ := ih vs' h2
          refine ⟨congrArg Nat.succ hl, fun i hi hv => ?_⟩
          cases i with
          | zero => exact h1
          | succ j => exact hg j (Nat.lt_of_succ_lt_succ hi) (Nat.lt_of_succ_lt_succ hv)
  · rw [guard_reject rank G A b dss hr] at h; cases h

/-- C09.5 `independence from sample counts`: two sequences of datasets that carry the same distributions
(whatever counts are attached) give the same result, errors included. -/
theorem estSeq_ignores_counts [Add K] [Mul K] [Sub K] [Zero K] (rank : Nat) (G : Mat K n n)
    (A : Mat K m n) (b : Vec K m) (dss dss' : List (List (Nat × List K)))
    (h : dss.map (fun ds => ds.map (·.2)) = dss'.map (fun ds => ds.map (·.2))) :
    estSeq rank G A b dss = estSeq rank G A b dss' := by
  unfold estSeq
  rw [show estData (aDdag G A) b = estArr (aDdag G A) b ∘ fun ds => ds.map (·.2) from rfl, ← List.mapM_map,
    ← List.mapM_map, h]

/-- C09.6a soundness of the checker (`tol`-approximate normal equations ⇒ `tol`-approximate optimality):
if `lsqCert A b f v tol` accepts, then for every `w`
`‖Av+b−f‖² ≤ ‖Aw+b−f‖² + 2·tol·Σᵢ|wᵢ−vᵢ|`. -/
theorem lsqCert_sound [Field K] [LinearOrder K] [IsStrictOrderedRing K] [DecidableLE K]
    (A : Mat K m n) (b f : Vec K m) (v : Vec K n) (tol : K) (h : lsqCert A b f v tol = true)
    (w : Vec K n) :
    sqRes A b f v ≤ sqRes A b f w + 2 * tol * ∑ i, |w.get i - v.get i| := by
  rw [lsqCert_iff, toV_normalResidual] at h
  rw [sqRes_eq, sqRes_eq]
  exact m_lsq_tol A.toM (Vec.toV b) (Vec.toV f) (Vec.toV v) tol h (Vec.toV w)

/-- C09.6c distance of an accepted vector to the coded estimate: componentwise
`|vᵢ − v̂ᵢ| ≤ tol · Σⱼ|Gᵢⱼ|`. -/
theorem lsqCert_dist [Field K] [LinearOrder K] [IsStrictOrderedRing K] [DecidableLE K]
    (G : Mat K n n) (A : Mat K m n) (b f : Vec K m) (v : Vec K n) (tol : K) (hc : Contract G A)
    (h : lsqCert A b f v tol = true) (i : Fin n) :
    |v.get i - (estOne (aDdag G A) b f).get i| ≤ tol * ∑ j, |G.get i j| := by
  rw [lsqCert_iff] at h
  have hd := congrFun (m_dist hc.toM (Vec.toV b) (Vec.toV f) (Vec.toV v)) i
  rw [← toV_estOne, ← toV_normalResidual] at hd
  have hb := abs_dot_le _ (G.toM i) tol h
  rwa [dotProduct_comm, ← show _ = _ ⬝ᵥ _ from hd] at hb

/-- C09.6b with `tol = 0` an accepted `v` *is* the coded estimate (under the contract), hence the exact
least-squares solution. -/
theorem lsqCert_zero [Field K] [LinearOrder K] [IsStrictOrderedRing K] [DecidableLE K]
    (G : Mat K n n) (A : Mat K m n) (b f : Vec K m) (v : Vec K n) (hc : Contract G A)
    (h : lsqCert A b f v 0 = true) : v = estOne (aDdag G A) b f := by
  apply normal_imp_est G A b f hc
  rw [lsqCert_iff] at h
  apply Vec.toV_injective
  funext i
  rw [Vec.toV_zero]
  exact abs_nonpos_iff.1 (h i)

/-- C09.7a the exact solver returns only genuine solutions. -/
theorem solveChecked_sound (M : Mat Rat n n) (y x : Vec Rat n) (h : solveChecked M y = some x) :
    M.mulVec x = y := by
  unfold solveChecked at h
  simp only [Option.bind_eq_bind, Option.bind_eq_some_iff] at h
  obtain ⟨red, -, xs, -, h⟩ := h
  split at h
  · split at h
    · rename_i hx
      injection h with h
      rw [← h]; exact hx
    · cases h
  · cases h

/-- C09.7b the exact reference used by the correspondence check is the least-squares optimum over ℚ. -/
theorem lsqExact_optimal (A : Mat Rat m n) (b f : Vec Rat m) (v : Vec Rat n)
    (h : lsqExact A b f = some v) (w : Vec Rat n) : sqRes A b f v ≤ sqRes A b f w := by
  have hs := solveChecked_sound _ _ _ h
  rw [sqRes_eq, sqRes_eq]
  apply m_lsq
  have := congrArg Vec.toV hs
  simp only [Mat.toV_mulVec, Mat.toM_mul, Mat.toM_transpose, Vec.toV_sub] at this
  rw [mres_eq, Matrix.mulVec_sub, Matrix.mulVec_mulVec, this, sub_self]

/-! ## numpy's inverse is not exact: the same clauses for an inverse that meets the contract only up to `δ` -/

/-- C09.1' exact data through ANY matrix `G` used as inverse: the recovery error is `(G·AᵀA − 1)·v₀` — an identity, no
hypothesis on `G`. -/
theorem est_exact_err [Field K] (G : Mat K n n) (A : Mat K m n) (b : Vec K m) (v0 : Vec K n) :
    Vec.toV (estOne (aDdag G A) b ((A.mulVec v0).add b)) - Vec.toV v0 =
      (invResidualLeft G A).toM *ᵥ Vec.toV v0 := by
  rw [toV_estOne]
  simp only [Vec.toV_add, Mat.toV_mulVec, invResidualLeft, Mat.toM_sub, Mat.toM_mul, Mat.toM_transpose, Mat.toM_one]
  exact m_exact_err _ _ _ _

/-- C09.2' arbitrary data through ANY `G`: the normal-equation residual of the coded estimate is
`((AᵀA)·G − 1)·Aᵀ(f − b)`. -/
theorem est_normal_err [Field K] (G : Mat K n n) (A : Mat K m n) (b f : Vec K m) :
    Vec.toV (normalResidual A b f (estOne (aDdag G A) b f)) =
      (invResidualRight G A).toM *ᵥ (A.toMᵀ *ᵥ (Vec.toV f - Vec.toV b)) := by
  rw [toV_normalResidual, toV_estOne]
  simp only [invResidualRight, Mat.toM_sub, Mat.toM_mul, Mat.toM_transpose, Mat.toM_one]
  exact m_normal_err _ _ _ _

theorem invCert_iff [Field K] [LinearOrder K] [IsStrictOrderedRing K] [DecidableLE K] (G : Mat K n n)
    (A : Mat K m n) (δ : K) :
    invCert G A δ = true ↔ (∀ i j, |(invResidualLeft G A).get i j| ≤ δ) ∧ (∀ i j, |(invResidualRight G A).get i j| ≤ δ) := by
  simp only [invCert, List.all_eq_true, List.mem_finRange, true_implies, Bool.and_eq_true, decide_eq_true_eq, abs_le,
    and_assoc, forall_and]

/-- C09.1'' soundness of the checker run on numpy's inverse (`invCert G A δ`, evaluated exactly by the driver): exact
data are inverted up to `δ·‖v₀‖₁` componentwise, and the normal equations of every data vector hold up to
`δ·‖Aᵀ(f−b)‖₁` — the exact-contract theorems `est_exact` / `est_normal` are the case `δ = 0`. -/
theorem invCert_sound [Field K] [LinearOrder K] [IsStrictOrderedRing K] [DecidableLE K] (G : Mat K n n)
    (A : Mat K m n) (b : Vec K m) (δ : K) (h : invCert G A δ = true) :
    (∀ (v0 : Vec K n) (i : Fin n),
      |(estOne (aDdag G A) b ((A.mulVec v0).add b)).get i - v0.get i| ≤ δ * ∑ j, |v0.get j|) ∧
    (∀ (f : Vec K m) (i : Fin n),
      |(normalResidual A b f (estOne (aDdag G A) b f)).get i| ≤
        δ * ∑ j, |(A.transpose.mulVec (f.sub b)).get j|) := by
  rw [invCert_iff] at h
  refine ⟨fun v0 i => ?_, fun f i => ?_⟩
  · have hb := abs_dot_le ((invResidualLeft G A).toM i) (Vec.toV v0) δ (h.1 i)
    rwa [← show _ = _ ⬝ᵥ _ from congrFun (est_exact_err G A b v0) i] at hb
  · have hb := abs_dot_le ((invResidualRight G A).toM i) (A.toMᵀ *ᵥ (Vec.toV f - Vec.toV b)) δ (h.2 i)
    rwa [← show _ = _ ⬝ᵥ _ from congrFun (est_normal_err G A b f) i, ← Vec.toV_sub, ← Mat.toM_transpose,
      ← Mat.toV_mulVec] at hb

/-- with `δ = 0` an accepted inverse satisfies the exact contract. -/
theorem invCert_zero [Field K] [LinearOrder K] [IsStrictOrderedRing K] [DecidableLE K] (G : Mat K n n)
    (A : Mat K m n) (h : invCert G A 0 = true) : Contract G A := by
  rw [invCert_iff] at h
  unfold Contract
  apply Mat.ext'
  intro i j
  have := h.1 i j
  simp only [abs_nonpos_iff, invResidualLeft, Mat.sub, Mat.get_ofFn, sub_eq_zero] at this
  exact this

/-- C09.4h `np.linalg.inv` raising (`LinAlgError`, exactly singular `AᵀA` — only possible when the contract is
unsolvable): the estimator raises after the guard and before reading any data, also for an empty sequence; otherwise
`estSeqInv` is `estSeq`. -/
theorem estSeqInv_cases [Add K] [Mul K] [Sub K] [Zero K] (rank : Nat) (A : Mat K m n) (b : Vec K m)
    (dss : List (List (Nat × List K))) :
    (min m n = rank → estSeqInv rank (none : Option (Mat K n n)) A b dss = .error .singular) ∧
    (min m n ≠ rank → estSeqInv rank (none : Option (Mat K n n)) A b dss = .error .notFullRank) ∧
    (∀ G : Mat K n n, estSeqInv rank (some G) A b dss = estSeq rank G A b dss) := by
  refine ⟨fun h => by simp [estSeqInv, isFullRank, h], fun h => by simp [estSeqInv, isFullRank, h], fun G => rfl⟩

/-! ## the rank guard as coded: exactly which forward models it lets through -/

/-- C09.4d the inverse contract forces full column rank and a tall (or square) forward model:
`G·(AᵀA) = 1 ⇒ rank A = n ∧ n ≤ m` (`rank` = Mathlib's `Matrix.rank`, the value numpy's `matrix_rank` approximates). -/
theorem contract_rank [Field K] (G : Mat K n n) (A : Mat K m n) (h : Contract G A) :
    A.toM.rank = n ∧ n ≤ m := m_contract_rank h.toM

/-- C09.4e every forward model for which `inv(AᵀA)` exists passes the coded guard `min(shape) == rank`. -/
theorem guard_passes_of_contract [Field K] (G : Mat K n n) (A : Mat K m n) (h : Contract G A) :
    isFullRank m n A.toM.rank = true := by
  obtain ⟨hr, hmn⟩ := contract_rank G A h
  simp [isFullRank, hr, Nat.min_eq_right hmn]

/-- C09.4f a wide forward model (`m < n`, more variables than equations) never admits the inverse the estimator
needs, whatever numpy returns for `inv(AᵀA)`. -/
theorem wide_no_contract [Field K] (A : Mat K m n) (hw : m < n) : ¬ ∃ G : Mat K n n, Contract G A := by
  rintro ⟨G, h⟩
  have := (contract_rank G A h).2
  omega

/-- C09.4g **exactly which matA the coded guard lets through** (ordered field, exact rank): the guard
`min(matA.shape) == rank` passes iff either the inverse contract is solvable (full column rank: the informationally
complete case the property is about) or matA is wide with full ROW rank — and for the latter no valid `inv(AᵀA)`
exists (`wide_no_contract`): the guard is complete but not sound for wide matrices (`size = matA.shape[1]` would be). -/
theorem guard_lets_through_iff [Field K] [LinearOrder K] [IsStrictOrderedRing K] (A : Mat K m n) :
    isFullRank m n A.toM.rank = true ↔ (∃ G : Mat K n n, Contract G A) ∨ (m < n ∧ A.toM.rank = m) := by
  constructor
  · intro h
    have hmin : min m n = A.toM.rank := by simpa [isFullRank] using h
    by_cases hmn : n ≤ m
    · left
      have hr : A.toM.rank = n := by rw [← hmin]; exact Nat.min_eq_right hmn
      obtain ⟨Gm, hG⟩ := m_contract_exists A.toM ((m_rank_eq_iff A.toM).1 hr)
      exact ⟨_, contract_of_matrix A Gm hG⟩
    · right
      have : m < n := by omega
      exact ⟨this, by rw [← hmin]; exact Nat.min_eq_left (by omega)⟩
  · rintro (⟨G, h⟩ | ⟨hw, hr⟩)
    · exact guard_passes_of_contract G A h
    · simp [isFullRank, hr, Nat.min_eq_left (Nat.le_of_lt hw)]

/-! ## tie to the source: the definitions regenerated from linear_estimator.py / standard_qtomography.py
(`lean/QGen/C09.lean`, rewritten by `harness/c09.py:translate` on every run) ARE the hand-written model -/

/-- C09.src-a the pseudo-inverse expression read from the source (`np.linalg.inv(A.T @ A) @ A.T`, computed once before
the loop) is the model's `aDdag` with numpy's inverse as parameter. -/
theorem gen_A_ddag [Add K] [Mul K] [Zero K] (G : Mat K n n) (A : Mat K m n) :
    QGen.C09.A_ddag (fun _ => G) A = aDdag G A := rfl

/-- C09.src-b the per-dataset expression read from the source (`A_ddag @ (f - b)`) is the model's `estOne`. -/
theorem gen_v [Add K] [Mul K] [Sub K] [Zero K] (Ad : Mat K n m) (b f : Vec K m) :
    QGen.C09.v Ad f b = estOne Ad b f := rfl

/-- C09.src-c the loop body of the model is the generated glue: component `[1]` of every `(count, distribution)` pair,
`np.concatenate`, then `v`. -/
theorem gen_estData [Add K] [Mul K] [Sub K] [Zero K] (Ad : Mat K n m) (b : Vec K m) (ds : List (Nat × List K)) :
    estData Ad b ds = (do
      let flat ← QGen.C09.join (ds.map QGen.C09.data_of)
      let f ← toDataVec m flat
      pure (QGen.C09.v Ad f b)) := rfl

/-- C09.src-d the guard expression read from `is_fullrank_matA` (`size = min(matA.shape)`, `size == rank`) is the model's. -/
theorem gen_is_fullrank (m n rank : Nat) : QGen.C09.is_fullrank m n rank = isFullRank m n rank := rfl

/-- C09.src-e `estimated_var` / `estimated_qoperation` read entry `[0]` of the sequence, as the model's `estimate`. -/
theorem gen_estimated_var [Add K] [Mul K] [Sub K] [Zero K] (rank : Nat) (G : Mat K n n) (A : Mat K m n)
    (b : Vec K m) (ds : List (Nat × List K)) :
    QGen.C09.estimated_var_index = QGen.C09.estimated_qoperation_index ∧
    estimate rank G A b ds = (do
      let vs ← estSeq rank G A b [ds]
      match vs[QGen.C09.estimated_var_index]? with
      | some v => pure v
      | none => .error .index) := by
  refine ⟨rfl, ?_⟩
  unfold estimate
  cases estSeq rank G A b [ds] with
  | error e => rfl
  | ok vs => cases vs <;> rfl

/-- C09.src-f the headline clause restated on the generated definitions: exact data ⇒ exact recovery. -/
theorem gen_est_exact [Field K] (G : Mat K n n) (A : Mat K m n) (b : Vec K m) (v0 : Vec K n)
    (h : Contract G A) :
    QGen.C09.v (QGen.C09.A_ddag (fun _ => G) A) ((A.mulVec v0).add b) b = v0 := by
  rw [gen_A_ddag, gen_v]; exact est_exact G A b v0 h

/-! ## C08 ∘ C09: exact data of the object built from `var₀` are inverted to `var₀` -/

/-- C09.8a end-to-end (any tomography type): let `cs` be the coefficient dictionary of C08, `A`, `b` its
`calc_matA()` / `calc_vecB()` as executable matrix / vector, `G` numpy's `inv(AᵀA)` (contract), and let the data
vector be the forward model's prediction `matA·var₀ + vecB` for some variable vector `var₀`.  Then the coded linear
estimate is `var₀`.  (The contract already forces the statistics map to be injective, `contract_injective`.) -/
theorem lin_recovers_var [Field K] (cs : List (QM.C08.Coeff K)) (A : Mat K m n) (b : Vec K m)
    (G : Mat K n n) (hA : rowsOf A = QM.C08.matA cs) (hb : b.toList = QM.C08.vecB cs) (hc : Contract G A)
    (var0 : Vec K n) (f : Vec K m) (hf : f.toList = QM.C08.predictRaw cs var0.toList) :
    estOne (aDdag G A) b f = var0 :=
  eq_forward_of_toList cs A b hA hb var0 f hf ▸ est_exact G A b var0 hc

/-- C09.8a' end-to-end with numpy's INEXACT inverse: same hypotheses as `lin_recovers_var`, the exact contract replaced
by the accepted certificate `invCert G A δ` (what the driver checks on the float inverse): the linear estimate is `var₀`
up to `δ·‖var₀‖₁` in every component. -/
theorem lin_recovers_var_approx [Field K] [LinearOrder K] [IsStrictOrderedRing K] [DecidableLE K]
    (cs : List (QM.C08.Coeff K)) (A : Mat K m n) (b : Vec K m) (G : Mat K n n) (δ : K)
    (hA : rowsOf A = QM.C08.matA cs) (hb : b.toList = QM.C08.vecB cs) (hc : invCert G A δ = true)
    (var0 : Vec K n) (f : Vec K m) (hf : f.toList = QM.C08.predictRaw cs var0.toList) (i : Fin n) :
    |(estOne (aDdag G A) b f).get i - var0.get i| ≤ δ * ∑ j, |var0.get j| :=
  eq_forward_of_toList cs A b hA hb var0 f hf ▸ (invCert_sound G A b δ hc).1 var0 i

/-- C09.8b' the same through the circuit (conclusion of any C08 `*_affine` theorem as hypothesis): data = circuit
distributions of the object built from `var₀` ⇒ estimate within `δ·‖var₀‖₁` of `var₀`. -/
theorem lin_recovers_from_circuit_approx [Field K] [LinearOrder K] [IsStrictOrderedRing K] [DecidableLE K]
    (per : List (List (List K × K))) (A : Mat K m n) (b : Vec K m) (G : Mat K n n) (δ : K)
    (hA : rowsOf A = QM.C08.matA (QM.C08.mkCoeffs per)) (hb : b.toList = QM.C08.vecB (QM.C08.mkCoeffs per))
    (hc : invCert G A δ = true) (var0 : Vec K n) (circuit : Option (List (List K))) (dists : List (List K))
    (haff : circuit = some (per.map fun rows => rows.map (QM.C08.rowVal var0.toList)))
    (hd : circuit = some dists) (f : Vec K m) (hf : f.toList = dists.flatten) (i : Fin n) :
    |(estOne (aDdag G A) b f).get i - var0.get i| ≤ δ * ∑ j, |var0.get j| :=
  lin_recovers_var_approx (QM.C08.mkCoeffs per) A b G δ hA hb hc var0 f
    (by rw [hf, QM.C08.predictRaw_mkCoeffs, Option.some.inj (haff.symm.trans hd)]) i

/-- C09.8b end-to-end through the circuit: if the dictionary entries predict the circuits of all schedules on the
object built from `var₀` (conclusion of `QM.C08.qst_affine / povmt_affine / qpt_affine / qmpt_affine`) and the data
are exactly those circuit distributions, concatenated in schedule order, the linear estimate is `var₀` — the
estimator returns the object the data came from. -/
theorem lin_recovers_from_circuit [Field K] (per : List (List (List K × K))) (A : Mat K m n) (b : Vec K m)
    (G : Mat K n n) (hA : rowsOf A = QM.C08.matA (QM.C08.mkCoeffs per))
    (hb : b.toList = QM.C08.vecB (QM.C08.mkCoeffs per)) (hc : Contract G A) (var0 : Vec K n)
    (circuit : Option (List (List K))) (dists : List (List K))
    (haff : circuit = some (per.map fun rows => rows.map (QM.C08.rowVal var0.toList)))
    (hd : circuit = some dists) (f : Vec K m) (hf : f.toList = dists.flatten) :
    estOne (aDdag G A) b f = var0 :=
  lin_recovers_var (QM.C08.mkCoeffs per) A b G hA hb hc var0 f
    (by rw [hf, QM.C08.predictRaw_mkCoeffs, Option.some.inj (haff.symm.trans hd)])

/-- C09.8c the QST instance, hypotheses stated on the model's own functions: dictionary from `qstCoeffs`, data from
`qstCircuit` on the state built from `var₀`. (POVMT / QPT / QMPT: `povmt_object_recovered`, `qpt_object_recovered`,
`qmpt_object_recovered` below.) -/
theorem qst_lin_recovers [Field K] (flag : Bool) (r : K) (povms : List (List (List K))) (scheds : List Nat)
    (cs : List (QM.C08.Coeff K)) (A : Mat K m n) (b : Vec K m) (G : Mat K n n)
    (hcs : QM.C08.qstCoeffs flag r povms scheds = some cs)
    (hA : rowsOf A = QM.C08.matA cs) (hb : b.toList = QM.C08.vecB cs) (hc : Contract G A)
    (var0 : Vec K n) (dists : List (List K))
    (hd : QM.C08.qstCircuit flag r povms scheds var0.toList = some dists)
    (f : Vec K m) (hf : f.toList = dists.flatten) :
    estOne (aDdag G A) b f = var0 := by
  obtain ⟨per, rfl, haff⟩ := QM.C08.qst_affine flag r povms scheds cs var0.toList hcs
  exact lin_recovers_from_circuit per A b G hA hb hc var0 _ dists haff hd f hf

/-! ## `estimated_qoperation(_sequence)`: the objects returned to the caller -/

/-- C09.9a `estimated_qoperation_sequence` is the estimates mapped through `generate_from_var`, one object per dataset in
order; `estimated_qoperation` is its first entry (IndexError on an empty sequence). -/
theorem estimatedQoperation_pointwise [Field K] (kind : Kind) (flag : Bool) (r : K) (d2 mOut : Nat)
    (vs : List (Vec K n)) :
    (estimatedQoperationSeq kind flag r d2 mOut vs).length = vs.length ∧
    (∀ i (h : i < vs.length), (estimatedQoperationSeq kind flag r d2 mOut vs)[i]? =
        some (objOf kind flag r d2 mOut (vs[i]).toList)) ∧
    estimatedQoperation kind flag r d2 mOut vs =
      (match estimatedQoperationSeq kind flag r d2 mOut vs with
       | o :: _ => .ok o
       | [] => .error .index) := by
  refine ⟨by simp [estimatedQoperationSeq], ?_, ?_⟩
  · intro i h
    simp [estimatedQoperationSeq, h]
  · cases vs <;> rfl

/-- C09.9b object-level exact recovery: with exact data `A v₀ + b` of the variable vector `v₀`, the returned object is
the object built from `v₀` (state / POVM / gate / measurement process, both flags). -/
theorem est_object_exact [Field K] (kind : Kind) (flag : Bool) (r : K) (d2 mOut : Nat) (G : Mat K n n)
    (A : Mat K m n) (b : Vec K m) (v0 : Vec K n) (h : Contract G A) :
    estimatedQoperation kind flag r d2 mOut [estOne (aDdag G A) b ((A.mulVec v0).add b)] =
      .ok (objOf kind flag r d2 mOut v0.toList) := by
  rw [est_exact G A b v0 h]; rfl

/-- C09.9c QST end to end at the object level: dictionary from `qstCoeffs`, data = circuit statistics of the state built
from `var₀` ⇒ `estimated_qoperation` is that state. -/
theorem qst_object_recovered [Field K] (flag : Bool) (r : K) (d2 : Nat) (povms : List (List (List K)))
    (scheds : List Nat) (cs : List (QM.C08.Coeff K)) (A : Mat K m n) (b : Vec K m) (G : Mat K n n)
    (hcs : QM.C08.qstCoeffs flag r povms scheds = some cs)
    (hA : rowsOf A = QM.C08.matA cs) (hb : b.toList = QM.C08.vecB cs) (hc : Contract G A)
    (var0 : Vec K n) (dists : List (List K))
    (hd : QM.C08.qstCircuit flag r povms scheds var0.toList = some dists)
    (f : Vec K m) (hf : f.toList = dists.flatten) :
    estimatedQoperation .state flag r d2 1 [estOne (aDdag G A) b f] =
      .ok [QM.C08.stateOf flag r var0.toList] := by
  rw [qst_lin_recovers flag r povms scheds cs A b G hcs hA hb hc var0 dists hd f hf]; rfl

/-- C09.9d the same for POVM, process and measurement-process tomography (and QST again), in one statement: whenever
the dictionary entries predict the circuits of all schedules on the object built from `var₀` — the conclusion of
`QM.C08.qst_affine / povmt_affine / qpt_affine / qmpt_affine` — and the data are those circuit distributions,
`estimated_qoperation` is the object built from `var₀`. -/
theorem object_recovered_from_circuit [Field K] (kind : Kind) (flag : Bool) (r : K) (d2 mOut : Nat)
    (per : List (List (List K × K))) (A : Mat K m n) (b : Vec K m) (G : Mat K n n)
    (hA : rowsOf A = QM.C08.matA (QM.C08.mkCoeffs per)) (hb : b.toList = QM.C08.vecB (QM.C08.mkCoeffs per))
    (hc : Contract G A) (var0 : Vec K n) (circuit : Option (List (List K))) (dists : List (List K))
    (haff : circuit = some (per.map fun rows => rows.map (QM.C08.rowVal var0.toList)))
    (hd : circuit = some dists) (f : Vec K m) (hf : f.toList = dists.flatten) :
    estimatedQoperation kind flag r d2 mOut [estOne (aDdag G A) b f] = .ok (objOf kind flag r d2 mOut var0.toList) := by
  rw [lin_recovers_from_circuit per A b G hA hb hc var0 circuit dists haff hd f hf]; rfl

/-- C09.9e POVM tomography end to end: dictionary from `povmtCoeffs`, data = `povmtCircuit` on the POVM built from `var₀`
⇒ the returned POVM is the one built from `var₀`. -/
theorem povmt_object_recovered [Field K] (flag : Bool) (r : K) (d2 mOut : Nat) (states : List (List K))
    (scheds : List Nat) (cs : List (QM.C08.Coeff K)) (A : Mat K m n) (b : Vec K m) (G : Mat K n n)
    (hm : 0 < mOut) (hstates : ∀ rho ∈ states, rho.length = d2)
    (hcs : QM.C08.povmtCoeffs flag r mOut states scheds = some cs)
    (hA : rowsOf A = QM.C08.matA cs) (hb : b.toList = QM.C08.vecB cs) (hc : Contract G A)
    (var0 : Vec K n) (hvar : n = (if flag then mOut - 1 else mOut) * d2) (dists : List (List K))
    (hd : QM.C08.povmtCircuit flag r d2 mOut states scheds var0.toList = some dists)
    (f : Vec K m) (hf : f.toList = dists.flatten) :
    estimatedQoperation .povm flag r d2 mOut [estOne (aDdag G A) b f] =
      .ok (QM.C08.povmOf flag r d2 mOut var0.toList) := by
  obtain ⟨per, rfl, haff⟩ := QM.C08.povmt_affine flag r d2 mOut states scheds cs var0.toList hm hstates
    (by simp [hvar]) hcs
  exact object_recovered_from_circuit .povm flag r d2 mOut per A b G hA hb hc var0 _ dists haff hd f hf

/-- C09.9f process tomography end to end. -/
theorem qpt_object_recovered [Field K] (flag : Bool) (r : K) (d2 : Nat) (states : List (List K))
    (povms : List (List (List K))) (scheds : List (Nat × Nat)) (cs : List (QM.C08.Coeff K)) (A : Mat K m n)
    (b : Vec K m) (G : Mat K n n) (hstates : ∀ rho ∈ states, rho.length = d2)
    (hcs : QM.C08.qptCoeffs flag states povms scheds = some cs)
    (hA : rowsOf A = QM.C08.matA cs) (hb : b.toList = QM.C08.vecB cs) (hc : Contract G A)
    (var0 : Vec K n) (hvar : n = (if flag then d2 - 1 else d2) * d2) (dists : List (List K))
    (hd : QM.C08.qptCircuit flag d2 states povms scheds var0.toList = some dists)
    (f : Vec K m) (hf : f.toList = dists.flatten) :
    estimatedQoperation .gate flag r d2 1 [estOne (aDdag G A) b f] = .ok (QM.C08.gateOf flag d2 var0.toList) := by
  obtain ⟨per, rfl, haff⟩ := QM.C08.qpt_affine flag d2 states povms scheds cs var0.toList hstates (by simp [hvar]) hcs
  exact object_recovered_from_circuit .gate flag r d2 1 per A b G hA hb hc var0 _ dists haff hd f hf

/-- C09.9g measurement-process tomography end to end (the object is returned as the concatenated rows of its gates). -/
theorem qmpt_object_recovered [Field K] (flag : Bool) (r : K) (d2 mOut : Nat) (states : List (List K))
    (povms : List (List (List K))) (scheds : List (Nat × Nat)) (cs : List (QM.C08.Coeff K)) (A : Mat K m n)
    (b : Vec K m) (G : Mat K n n) (hm : 0 < mOut) (hd2 : 0 < d2) (hstates : ∀ rho ∈ states, rho.length = d2)
    (hpovms : ∀ povm ∈ povms, ∀ e ∈ povm, e.length = d2)
    (hcs : QM.C08.qmptCoeffs flag mOut states povms scheds = some cs)
    (hA : rowsOf A = QM.C08.matA cs) (hb : b.toList = QM.C08.vecB cs) (hc : Contract G A)
    (var0 : Vec K n)
    (hvar : n = if flag then (mOut - 1) * (d2 * d2) + (d2 - 1) * d2 else mOut * (d2 * d2))
    (dists : List (List K))
    (hd : QM.C08.qmptCircuit flag d2 mOut states povms scheds var0.toList = some dists)
    (f : Vec K m) (hf : f.toList = dists.flatten) :
    estimatedQoperation .mprocess flag r d2 mOut [estOne (aDdag G A) b f] =
      .ok (QM.C08.mprocessOf flag d2 mOut var0.toList).flatten := by
  obtain ⟨per, rfl, haff⟩ := QM.C08.qmpt_affine flag d2 mOut states povms scheds cs var0.toList hm hd2 hstates
    hpovms (by simp [hvar]) hcs
  exact object_recovered_from_circuit .mprocess flag r d2 mOut per A b G hA hb hc var0 _ dists haff hd f hf

/-! ## non-vacuity: concrete instances of the hypotheses -/

/-- `lsqCert` with a positive tolerance accepts a slightly perturbed vector (and rejects it at tolerance 0) -/
example : lsqCert (#v[#v[1, 0], #v[0, 1], #v[1, 1]] : Mat Rat 3 2) (#v[0, 0, 1/2] : Vec Rat 3)
    (#v[1/4, 3/4, 3/2] : Vec Rat 3) (#v[1/4 + 1/1000, 3/4] : Vec Rat 2) (1/100) = true ∧
  lsqCert (#v[#v[1, 0], #v[0, 1], #v[1, 1]] : Mat Rat 3 2) (#v[0, 0, 1/2] : Vec Rat 3)
    (#v[1/4, 3/4, 3/2] : Vec Rat 3) (#v[1/4 + 1/1000, 3/4] : Vec Rat 2) 0 = false := by decide +kernel

/-- two sequences that differ only in the attached counts (hypothesis of `estSeq_ignores_counts`) -/
example : ([[(10, [(1 : Rat)/4]), (0, [3/4]), (7, [3/2])]].map fun ds => ds.map (·.2)) =
    ([[(1, [(1 : Rat)/4]), (1, [3/4]), (1000000, [3/2])]].map fun ds => ds.map (·.2)) := by decide +kernel

/-- POVMT toy instance (`d2 = 2`, two outcomes, flag off): hypotheses of `povmt_object_recovered` -/
example : QM.C08.povmtCoeffs false (1 : Rat) 2 [[1, 0], [0, 1]] [0, 1] =
    some (QM.C08.mkCoeffs [[([1, 0, 0, 0], 0), ([0, 0, 1, 0], 0)], [([0, 1, 0, 0], 0), ([0, 0, 0, 1], 0)]]) := by
  decide +kernel
example : QM.C08.povmtCircuit false (1 : Rat) 2 2 [[1, 0], [0, 1]] [0, 1] (#v[1/3, 1/4, 2/3, 3/4] : Vec Rat 4).toList =
    some [[1/3, 2/3], [1/4, 3/4]] := by decide +kernel

example : estimatedQoperation (K := Rat) .state true 2 4 1 [#v[1/4, 3/4, 0]] = .ok [[1/2, 1/4, 3/4, 0]] := by
  decide +kernel
example : estimatedQoperationSeq (K := Rat) .gate true 2 2 1 [#v[1/4, 3/4], #v[0, 1]] =
    [[[1, 0], [1/4, 3/4]], [[1, 0], [0, 1]]] := by decide +kernel

/-- a 3×2 forward model of full column rank and the exact inverse of `AᵀA` -/
example : Contract (K := ℚ)
    (#v[#v[2/3, -1/3], #v[-1/3, 2/3]] : Mat ℚ 2 2)
    (#v[#v[1, 0], #v[0, 1], #v[1, 1]] : Mat ℚ 3 2) := by
  unfold Contract; decide +kernel

example : estimate 2 (#v[#v[2/3, -1/3], #v[-1/3, 2/3]] : Mat Rat 2 2)
    (#v[#v[1, 0], #v[0, 1], #v[1, 1]] : Mat Rat 3 2) (#v[0, 0, 1/2] : Vec Rat 3)
    [(10, [1/4]), (0, [3/4]), (7, [3/2])] = .ok #v[1/4, 3/4] := by decide +kernel

example : (estSeq 1 (#v[#v[2/3, -1/3], #v[-1/3, 2/3]] : Mat Rat 2 2)
    (#v[#v[1, 0], #v[0, 1], #v[1, 1]] : Mat Rat 3 2) (#v[0, 0, 1/2] : Vec Rat 3)
    [[(10, [1/4, 3/4]), (0, [3/2])]]) = .error .notFullRank := by decide +kernel

/-- mixed outcome counts (distributions of lengths 1 and 2) are concatenated -/
example : estimate 2 (#v[#v[2/3, -1/3], #v[-1/3, 2/3]] : Mat Rat 2 2)
    (#v[#v[1, 0], #v[0, 1], #v[1, 1]] : Mat Rat 3 2) (#v[0, 0, 1/2] : Vec Rat 3)
    [(1, [1/4]), (1, [3/4, 3/2])] = .ok #v[1/4, 3/4] := by decide +kernel

example : lsqCert (#v[#v[1, 0], #v[0, 1], #v[1, 1]] : Mat Rat 3 2) (#v[0, 0, 1/2] : Vec Rat 3)
    (#v[1/4, 3/4, 3/2] : Vec Rat 3) (#v[1/4, 3/4] : Vec Rat 2) 0 = true := by decide +kernel

example : lsqExact (#v[#v[1, 0], #v[0, 1], #v[1, 1]] : Mat Rat 3 2) (#v[0, 0, 1/2] : Vec Rat 3)
    (#v[1, 0, 0] : Vec Rat 3) = some #v[1/2, -1/2] := by decide +kernel

/-- toy QST (vectors of length 2, one two-outcome POVM, flag = False): dictionary, its matrix form, the exact
inverse, and exact circuit data — all hypotheses of `qst_lin_recovers` hold -/
example : QM.C08.qstCoeffs false (1 : Rat) [[[1, 0], [1, 1]]] [0] =
    some (QM.C08.mkCoeffs [[([1, 0], 0), ([1, 1], 0)]]) := by decide +kernel

example : rowsOf (#v[#v[1, 0], #v[1, 1]] : Mat Rat 2 2) =
    QM.C08.matA (QM.C08.mkCoeffs [[([1, 0], 0), ([1, 1], 0)]]) := by
  rw [QM.C08.matA, QM.C08.dict_sorted]; decide +kernel

example : Contract (K := ℚ) (#v[#v[1, -1], #v[-1, 2]] : Mat ℚ 2 2) (#v[#v[1, 0], #v[1, 1]] : Mat ℚ 2 2) := by
  unfold Contract; decide +kernel

example : QM.C08.qstCircuit false (1 : Rat) [[[1, 0], [1, 1]]] [0] (#v[1/3, 1/4] : Vec Rat 2).toList =
    some [[1/3, 7/12]] := by decide +kernel

/-- the generated definitions evaluated on the 3×2 instance above -/
example : QGen.C09.v (QGen.C09.A_ddag (fun _ => (#v[#v[2/3, -1/3], #v[-1/3, 2/3]] : Mat Rat 2 2))
    (#v[#v[1, 0], #v[0, 1], #v[1, 1]] : Mat Rat 3 2)) (#v[1/4, 3/4, 3/2] : Vec Rat 3) (#v[0, 0, 1/2] : Vec Rat 3)
    = #v[1/4, 3/4] := by decide +kernel

example : QGen.C09.is_fullrank 3 2 2 = true ∧ QGen.C09.is_fullrank 2 3 2 = true ∧ QGen.C09.is_fullrank 3 2 1 = false := by
  decide

/-- the 3×2 instance passes the guard through the solvable branch of `guard_lets_through_iff` -/
example : isFullRank 3 2 (Mat.toM (#v[#v[1, 0], #v[0, 1], #v[1, 1]] : Mat ℚ 3 2)).rank = true :=
  (guard_lets_through_iff _).2 (Or.inl ⟨(#v[#v[2/3, -1/3], #v[-1/3, 2/3]] : Mat ℚ 2 2), by
    unfold Contract; decide +kernel⟩)

/-- a wide matrix of full row rank passes the guard although no inverse contract can hold for it -/
example : isFullRank 1 2 (Mat.toM (#v[#v[1, 1]] : Mat ℚ 1 2)).rank = true ∧
    ¬ ∃ G : Mat ℚ 2 2, Contract G (#v[#v[1, 1]] : Mat ℚ 1 2) := by
  refine ⟨?_, wide_no_contract _ (by omega)⟩
  -- the transpose `[[1], [1]]` has the inverse contract `G = [[1/2]]`, hence rank 1
  have hc : Contract (#v[#v[1/2]] : Mat ℚ 1 1) (Mat.transpose (#v[#v[1, 1]] : Mat ℚ 1 2)) := by
    unfold Contract; decide +kernel
  rw [guard_lets_through_iff, ← Matrix.rank_transpose, ← Mat.toM_transpose]
  exact Or.inr ⟨by omega, (contract_rank _ _ hc).1⟩

/-- an inexact inverse (`2/3` replaced by `2/3 + 1/1000`) is accepted at `δ = 1/100` and rejected at `δ = 0`;
the exact inverse is accepted at `δ = 0` -/
example : invCert (#v[#v[2/3 + 1/1000, -1/3], #v[-1/3, 2/3]] : Mat Rat 2 2)
      (#v[#v[1, 0], #v[0, 1], #v[1, 1]] : Mat Rat 3 2) (1/100) = true ∧
    invCert (#v[#v[2/3 + 1/1000, -1/3], #v[-1/3, 2/3]] : Mat Rat 2 2)
      (#v[#v[1, 0], #v[0, 1], #v[1, 1]] : Mat Rat 3 2) 0 = false ∧
    invCert (#v[#v[2/3, -1/3], #v[-1/3, 2/3]] : Mat Rat 2 2)
      (#v[#v[1, 0], #v[0, 1], #v[1, 1]] : Mat Rat 3 2) 0 = true := by decide +kernel

/-- the wide matrix `[[1, 1]]` passes the guard (rank 1) and numpy's inverse raises: `singular`, also without data -/
example : estSeqInv 1 (none : Option (Mat Rat 2 2)) (#v[#v[1, 1]] : Mat Rat 1 2) (#v[1/2] : Vec Rat 1) [] =
    .error .singular := by decide +kernel

/-- hypotheses of `lin_recovers_var_approx` on the toy QST: an inverse that is off by 1/1000 is certified at `δ = 1/100` -/
example : invCert (#v[#v[1 + 1/1000, -1], #v[-1, 2]] : Mat Rat 2 2) (#v[#v[1, 0], #v[1, 1]] : Mat Rat 2 2) (1/100) = true := by
  decide +kernel

end QM.C09
