import QProofs.C17
import Mathlib.Analysis.CStarAlgebra.Matrix
import Mathlib.Analysis.Normed.Algebra.MatrixExponential
/-!
# C17 — catalogued objects: soundness of the certificate checkers and the generic constructions

The catalogue entries themselves are certified per entry by *executing* the checkers of `QModel/C17.lean`
on the implementation's outputs (harness); what is proved here, for all dimensions, is
(1) that a passed `psdCert` really implies positive semidefiniteness up to `ε`, and what acceptance by each of the other five
checkers bounds (section `cert`);
(2) that the generic constructions the catalogues are built from (pure state ↦ density matrix, orthonormal
basis ↦ projective POVM, unitary ↦ gate, Kraus set ↦ measurement process, Hamiltonian ↦ unitary) always yield physical
objects (sections `generic`, `families`, `hamiltonian`);
(3) that the EXECUTED constructions are those: unitary ↦ `U ⊗ Ū` ↦ HS matrix (`hs`, `execgate`), and the alternative
descriptions of states, POVMs, Kraus sets and Hamiltonians agree (`descriptions`);
(4) on the name tables generated from the source: validator ⇔ listed, unlisted state names rejected, structure of the
two-qutrit gate names (`names`).
-/
open Matrix
namespace QM.C17
open QM QM.C18
open scoped ComplexOrder

section cert
variable {n : Nat}

/-- C17 `psdCert` soundness: if `M` is exactly Hermitian and the residual of the (float) eigen-decomposition
with clipped eigenvalues has squared Frobenius norm `≤ ε²`, then `M + ε·1` is positive semidefinite —
for ANY `V` (no unitarity of the eigenvector matrix is assumed), all sizes. -/
theorem psdCert_sound (M V : Mat ℂ n n) (lam : Fin n → ℝ) (ε : ℝ) (hε : 0 ≤ ε) (hM : M = adj M)
    (h : (frob2 (psdResid M V (Vec.ofFn fun i => (((max (lam i) 0 : ℝ)) : ℂ)))).re ≤ ε ^ 2) :
    (M.toM + (ε : ℂ) • (1 : Matrix (Fin n) (Fin n) ℂ)).PosSemidef := by
  have hres : (psdResid M V (Vec.ofFn fun i => (((max (lam i) 0 : ℝ)) : ℂ))).toM
      = M.toM - V.toM * diagonal (fun i => (((max (lam i) 0 : ℝ)) : ℂ)) * V.toMᴴ := by
    simp [psdResid, toM_adj, toM_diag, Vec.get_ofFn]
  refine psd_of_cert_matrix M.toM V.toM (fun i => max (lam i) 0) (fun i => le_max_right _ _) ε hε ?_ ?_
  · rw [← toM_adj, ← hM]
  · rwa [frobSq, ← hres, ← frob2_eq_trace]

/-- the executed decider (complex rationals) accepts exactly when the three hypotheses of `psdCert_sound`
hold for its input: `ε ≥ 0`, `M` exactly Hermitian, squared residual `≤ ε²`. -/
theorem psdCert_iff (M V : Mat CRat n n) (lam : Vec Rat n) (eps : Rat) :
    psdCert M V lam eps = true ↔
      0 ≤ eps ∧ M = adj M ∧ (frob2 (psdResid M V (clipPos lam))).re ≤ eps * eps := by
  simp [psdCert, Bool.and_eq_true, decide_eq_true_eq, and_assoc]

/-- C17 `psdCert` soundness FOR THE EXECUTED DECIDER: if the checker that the driver runs on complex rationals accepts
`(M, V, λ, ε)`, then the complex matrix `M` (entrywise embedding `mapC`) satisfies `M + ε·1 ⪰ 0`. This is the statement the
per-entry certification of states, POVM elements and Choi matrices rests on; `CRat → ℂ` is a star ring homomorphism
(`CRat.toC`), `frob2` of the residual is carried to `tr(RᴴR)` (`frob2_re_cast`). -/
theorem psdCert_true_sound (M V : Mat CRat n n) (lam : Vec Rat n) (eps : Rat) (h : psdCert M V lam eps = true) :
    (mapC M + (((eps : ℚ) : ℝ) : ℂ) • (1 : Matrix (Fin n) (Fin n) ℂ)).PosSemidef := by
  obtain ⟨h0, hM, hres⟩ := (psdCert_iff M V lam eps).mp h
  have hcast := frobSq_le_of_frob2 _ eps hres
  rw [psdResid, mapC_sub, mapC_mul, mapC_mul, mapC_adj, mapC_diag] at hcast
  simp only [toC_clipPos] at hcast
  exact psd_of_cert_matrix (mapC M) (mapC V) (fun i => max ((lam.get i : ℚ) : ℝ) 0) (fun i => le_max_right _ _) _
    (by exact_mod_cast h0) (by rw [← mapC_adj, ← hM]) hcast

/-- C17 `unitaryCert` soundness (executed decider): acceptance bounds the squared Frobenius norm of `UᴴU − 1` by `ε²`;
with `ε = 0` the float matrix is exactly unitary. -/
theorem unitaryCert_sound (U : Mat CRat n n) (eps : Rat) (h : unitaryCert U eps = true) :
    frobSq ((mapC U)ᴴ * mapC U - 1) ≤ ((eps : ℚ) : ℝ) ^ 2 := by
  have hcast := frobSq_le_of_frob2 (unitaryResid U) eps (by simpa [unitaryCert] using h)
  rwa [unitaryResid, mapC_sub, mapC_mul, mapC_adj, mapC_one] at hcast

theorem unitaryCert_zero (U : Mat CRat n n) (h : unitaryCert U 0 = true) : (mapC U)ᴴ * mapC U = 1 := by
  have := unitaryCert_sound U 0 h
  have h0 := frobSq_eq_zero _ (by simpa using this)
  exact sub_eq_zero.mp h0

/-- C17 `trace1Cert` soundness: acceptance bounds `|tr M − 1|²` by `ε²`. -/
theorem trace1Cert_sound (M : Mat CRat n n) (eps : Rat) (h : trace1Cert M eps = true) :
    Complex.normSq ((mapC M).trace - 1) ≤ ((eps : ℚ) : ℝ) ^ 2 := by
  have hcast : ((CRat.abs2 (M.trace - 1) : ℚ) : ℝ) ≤ ((eps : ℚ) : ℝ) ^ 2 :=
    cast_le_sq (by simpa [trace1Cert] using h)
  have htr : (mapC M).trace - 1 = CRat.toC (M.trace - 1) := by
    rw [map_sub, map_one, Mat.trace_eq, mapC, ← AddMonoidHom.map_trace]
  rw [htr, Complex.normSq_apply, CRat.toC_re, CRat.toC_im]
  exact_mod_cast hcast

/-- C17 `tpCert` soundness at `ε = 0` (real HS matrices, literally the executed instance): the first row of an accepted matrix
IS `e₀` (for `ε > 0` acceptance is, by definition, the bound `tpResid2 hs ≤ ε²` on its squared distance from `e₀`). -/
theorem tpCert_zero (hs : Mat Rat n n) (h : tpCert hs 0 = true) (i j : Fin n) (hi : i.val = 0) :
    hs.get i j = if j.val = 0 then 1 else 0 := by
  have hres : tpResid2 hs ≤ 0 := by simpa [tpCert] using h
  unfold tpResid2 at hres
  simp only [fsum_eq_sum] at hres
  have hnn : ∀ a b : Fin n, 0 ≤ (if a.val = 0 then (hs.get a b - (if b.val = 0 then 1 else 0)) * (hs.get a b - (if b.val = 0 then 1 else 0)) else 0) := by
    intro a b; split_ifs <;> first | exact mul_self_nonneg _ | exact le_rfl
  have hz := (Finset.sum_eq_zero_iff_of_nonneg (fun a _ => Finset.sum_nonneg (fun b _ => hnn a b))).mp
    (le_antisymm hres (Finset.sum_nonneg (fun a _ => Finset.sum_nonneg (fun b _ => hnn a b)))) i (Finset.mem_univ i)
  have hz2 := (Finset.sum_eq_zero_iff_of_nonneg (fun b _ => hnn i b)).mp hz j (Finset.mem_univ j)
  simp only [hi, if_true] at hz2
  have := mul_self_eq_zero.mp hz2
  linarith

/-- C17 `povmSumCert` soundness: acceptance bounds `‖Σ_x M_x − 1‖_F²` by `ε²`; with `ε = 0` the elements sum to 1. -/
theorem povmSumCert_sound (Ms : List (Mat CRat n n)) (eps : Rat) (h : povmSumCert Ms eps = true) :
    frobSq ((Ms.map mapC).sum - 1) ≤ ((eps : ℚ) : ℝ) ^ 2 := by
  have hcast := frobSq_le_of_frob2 (sumResid Ms) eps (by simpa [povmSumCert] using h)
  rwa [mapC_sumResid] at hcast

theorem povmSumCert_zero (Ms : List (Mat CRat n n)) (h : povmSumCert Ms 0 = true) : (Ms.map mapC).sum = 1 := by
  have := povmSumCert_sound Ms 0 h
  exact sub_eq_zero.mp (frobSq_eq_zero _ (by simpa using this))

/-- C17 `hsUnitaryCert` soundness: acceptance bounds the squared Frobenius distance between the implementation's real HS
matrix and the model's `hsOfUnitary B U`, whose entries are `tr(B_aᴴ · U B_b Uᴴ)` (`mapC_hsOfUnitary`). -/
theorem hsUnitaryCert_sound {d : Nat} (B : Basis CRat d) (U : Mat CRat d d) (hs : Mat Rat (d * d) (d * d)) (eps : Rat)
    (h : hsUnitaryCert B U hs eps = true) :
    frobSq (mapC (embed hs) - mapC (hsOfUnitary B U)) ≤ ((eps : ℚ) : ℝ) ^ 2 ∧
      ∀ a b, mapC (hsOfUnitary B U) a b = ((mapC (B.get a))ᴴ * (mapC U * mapC (B.get b) * (mapC U)ᴴ)).trace := by
  refine ⟨?_, mapC_hsOfUnitary B U⟩
  have hcast := frobSq_le_of_frob2 ((embed hs).sub (hsOfUnitary B U)) eps (by simpa [hsUnitaryCert] using h)
  rwa [mapC_sub] at hcast

/-- the residual that `unitaryCert` measures is `UᴴU − 1` (restatement at `ℂ`; the soundness statements are
`unitaryCert_sound` / `unitaryCert_zero` above). -/
theorem unitaryResid_toM (U : Mat ℂ n n) : (unitaryResid U).toM = U.toMᴴ * U.toM - 1 := by
  simp [unitaryResid, toM_adj]
end cert

section generic
variable {n : Type} [Fintype n] [DecidableEq n]

/-- C17 `state_of_pure_vector_physical`: `|ψ⟩⟨ψ|` with `⟨ψ|ψ⟩ = 1` is PSD with unit trace. -/
theorem state_of_pure_vector_physical (ψ : n → ℂ) (h : star ψ ⬝ᵥ ψ = 1) :
    (vecMulVec ψ (star ψ)).PosSemidef ∧ (vecMulVec ψ (star ψ)).trace = 1 := by
  refine ⟨posSemidef_vecMulVec_self_star ψ, ?_⟩
  rw [← h]
  simp [Matrix.trace, vecMulVec_apply, dotProduct, mul_comm]

/-- C17 `povm_of_onb_physical`: the rank-one projectors on the columns of a unitary `U` are PSD and sum to 1. -/
theorem povm_of_onb_physical (U : Matrix n n ℂ) (hU : U * Uᴴ = 1) :
    (∀ x, (vecMulVec (fun i => U i x) (star fun i => U i x)).PosSemidef) ∧
      ∑ x, vecMulVec (fun i => U i x) (star fun i => U i x) = 1 := by
  refine ⟨fun x => posSemidef_vecMulVec_self_star _, ?_⟩
  rw [← hU]
  ext i j
  simp [Matrix.sum_apply, vecMulVec_apply, Matrix.mul_apply, Matrix.conjTranspose_apply]

/-- C17 (DESIGN §4 `gate_of_unitary_physical`, TP): conjugation by a unitary preserves the trace. -/
theorem gate_of_unitary_tp (U ρ : Matrix n n ℂ) (hU : Uᴴ * U = 1) : (U * ρ * Uᴴ).trace = ρ.trace := by
  rw [Matrix.trace_mul_cycle, hU, Matrix.one_mul]

/-- C17 (DESIGN §4 `gate_of_unitary_physical`, CP): the Choi matrix of `ρ ↦ UρUᴴ` is PSD (for every `U`). -/
theorem gate_of_unitary_choi_psd (U : Matrix n n ℂ) : (choi fun ρ => U * ρ * Uᴴ).PosSemidef := by
  rw [choi_conj]; exact posSemidef_vecMulVec_self_star _

/-- C17 (DESIGN §4 `mprocess_of_kraus_physical`, TP): Kraus operators with `Σ KᴴK = 1` give a trace-preserving map … -/
theorem kraus_tp {m : Type} [Fintype m] (K : m → Matrix n n ℂ) (h : ∑ x, (K x)ᴴ * K x = 1)
    (ρ : Matrix n n ℂ) : (∑ x, K x * ρ * (K x)ᴴ).trace = ρ.trace := by
  rw [Matrix.trace_sum]
  have hc : ∀ x, (K x * ρ * (K x)ᴴ).trace = ((K x)ᴴ * K x * ρ).trace :=
    fun x => Matrix.trace_mul_cycle _ _ _
  simp only [hc]
  rw [← Matrix.trace_sum, ← Matrix.sum_mul, h, Matrix.one_mul]

/-- … and each outcome's map `ρ ↦ Σ_k K_k ρ K_kᴴ` has a PSD Choi matrix. -/
theorem kraus_choi_psd {m : Type} [Fintype m] (K : m → Matrix n n ℂ) :
    (choi fun ρ => ∑ x, K x * ρ * (K x)ᴴ).PosSemidef := by
  have : (choi fun ρ => ∑ x, K x * ρ * (K x)ᴴ) = ∑ x, choi (fun ρ => K x * ρ * (K x)ᴴ) := by
    ext p q; simp [choi, Matrix.sum_apply]
  rw [this]
  apply Matrix.posSemidef_sum
  exact fun x _ => gate_of_unitary_choi_psd (K x)
end generic

section families
variable {n : Type} [Fintype n] [DecidableEq n]

/-- C17 `state_ensemble` / depolarised objects: a convex mixture of physical states is a physical state. -/
theorem mixture_physical {m : Type} [Fintype m] (p : m → ℝ) (ρ : m → Matrix n n ℂ) (hp : ∀ x, 0 ≤ p x)
    (hs : ∑ x, p x = 1) (hρ : ∀ x, (ρ x).PosSemidef ∧ (ρ x).trace = 1) :
    (∑ x, ((p x : ℝ) : ℂ) • ρ x).PosSemidef ∧ (∑ x, ((p x : ℝ) : ℂ) • ρ x).trace = 1 := by
  constructor
  · apply Matrix.posSemidef_sum
    intro x _
    exact (hρ x).1.smul (by exact_mod_cast hp x)
  · rw [Matrix.trace_sum]
    simp only [Matrix.trace_smul, (hρ _).2, smul_eq_mul, mul_one]
    exact_mod_cast hs

/-- C17 type-1 (projective) measurement processes: the Kraus operators `|u_x⟩⟨u_x|` built from the columns of a unitary
satisfy `Σ_x K_xᴴ K_x = 1`, so `kraus_tp` / `kraus_choi_psd` apply. -/
theorem projective_kraus_complete (U : Matrix n n ℂ) (hU : U * Uᴴ = 1) (hU' : Uᴴ * U = 1) :
    ∑ x, (vecMulVec (fun i => U i x) (star fun i => U i x))ᴴ * vecMulVec (fun i => U i x) (star fun i => U i x) = 1 := by
  have hn : ∀ x, (star fun i => U i x) ⬝ᵥ (fun i => U i x) = 1 := by
    intro x
    have := congrFun (congrFun hU' x) x
    simpa [Matrix.mul_apply, Matrix.conjTranspose_apply, dotProduct] using this
  -- each `|u_x⟩⟨u_x|` is a projector, so the sum is that of `povm_of_onb_physical`
  simp only [conjTranspose_vecMulVec, star_star, vecMulVec_mul_vecMulVec, hn, one_smul]
  exact (povm_of_onb_physical U hU).2
end families

section hamiltonian
open NormedSpace
open scoped Matrix.Norms.L2Operator

/-- C17 `unitary_of_hamiltonian`: `exp(−iH)` is unitary for every Hermitian `H` (all dimensions; the
topology on matrices is the one of the operator norm). -/
theorem unitary_of_hamiltonian {n : Type} [Fintype n] [DecidableEq n] (H : Matrix n n ℂ) (hH : Hᴴ = H) :
    exp ((-Complex.I) • H) ∈ unitary (Matrix n n ℂ) := by
  let _ : NormedAlgebra ℚ (Matrix n n ℂ) := NormedAlgebra.restrictScalars ℚ ℂ _
  apply exp_mem_unitary_of_mem_skewAdjoint
  rw [skewAdjoint.mem_iff, Matrix.star_eq_conjTranspose, Matrix.conjTranspose_smul, hH]
  simp

/-- C17 Hamiltonian-defined gates (every 3-qubit and 2-qutrit catalogue gate, and the gate of every catalogue
Lindbladian): for Hermitian `H` the map `ρ ↦ UρUᴴ` with `U = exp(−iH)` is trace preserving and its Choi matrix is PSD. -/
theorem gate_of_hamiltonian_physical {n : Type} [Fintype n] [DecidableEq n] (H : Matrix n n ℂ) (hH : Hᴴ = H) :
    (∀ ρ : Matrix n n ℂ, (exp ((-Complex.I) • H) * ρ * (exp ((-Complex.I) • H))ᴴ).trace = ρ.trace) ∧
      (choi fun ρ => exp ((-Complex.I) • H) * ρ * (exp ((-Complex.I) • H))ᴴ).PosSemidef := by
  have hU := unitary_of_hamiltonian H hH
  refine ⟨fun ρ => gate_of_unitary_tp _ ρ ?_, gate_of_unitary_choi_psd _⟩
  rw [← Matrix.star_eq_conjTranspose]
  exact Unitary.star_mul_self_of_mem hU
end hamiltonian

section hs
variable {d : Nat}

/-- C17 "unitary ↦ HS matrix is TP": for an orthonormal Hermitian basis with `B_0 = s·1` (`s` real) and a
unitary `U`, the first row of the model's `hsOfUnitary B U` is `e₀`. -/
theorem hsOfUnitary_row0 (B : Basis ℂ d) (z : Fin (d * d)) (s : ℂ) (hB : ONH0 B z s) (hs : star s = s)
    (U : Mat ℂ d d) (hU : U.toMᴴ * U.toM = 1) (b : Fin (d * d)) :
    (hsOfUnitary B U).get z b = if b = z then 1 else 0 := by
  simp only [hsOfUnitary, Mat.get_ofFn]
  rw [trMul_eq_trace, toM_adj, Mat.toM_mul, Mat.toM_mul, toM_adj, toM_get_eq_Bm, toM_get_eq_Bm,
    hB.herm z, hB.b0, Matrix.smul_mul, Matrix.one_mul, Matrix.trace_smul, Matrix.trace_mul_cycle, hU,
    Matrix.one_mul, smul_eq_mul, hB.s_mul_trace_B]
end hs

/-! ## the executed gate construction: unitary ↦ comp-basis superoperator ↦ HS matrix

The generic theorems above are statements about Mathlib matrices. These three tie them to definitions that are EXECUTED
(C18's `kron`, `conjM`, `act`, `choiCb`, `toHerm` and this file's `hsOfUnitary`, the reference of `hsUnitaryCert`): the model's
HS matrix of a unitary is the basis conversion of `U ⊗ Ū`, which acts as `ρ ↦ UρUᴴ` and whose Choi matrix is PSD. -/
section execgate
variable {d : Nat}

/-- `U ⊗ conj U` (the comp-basis matrix quara's `calc_gate_mat_from_unitary_mat` builds) acts as `ρ ↦ UρUᴴ`. -/
theorem gate_superoperator_acts (U rho : Mat ℂ d d) :
    (act (kron U (conjM U)) rho).toM = U.toM * rho.toM * U.toMᴴ :=
  act_kron_conjM U U rho

/-- its Choi matrix (`choiCb`, a reshuffle of the entries) is the rank-one PSD matrix `|vec U⟩⟩⟨⟨vec U|` — CP for every `U`. -/
theorem gate_superoperator_choi_psd (U : Mat ℂ d d) : (choiCb (kron U (conjM U))).toM.PosSemidef := by
  have : (choiCb (kron U (conjM U))).toM
      = vecMulVec (fun r : Fin (d * d) => U.get (p2 r) (p1 r)) (star fun r : Fin (d * d) => U.get (p2 r) (p1 r)) := by
    ext r c
    simp [choiCb, vecMulVec_apply]
  rw [this]; exact posSemidef_vecMulVec_self_star _

/-- and the model's `hsOfUnitary B U` (entries `tr(B_aᴴ U B_b Uᴴ)`) is exactly `convert_hs(U ⊗ Ū, comp, B)` — any basis, all `d`. -/
theorem hsOfUnitary_eq_toHerm (B : Basis ℂ d) (U : Mat ℂ d d) :
    hsOfUnitary B U = toHerm B (kron U (conjM U)) := by
  apply Mat.ext'; intro a b
  rw [toHerm_get_trace, gate_superoperator_acts]
  simp only [hsOfUnitary, Mat.get_ofFn]
  rw [trMul_eq_trace, toM_adj, Mat.toM_mul, Mat.toM_mul, toM_adj, toM_get_eq_Bm]
end execgate

/-! ## alternative descriptions agree: state vector ↔ density matrix ↔ coefficient vector; Kraus set ↔ HS matrix

About the EXECUTED definitions `pureDensity`, `coefVec`, `densityOfCoef`, `krausSum`, `hsOfKraus` (driver ops `stateforms`,
`hsofkraus`, compared on every catalogue state of the 1-qubit / 1-qutrit systems and every catalogue m-process). -/
section descriptions
variable {K : Type} [Field K] [StarRing K] [HasI K] {d : Nat}

/-- C17 "density matrix and coefficient vector agree": for an orthonormal Hermitian basis with `B_0 = s·1`
`ρ ↦ (tr(B_aᴴρ))_a` and `v ↦ Σ_a v_a B_a` are mutually inverse — every matrix, every coefficient vector, all `d`. -/
theorem density_coef_roundtrip (B : Basis K d) (z : Fin (d * d)) (s : K) (hB : ONH0 B z s) (rho : Mat K d d)
    (v : Vec K (d * d)) :
    densityOfCoef B (coefVec B rho) = rho ∧ coefVec B (densityOfCoef B v) = v := by
  constructor
  · apply Mat.toM_injective
    have hc := complete_of_onh0 B z s hB rho.toM
    conv_rhs => rw [hc]
    rw [densityOfCoef, toM_msum_smul]
    refine Finset.sum_congr rfl fun a _ => ?_
    simp only [coefVec, Vec.get_ofFn]
    rw [trMul_eq_trace, toM_adj, toM_get_eq_Bm, hB.herm a, Matrix.trace_mul_comm]
  · apply Vec.ext'; intro a
    simp only [coefVec, Vec.get_ofFn]
    rw [trMul_eq_trace, toM_adj, toM_get_eq_Bm, hB.herm a]
    rw [densityOfCoef, toM_msum_smul, Matrix.mul_sum, Matrix.trace_sum]
    simp [Matrix.mul_smul, Matrix.trace_smul, hB.orth]

/-- C17 "pure-state vector and density matrix agree": the executed `pureDensity ψ` is `|ψ⟩⟨ψ|` (Mathlib `vecMulVec`), so
`state_of_pure_vector_physical` is a statement about it: Hermitian, PSD, trace `⟨ψ|ψ⟩`. -/
theorem pureDensity_eq (psi : Vec K d) :
    (pureDensity psi).toM = vecMulVec (fun i => psi.get i) (star fun i => psi.get i) := by
  ext i j; simp only [pureDensity, Mat.toM_apply, Mat.get_ofFn, vecMulVec_apply, conj_eq_star, Pi.star_apply]

/-- C17 "Kraus set and HS matrix agree" (1): the comp-basis matrix `Σ_k K ⊗ K̄` acts as `ρ ↦ Σ_k K ρ Kᴴ`. -/
theorem krausSum_action (ks : List (Mat K d d)) (rho : Mat K d d) :
    (act (krausSum ks) rho).toM = (ks.map fun k => k.toM * rho.toM * k.toMᴴ).sum := by
  have h := map_foldl_add Mat.add (fun y => (act y rho).toM) (fun a b => act_add a b rho)
    (ks.map fun k => kron k (conjM k)) Mat.zero
  rw [List.foldl_map] at h
  simp only [krausSum, h, act_zero, zero_add, List.map_map, Function.comp_def, act_kron_conjM]

/-- C17 "Kraus set and HS matrix agree" (2), trace preservation of the generated m-process: if the Kraus operators of ALL
outcomes together satisfy `Σ KᴴK = 1`, the first row of the model's `hsOfKraus` (sum over the outcomes of the
catalogue's `hss`) is `e₀`. -/
theorem hsOfKraus_row0 (B : Basis K d) (z : Fin (d * d)) (s : K) (hB : ONH0 B z s) (hs : star s = s)
    (ks : List (Mat K d d)) (hk : (ks.map fun k => k.toMᴴ * k.toM).sum = 1) (b : Fin (d * d)) :
    (hsOfKraus B ks).get z b = if b = z then 1 else 0 := by
  unfold hsOfKraus
  rw [toHerm_row0 B _ z b s hB.get_z, krausSum_action, hs, trace_list_conj, hk, Matrix.one_mul, toM_get_eq_Bm,
    hB.s_mul_trace_B]

/-- C17 "Hamiltonian and Lindbladian agree" on the executed `lindOfHamiltonian` (the HS matrix the Lindbladian catalogue
builds from a Hamiltonian): for Hermitian `H` it represents `ρ ↦ −i[H, ρ]`, its first row vanishes (trace-annihilating), in
every dimension and for every basis with `B_0 = s·1`. -/
theorem lindOfHamiltonian_spec (B : Basis K d) (h : Mat K d d) (hh : h.toMᴴ = h.toM) (z b : Fin (d * d)) (s : K)
    (hz : ∀ i j, (B.get z).get i j = if i = j then s else 0) (rho : Mat K d d) :
    (act (cbFromH h) rho).toM = (-(ii : K)) • (h.toM * rho.toM - rho.toM * h.toM) ∧
      (lindOfHamiltonian B h).get z b = 0 := by
  have hact : ∀ r : Mat K d d, (act (cbFromH h) r).toM = (-(ii : K)) • (h.toM * r.toM - r.toM * h.toM) :=
    fun r => (act_hPart h r).trans (by rw [hh])
  refine ⟨hact rho, ?_⟩
  unfold lindOfHamiltonian
  rw [toHerm_row0 B _ z b s hz, hact, Matrix.trace_smul, Matrix.trace_sub, Matrix.trace_mul_comm, sub_self, smul_zero,
    mul_zero]

/-- C17 "pure-state vectors, matrices and coefficient vectors of a POVM agree": the executed `povmOfVectors` maps each vector
to `|v⟩⟨v|`; for the columns of a unitary the elements are PSD and sum to 1 (`povm_of_onb_physical`), and each element is
recovered from its coefficient vector (`density_coef_roundtrip`). -/
theorem povmOfVectors_spec (B : Basis K d) (z : Fin (d * d)) (s : K) (hB : ONH0 B z s) (vs : List (Vec K d)) :
    (povmOfVectors vs).map Mat.toM = vs.map (fun v => vecMulVec (fun i => v.get i) (star fun i => v.get i)) ∧
      ∀ m ∈ povmOfVectors vs, densityOfCoef B (coefVec B m) = m := by
  constructor
  · simp only [povmOfVectors, List.map_map]
    apply List.map_congr_left; intro v _
    exact pureDensity_eq v
  · intro m _
    exact (density_coef_roundtrip B z s hB m (Vec.ofFn fun _ => 0)).1
end descriptions

example := lindOfHamiltonian_spec basisPauli matX matX_herm ⟨0, by decide⟩ ⟨3, by decide⟩ sP
  onh0_basisPauli.get_z matX
example := povmOfVectors_spec basisPauli _ sP onh0_basisPauli
  [Vec.ofFn fun i : Fin 2 => if i.val = 0 then (1 : ℂ) else 0, Vec.ofFn fun i : Fin 2 => if i.val = 0 then (0 : ℂ) else 1]

/-- non-degenerate instances: Pauli basis, `ρ = X`; Kraus set `{X}` (unitary, so `Σ KᴴK = 1`) -/
example := density_coef_roundtrip basisPauli _ sP onh0_basisPauli matX (Vec.ofFn fun a => (a.val : ℂ))
example (b : Fin (2 * 2)) := hsOfKraus_row0 basisPauli _ sP onh0_basisPauli star_sP [matX]
  (by simp only [List.map_cons, List.map_nil, List.sum_cons, List.sum_nil, add_zero]; rw [matX_herm, matX_mul_self]) b

/-! ## names outside the catalogue are rejected (about the definitions GENERATED from the source, QGen/C17.lean) -/
section names
open QGen.C17

/-- C17 (DESIGN §4 `unknown_name_rejected`, 1): the translated `is_valid_state_name` accepts exactly the names that the
translated `get_state_names()` lists — every name, of any length. (A rewrite of the validator that is no longer a
chain of catalogue-membership tests makes the translator fail; one that changes the lists re-opens this proof.) -/
theorem valid_iff_listed (name : String) :
    is_valid_state_name name = true ↔ name ∈ get_state_names := by
  simp only [is_valid_state_name, get_state_names, List.contains_iff_mem, List.mem_append, List.nil_append,
    ite_true_eq_true, Bool.false_eq_true, or_false, or_assoc]

/-- C17 (DESIGN §4 `unknown_name_rejected`, 2) — `_partial`: STATE catalogue only. Both state generators that every state object form
goes through (`generate_state_pure_state_vector_from_name`, `generate_state_density_mat_from_name`) raise for every name
that `get_state_names()` does not list (the guard position at the head of both generators is pattern-checked by the
translator, which emits `…_rejects := !is_valid_state_name`). Missing: the POVM, gate, m-process, ensemble and Lindbladian
generators have no validator function to translate; for POVMs and m-processes the clause is in fact FALSE on the current
source (known findings D17d–f: compositional names outside the catalogue are accepted) — those catalogues are covered by
the oracle's out-of-catalogue and near-miss probes only. -/
theorem unknown_state_name_rejected_partial (name : String) (h : name ∉ get_state_names) :
    generate_state_pure_state_vector_from_name_rejects name = true ∧
      generate_state_density_mat_from_name_rejects name = true := by
  have hv := (Bool.not_eq_true _).mp (mt (valid_iff_listed name).mp h)
  simp [generate_state_pure_state_vector_from_name_rejects, generate_state_density_mat_from_name_rejects, hv]

/-- and conversely a listed name passes both guards -/
theorem listed_name_accepted (name : String) (h : name ∈ get_state_names) :
    generate_state_pure_state_vector_from_name_rejects name = false ∧
      generate_state_density_mat_from_name_rejects name = false := by
  simp [generate_state_pure_state_vector_from_name_rejects, generate_state_density_mat_from_name_rejects,
    (valid_iff_listed name).mpr h]

/-- C17 catalogue structure (generated `get_gate_names_2qutrit_two_base_matrices`): a name is listed iff it is
`n1 ++ "_" ++ n2` for two DIFFERENT listed single-base names — the parameters the generator reads back by `split("_")`. -/
theorem two_base_name_structure (name : String) :
    name ∈ get_gate_names_2qutrit_two_base_matrices ↔
      ∃ n1 ∈ get_gate_names_2qutrit_single_base_matrix, ∃ n2 ∈ get_gate_names_2qutrit_single_base_matrix,
        n1 ≠ n2 ∧ name = n1 ++ "_" ++ n2 := by
  -- unfolded by rewriting: left to the kernel, `[] ++ l ≡ l` is decided by evaluating both 39,006-element lists
  rw [get_gate_names_2qutrit_two_base_matrices, List.nil_append]
  exact mem_distinct_pairs

/-- C17 catalogue structure (generated `get_gate_names_2qutrit_single_base_matrix`): a name is listed iff it is a
base-matrix name other than `"ii"` (first occurrence removed) followed by an angle. -/
theorem single_base_name_structure (name : String) :
    name ∈ get_gate_names_2qutrit_single_base_matrix ↔
      ∃ b ∈ get_base_matrix_names_2qutrit.erase "ii", ∃ a ∈ get_angles_2qutrit, name = b ++ a := by
  rw [get_gate_names_2qutrit_single_base_matrix, List.nil_append]
  exact mem_prodTuples_two_join

/-- C17 catalogue structure (generated `get_gate_names`): `identity` followed by the five per-system lists. -/
theorem gate_names_listing :
    get_gate_names = "identity" :: (get_gate_names_1qubit ++ get_gate_names_2qubit ++ get_gate_names_3qubit
      ++ get_gate_names_1qutrit ++ get_gate_names_2qutrit) := by
  simp [get_gate_names]

/-- the hypotheses are inhabited on both sides; near-miss names assembled from valid labels are rejected -/
example : "i01x90" ∈ get_gate_names_2qutrit_single_base_matrix := by decide +kernel
example : get_gate_names_1qubit.length = 15 ∧ get_gate_names_3qubit = ["toffoli", "fredkin"] := by decide +kernel
example : is_valid_state_name "z0_x1_a" = true := by decide +kernel
example : "z0_01x0" ∉ get_state_names := by decide +kernel
example : generate_state_pure_state_vector_from_name_rejects "01z0_01z0_01z0" = true := by decide +kernel
example : get_state_names.length = 749 := by decide +kernel
end names

/-- the hypotheses of the generic family theorems are satisfiable -/
example := projective_kraus_complete (1 : Matrix (Fin 2) (Fin 2) ℂ) (by simp) (by simp)
example := mixture_physical (n := Fin 2) (m := Fin 2) (fun _ => (1 / 2 : ℝ))
  (fun _ => vecMulVec (fun i : Fin 2 => if i = 0 then (1 : ℂ) else 0) (star fun i : Fin 2 => if i = 0 then (1 : ℂ) else 0))
  (fun _ => by norm_num) (by simp)
  (fun _ => state_of_pure_vector_physical _ (by simp [dotProduct, Fin.sum_univ_two]))
section
open NormedSpace
open scoped Matrix.Norms.L2Operator
example := gate_of_hamiltonian_physical (0 : Matrix (Fin 2) (Fin 2) ℂ) (by simp)
end

/-- `hsOfUnitary_row0` instantiated (one-dimensional system, `U = 1`) -/
example : (hsOfUnitary basis1 (Mat.one : Mat ℂ 1 1)).get ⟨0, by decide⟩ ⟨0, by decide⟩ = 1 := by
  have := hsOfUnitary_row0 basis1 _ 1 onh0_basis1 (by simp) Mat.one (by simp) ⟨0, by decide⟩
  simpa using this

/-- `psdCert_sound` applied: hypotheses (`ε = 0`, exact Hermiticity, zero residual) and conclusion for `M = V = 1₂`, `λ = (1,1)` -/
example : ((Mat.one : Mat ℂ 2 2).toM + ((0 : ℝ) : ℂ) • (1 : Matrix (Fin 2) (Fin 2) ℂ)).PosSemidef :=
  psdCert_sound (Mat.one : Mat ℂ 2 2) Mat.one (fun _ => 1) 0 le_rfl
    (by apply Mat.ext'; intro i j; by_cases h : i = j <;> simp [adj, Mat.one, conj_eq_star, h, eq_comm])
    (by simp [frob2, psdResid, fsum_eq_sum, diag, adj, conj_eq_star, Fin.sum_univ_two, Vec.get_ofFn])

/-- the executed decider accepts a concrete non-trivial certificate (a rank-one projector with its eigen-decomposition) and
`psdCert_true_sound` applies to it -/
example : psdCert (Mat.ofFn fun i j => if i.val = 0 ∧ j.val = 0 then (1 : CRat) else 0 : Mat CRat 2 2) Mat.one
    (Vec.ofFn fun i => if i.val = 0 then (1 : Rat) else 0) 0 = true := by decide +kernel

/-- `hsOfUnitary_row0` on the normalised Pauli basis with the unitary `X` (non-degenerate instance of `ONH0`) -/
example (b : Fin (2 * 2)) : (hsOfUnitary basisPauli matX).get ⟨0, by decide⟩ b = if b = ⟨0, by decide⟩ then 1 else 0 :=
  hsOfUnitary_row0 basisPauli _ sP onh0_basisPauli star_sP matX
    (by rw [matX_herm, matX_mul_self]) b

end QM.C17
