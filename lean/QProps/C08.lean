import QProofs.C08
import QProofs.C09
import QGen.C08
/-!
# C08 — tomography forward model = circuit Born-rule statistics (property theorems)

All statements are about the executed definitions of `QModel/C08.lean` and hold for every dimension
(`n` = length of the tester vectors), every number of outcomes, every tester list, every schedule list
(subsets, repetitions, permutations — schedules are arbitrary index lists) and both flags, over any field
`K` (in particular the executed `K = ℚ`), for **every** variable vector `var` of the right length
(the affine identities are proved symbolically, not on a basis).

`rowVal var (a, b) = a · var + b` is the prediction of one dictionary entry;
`predictRaw cs var` is `calc_matA() @ var + calc_vecB()`.
-/
namespace QM.C08

variable {K : Type}

/-- C08.order-a: `sorted(dict.items())` in `calc_matA / calc_vecB` leaves the loop order
`for schedule_index … for element_index …` unchanged. -/
theorem dict_sorted (per : List (List (List K × K))) : sortCoeffs (mkCoeffs per) = mkCoeffs per :=
  sortCoeffs_mkCoeffs per

/-- C08.order-b: the keys, in row order of matA / vecB, are `(0,0),(0,1),…,(1,0),…`: row block `s` belongs to
schedule `s` and has one row per outcome, in outcome order. -/
theorem dict_keys (per : List (List (List K × K))) :
    (sortCoeffs (mkCoeffs per)).map (·.key) =
      (per.zipIdx.map fun (rows, si) => (List.range rows.length).map fun x => (si, x)).flatten := by
  rw [dict_sorted, mkCoeffs_keys]

/-- C08.order-c: `matA @ var + vecB` is the concatenation, schedule by schedule, of the entries' predictions. -/
theorem predictRaw_mkCoeffs [Field K] (per : List (List (List K × K))) (var : List K) :
    predictRaw (mkCoeffs per) var = (per.map fun rows => rows.map (rowVal var)).flatten := by
  unfold predictRaw
  rw [dict_sorted]
  exact mkCoeffs_map per fun a b => ldot a var + b

/-- flattening lists of equal shape is injective: the schedule-by-schedule statistics of two variable vectors agree
iff their predictions `matA @ var + vecB` do -/
theorem stats_eq_iff_predictRaw [Field K] (per : List (List (List K × K))) (v v' : List K) :
    ((per.map fun rows => rows.map (rowVal v)) = per.map fun rows => rows.map (rowVal v')) ↔
      predictRaw (mkCoeffs per) v = predictRaw (mkCoeffs per) v' := by
  rw [predictRaw_mkCoeffs, predictRaw_mkCoeffs]
  exact ⟨congrArg List.flatten, flatten_map_inj _ _ per⟩

/-- the loop `for schedule_index …` common to the four `_set_coeffs`: if the rows of every schedule predict that
schedule's circuit, the dictionary predicts the circuits of all schedules. -/
theorem coeffs_affine [Field K] {σ : Type} (sched : σ → Option (List (List K × K)))
    (circ : σ → Option (List K)) (var : List K) (scheds : List σ) (cs : List (Coeff K))
    (hs : ∀ s rows, sched s = some rows → circ s = some (rows.map (rowVal var)))
    (h : (do
      let per ← scheds.mapM sched
      pure (mkCoeffs per)) = some cs) :
    ∃ per, cs = mkCoeffs per ∧ scheds.mapM circ = some (per.map fun rows => rows.map (rowVal var)) := by
  simp only [Option.bind_eq_bind, Option.bind_eq_some_iff, Option.pure_def, Option.some.injEq] at h
  obtain ⟨per, hper, rfl⟩ := h
  exact ⟨per, rfl, mapM_opt_lift _ _ (fun rows => rows.map (rowVal var)) hs scheds per hper⟩

/-- …and if moreover every row has `len(var)` entries, `matA @ var + vecB` passes numpy's shape check and is the
concatenation of the circuits' distributions. -/
theorem predict_ok_of_affine [Field K] {σ : Type} (sched : σ → Option (List (List K × K))) (var : List K)
    (scheds : List σ) (cs : List (Coeff K)) (circuit : Option (List (List K)))
    (hlen : ∀ s rows, sched s = some rows → ∀ ab ∈ rows, ab.1.length = var.length)
    (h : (do
      let per ← scheds.mapM sched
      pure (mkCoeffs per)) = some cs)
    (haff : ∃ per, cs = mkCoeffs per ∧ circuit = some (per.map fun rows => rows.map (rowVal var))) :
    ∃ dists, circuit = some dists ∧ predict cs var = .ok dists.flatten := by
  obtain ⟨per0, rfl, hc⟩ := haff
  simp only [Option.bind_eq_bind, Option.bind_eq_some_iff, Option.pure_def, Option.some.injEq] at h
  obtain ⟨per, hper, hmk⟩ := h
  refine ⟨_, hc, ?_⟩
  rw [← hmk, predict_mkCoeffs per var fun rows hr ab hab =>
    (mapM_opt_mem _ scheds per hper rows hr).elim fun s hs => hlen s rows hs.2 ab hab, hmk,
    predictRaw_mkCoeffs]

/-- C08.1 (QST, both flags): every entry `(s, x)` of the dictionaries predicts outcome `x` of the circuit
`state → povm_s` run on the state built from `var`; schedule by schedule, same order. No hypothesis on the testers or
on the schedule list.  Remark: the identity is about the truncating dot product `ldot` (`zipWith`): for a `var` whose
length is not `num_variables` both sides truncate alike, whereas numpy raises — that shape error is modelled by
`predict`; `qst_predict_ok` (and `povmt_ / qpt_ / qmpt_predict_ok`) is the variant with the length hypotheses on `predict`. -/
theorem qst_affine [Field K] (flag : Bool) (r : K) (povms : List (List (List K))) (scheds : List Nat)
    (cs : List (Coeff K)) (var : List K) (h : qstCoeffs flag r povms scheds = some cs) :
    ∃ per, cs = mkCoeffs per ∧
      qstCircuit flag r povms scheds var = some (per.map fun rows => rows.map (rowVal var)) :=
  coeffs_affine _ _ var scheds cs (fun _ rows hr => opt_bind_some hr fun povm _ hs =>
    congrArg some (qstSched_eq flag r povm var rows hs).symm) h

/-- C08.1 (POVMT, both flags): the same for `state_s → povm`, the POVM being built from `var`
(`m` outcomes, last element `I − Σ others` when flag). -/
theorem povmt_affine [Field K] (flag : Bool) (r : K) (n m : Nat) (states : List (List K))
    (scheds : List Nat) (cs : List (Coeff K)) (var : List K) (hm : 0 < m)
    (hstates : ∀ rho ∈ states, rho.length = n)
    (hvar : var.length = (if flag then m - 1 else m) * n)
    (h : povmtCoeffs flag r m states scheds = some cs) :
    ∃ per, cs = mkCoeffs per ∧
      povmtCircuit flag r n m states scheds var = some (per.map fun rows => rows.map (rowVal var)) :=
  coeffs_affine _ _ var scheds cs (fun _ rows hr => opt_bind_some hr fun rho hp hs => by
    obtain rfl := hstates rho (List.mem_of_getElem? hp)
    exact congrArg some (povmtSched_eq flag r m rho var rows hm hvar hs).symm) h

/-- C08.1 (QPT, both flags): the same for `state_i → gate → povm_j`, the gate being built from `var`
(first row `e₀` when flag). -/
theorem qpt_affine [Field K] (flag : Bool) (n : Nat) (states : List (List K))
    (povms : List (List (List K))) (scheds : List (Nat × Nat)) (cs : List (Coeff K)) (var : List K)
    (hstates : ∀ rho ∈ states, rho.length = n)
    (hvar : var.length = (if flag then n - 1 else n) * n)
    (h : qptCoeffs flag states povms scheds = some cs) :
    ∃ per, cs = mkCoeffs per ∧
      qptCircuit flag n states povms scheds var = some (per.map fun rows => rows.map (rowVal var)) :=
  coeffs_affine _ _ var scheds cs (fun _ rows hr => opt_bind_some hr fun rho hp h1 =>
    opt_bind_some h1 fun povm _ hs => by
      obtain rfl := hstates rho (List.mem_of_getElem? hp)
      exact congrArg some (qptSched_eq flag rho povm var rows hvar hs).symm) h

/-- C08.1 (QMPT, both flags): the same for `state_i → mprocess → povm_j`, the measurement process being built
from `var` (`m` outcomes; when flag, the first row of the last gate is `e₀ − Σ_k (first row of gate k)`), joint
outcomes ordered (mprocess outcome, povm outcome). -/
theorem qmpt_affine [Field K] (flag : Bool) (n m : Nat) (states : List (List K))
    (povms : List (List (List K))) (scheds : List (Nat × Nat)) (cs : List (Coeff K)) (var : List K)
    (hm : 0 < m) (hn : 0 < n)
    (hstates : ∀ rho ∈ states, rho.length = n)
    (hpovms : ∀ povm ∈ povms, ∀ e ∈ povm, e.length = n)
    (hvar : var.length = if flag then (m - 1) * (n * n) + (n - 1) * n else m * (n * n))
    (h : qmptCoeffs flag m states povms scheds = some cs) :
    ∃ per, cs = mkCoeffs per ∧
      qmptCircuit flag n m states povms scheds var = some (per.map fun rows => rows.map (rowVal var)) :=
  coeffs_affine _ _ var scheds cs (fun _ rows hr => opt_bind_some hr fun rho hp h1 =>
    opt_bind_some h1 fun povm hq hs => by
      obtain rfl := hstates rho (List.mem_of_getElem? hp)
      exact congrArg some
        (qmptSched_eq flag m rho povm var rows hm hn (hpovms povm (List.mem_of_getElem? hq)) hvar hs).symm) h

/-- C08.1 (QMPT) the circuit as the code walks it — (MProcess, State) gives the ensemble
`p_x = r·(hs_x ρ)[0]`, `ρ_x = hs_x ρ / p_x`, then (Povm, StateEnsemble) gives `p_x · (E_y · ρ_x)` — equals the
ideal joint probabilities `E_y · (hs_x ρ)` whenever no `p_x` vanishes (no `eps_zero` clipping in this walk; with it: `qmpt_walk_eps_eq_born`). -/
theorem qmpt_walk_eq_born [Field K] [DecidableEq K] (r : K) (povm : List (List K))
    (hss : List (List (List K))) (rho : List K)
    (hp : ∀ hs ∈ hss, r * firstEntry (matVec hs rho) ≠ 0) :
    circuitPovmMprocessState r povm hss rho = bornPovmMprocessState povm hss rho := by
  refine List.flatMap_congr fun hs hhs => ?_
  show (if r * firstEntry (matVec hs rho) = 0 then _ else _) = _
  rw [if_neg (hp hs hhs)]
  exact born_rescale povm _ _ (hp hs hhs)

/-- `truncate_and_normalize` is the identity when exact zeros are present: entries are 0 or at least `eps`
(boundary objects probed with their own eigenstates), sum one. Strictly weaker hypothesis than `truncNorm_id`. -/
theorem truncNorm_id_zero_or_large [Field K] [LinearOrder K] (eps : K) (row : List K)
    (h1 : ∀ p ∈ row, p < eps → p = 0) (h2 : lsum row = 1) : truncNorm eps row = row := by
  have e : (row.map fun p => if p < eps then 0 else p) = row :=
    (List.map_congr_left fun p hp => show (if p < eps then 0 else p) = id p from
      if hlt : p < eps then (if_pos hlt).trans (h1 p hp hlt).symm else if_neg hlt).trans (List.map_id _)
  simp only [truncNorm, e, h2, div_one, List.map_id']

/-- `truncate_and_normalize` is the identity on a distribution that sums to one and has no entry below `eps`. -/
theorem truncNorm_id [Field K] [LinearOrder K] (eps : K) (row : List K)
    (h1 : ∀ p ∈ row, ¬ p < eps) (h2 : lsum row = 1) : truncNorm eps row = row :=
  truncNorm_id_zero_or_large eps row (fun p hp hlt => absurd hlt (h1 p hp)) h2

/-- C08.1 (QMPT) the circuit walk WITH the code's thresholds: outcomes with `p_x ≤ eps_zero` are clipped (`truncate`) and
contribute zeros, the ensemble is renormalised by the sum of the remaining probabilities when something was clipped, the
post states are unrenormalised, every other member goes through `truncate_and_normalize`.  The coded circuit equals the
ideal joint probabilities if every unclipped outcome has a proper conditional distribution (entries 0 or ≥ `atol`,
sum 1) and — only when some outcome is clipped — `eps_zero > 0`, the clipped outcomes have Born value exactly 0 on every
tester element (projective instruments probed with eigenstates: `hs_x ρ = 0`) and the remaining probabilities sum to
one.  (Outcomes with `0 < p_x ≤ eps_zero` are genuinely changed by the code; that case stays with the `circuiteps`
correspondence.) -/
theorem qmpt_walk_eps_eq_born [Field K] [LinearOrder K] [IsStrictOrderedRing K] (r epsZero epsTrunc : K)
    (povm : List (List K)) (hss : List (List (List K))) (rho : List K) (h0 : 0 ≤ epsZero)
    (hsum : (∃ hs ∈ hss, r * firstEntry (matVec hs rho) ≤ epsZero) →
      0 < epsZero ∧ lsum (rawProbs r epsZero hss rho) = 1)
    (hclip : ∀ hs ∈ hss, r * firstEntry (matVec hs rho) ≤ epsZero → ∀ e ∈ povm, ldot e (matVec hs rho) = 0)
    (hprop : ∀ hs ∈ hss, ¬ r * firstEntry (matVec hs rho) ≤ epsZero →
      (∀ q ∈ bornPovmState povm ((matVec hs rho).map (· / (r * firstEntry (matVec hs rho)))), q < epsTrunc → q = 0) ∧
      lsum (bornPovmState povm ((matVec hs rho).map (· / (r * firstEntry (matVec hs rho))))) = 1) :
    circuitPovmMprocessStateEps r epsZero epsTrunc povm hss rho = bornPovmMprocessState povm hss rho := by
  unfold circuitPovmMprocessStateEps bornPovmMprocessState
  -- the weights are the clipped probabilities themselves: nothing was clipped, or they sum to one
  have hw : (if ((hss.map fun hs => matVec hs rho).any fun mrho => decide (r * firstEntry mrho ≤ epsZero)) &&
        decide (lsum (rawProbs r epsZero hss rho) ≠ 0)
      then (rawProbs r epsZero hss rho).map (· / lsum (rawProbs r epsZero hss rho)) else rawProbs r epsZero hss rho) =
      rawProbs r epsZero hss rho := by
    by_cases hex : ∃ hs ∈ hss, r * firstEntry (matVec hs rho) ≤ epsZero
    · simp only [(hsum hex).2, div_one, List.map_id', ite_self]
    · rw [if_neg]
      rw [Bool.and_eq_true, List.any_map, List.any_eq_true]
      exact fun ⟨⟨hs, hhs, hp⟩, _⟩ => hex ⟨hs, hhs, of_decide_eq_true hp⟩
  unfold rawProbs at hw
  simp only [hw]
  rw [zip_zip_map_self, List.flatMap_map, List.flatMap_map]
  refine List.flatMap_congr fun hs hhs => ?_
  dsimp only
  by_cases hp : r * firstEntry (matVec hs rho) ≤ epsZero
  · -- a clipped member contributes the zeros the code puts, and its Born values vanish
    rw [if_pos hp, if_pos (hsum ⟨hs, hhs, hp⟩).1]
    exact List.map_congr_left fun e he => (hclip hs hhs hp e he).symm
  · -- an unclipped member: `truncate_and_normalize` is the identity on its conditional distribution
    have hlt := lt_of_not_ge hp
    have hne := ne_of_gt (lt_of_le_of_lt h0 hlt)
    rw [if_neg hp, if_neg (not_lt_of_gt hlt), if_neg hne,
      truncNorm_id_zero_or_large epsTrunc _ (hprop hs hhs hp).1 (hprop hs hhs hp).2]
    exact born_rescale povm _ _ hne

/-- the interior case (no outcome clipped: `p_x > eps_zero ≥ 0`, proper conditional distributions), lifted to the
executed `qmptCircuitWalkEps` (driver op `circuiteps`) for all schedules. -/
theorem qmptCircuitWalkEps_eq [Field K] [LinearOrder K] [IsStrictOrderedRing K] (flag : Bool)
    (r epsZero epsTrunc : K) (n m : Nat) (states : List (List K)) (povms : List (List (List K)))
    (scheds : List (Nat × Nat)) (var : List K) (h0 : 0 ≤ epsZero)
    (hp : ∀ ij ∈ scheds, ∀ rho, states[ij.1]? = some rho → ∀ povm, povms[ij.2]? = some povm →
      ∀ hs ∈ mprocessOf flag n m var, ¬ r * firstEntry (matVec hs rho) ≤ epsZero ∧
        (∀ q ∈ bornPovmState povm ((matVec hs rho).map (· / (r * firstEntry (matVec hs rho)))), q < epsTrunc → q = 0) ∧
        lsum (bornPovmState povm ((matVec hs rho).map (· / (r * firstEntry (matVec hs rho))))) = 1) :
    qmptCircuitWalkEps flag r epsZero epsTrunc n m states povms scheds var =
      qmptCircuit flag n m states povms scheds var := by
  unfold qmptCircuitWalkEps qmptCircuit
  exact mapM_lookup_congr states povms scheds _ _ fun ij hij rho hs povm hq =>
    qmpt_walk_eps_eq_born r epsZero epsTrunc povm _ rho h0
      (fun ⟨hs', hh, hc⟩ => absurd hc (hp ij hij rho hs povm hq hs' hh).1)
      (fun hs' hh hc => absurd hc (hp ij hij rho hs povm hq hs' hh).1)
      fun hs' hh _ => (hp ij hij rho hs povm hq hs' hh).2

/-- the boundary case (clipped outcomes with vanishing Born values, the rest summing to one), lifted to the executed
`qmptCircuitWalkEps` for all schedules. -/
theorem qmptCircuitWalkEps_eq_boundary [Field K] [LinearOrder K] [IsStrictOrderedRing K] (flag : Bool)
    (r epsZero epsTrunc : K) (n m : Nat) (states : List (List K)) (povms : List (List (List K)))
    (scheds : List (Nat × Nat)) (var : List K) (h0 : 0 < epsZero)
    (hp : ∀ ij ∈ scheds, ∀ rho, states[ij.1]? = some rho → ∀ povm, povms[ij.2]? = some povm →
      lsum (rawProbs r epsZero (mprocessOf flag n m var) rho) = 1 ∧
      ∀ hs ∈ mprocessOf flag n m var,
        (r * firstEntry (matVec hs rho) ≤ epsZero → ∀ e ∈ povm, ldot e (matVec hs rho) = 0) ∧
        (¬ r * firstEntry (matVec hs rho) ≤ epsZero →
          (∀ q ∈ bornPovmState povm ((matVec hs rho).map (· / (r * firstEntry (matVec hs rho)))), q < epsTrunc → q = 0) ∧
          lsum (bornPovmState povm ((matVec hs rho).map (· / (r * firstEntry (matVec hs rho))))) = 1)) :
    qmptCircuitWalkEps flag r epsZero epsTrunc n m states povms scheds var =
      qmptCircuit flag n m states povms scheds var := by
  unfold qmptCircuitWalkEps qmptCircuit
  exact mapM_lookup_congr states povms scheds _ _ fun ij hij rho hs povm hq =>
    qmpt_walk_eps_eq_born r epsZero epsTrunc povm _ rho h0.le (fun _ => ⟨h0, (hp ij hij rho hs povm hq).1⟩)
      (fun hs' hh => ((hp ij hij rho hs povm hq).2 hs' hh).1)
      (fun hs' hh => ((hp ij hij rho hs povm hq).2 hs' hh).2)

/-- C08.1 (QMPT) lifted to the executed circuit walk (driver op `circuit … walk=1`): if on every scheduled tester state
no outcome of the measurement process built from `var` has `p_x = 0`, the walked circuit of all schedules equals the
ideal one, hence (with `qmpt_affine`) the forward model. -/
theorem qmptCircuitWalk_eq [Field K] [DecidableEq K] (flag : Bool) (r : K) (n m : Nat) (states : List (List K))
    (povms : List (List (List K))) (scheds : List (Nat × Nat)) (var : List K)
    (hp : ∀ ij ∈ scheds, ∀ rho, states[ij.1]? = some rho →
      ∀ hs ∈ mprocessOf flag n m var, r * firstEntry (matVec hs rho) ≠ 0) :
    qmptCircuitWalk flag r n m states povms scheds var = qmptCircuit flag n m states povms scheds var := by
  unfold qmptCircuitWalk qmptCircuit
  exact mapM_lookup_congr states povms scheds _ _ fun ij hij rho hs povm _ =>
    qmpt_walk_eq_born r povm _ rho (hp ij hij rho hs)

/-- C08.1 corollary, in the form the estimators use it: from the conclusion of any of the four `*_affine` theorems,
`calc_matA() @ var + calc_vecB()` **is** the concatenation, in schedule order, of the distributions the circuits produce
(the existential `dists` is the circuit's own output, not a hypothesis). -/
theorem predict_eq_circuit_of_affine [Field K] (cs : List (Coeff K)) (circuit : Option (List (List K)))
    (var : List K)
    (h : ∃ per, cs = mkCoeffs per ∧ circuit = some (per.map fun rows => rows.map (rowVal var))) :
    ∃ dists, circuit = some dists ∧ predictRaw cs var = dists.flatten := by
  obtain ⟨per, rfl, hc⟩ := h
  exact ⟨_, hc, predictRaw_mkCoeffs per var⟩

/-- C08.1 for QST in that form: `matA·var + vecB` = concatenated circuit distributions, for every `var`. -/
theorem qst_predict_eq_circuit [Field K] (flag : Bool) (r : K) (povms : List (List (List K)))
    (scheds : List Nat) (cs : List (Coeff K)) (var : List K) (h : qstCoeffs flag r povms scheds = some cs) :
    ∃ dists, qstCircuit flag r povms scheds var = some dists ∧ predictRaw cs var = dists.flatten :=
  predict_eq_circuit_of_affine cs _ var (qst_affine flag r povms scheds cs var h)

/-- bookkeeping lemma for C08.3 (no rank content): `var ↦ matA·var + vecB` separates two vectors iff the
schedule-by-schedule statistics do (flattening lists of equal shape is injective). -/
theorem predictRaw_injective_iff [Field K] (per : List (List (List K × K))) (P : List K → Prop) :
    (∀ v v', P v → P v' → predictRaw (mkCoeffs per) v = predictRaw (mkCoeffs per) v' → v = v') ↔
    (∀ v v', P v → P v' →
      (per.map fun rows => rows.map (rowVal v)) = (per.map fun rows => rows.map (rowVal v')) → v = v') := by
  simp only [stats_eq_iff_predictRaw]

/-- C08.3a two variable vectors have the same statistics iff matA maps them to the same vector: the offsets `vecB`
cancel, so informational completeness is a property of matA alone. (`A` = `calc_matA()` as executable matrix.) -/
theorem statistics_eq_iff_matA [Field K] {m n : Nat} (per : List (List (List K × K))) (A : Mat K m n)
    (hA : QM.C09.rowsOf A = matA (mkCoeffs per)) (v v' : Vec K n) :
    ((per.map fun rows => rows.map (rowVal v.toList)) = per.map fun rows => rows.map (rowVal v'.toList)) ↔
      A.mulVec v = A.mulVec v' := by
  rw [stats_eq_iff_predictRaw, predictRaw_eq_iff, ← hA, ← QM.C09.mulVec_toList, ← QM.C09.mulVec_toList]
  exact Vector.toList_inj

/-- C08.3b `full column rank ⇔ informationally complete`: `rank(matA) = num_variables` (Mathlib's `Matrix.rank`, the
quantity `np.linalg.matrix_rank` approximates) iff the statistics map `var ↦ (distributions of all schedules)` is
injective.  With the `*_affine` theorems the statistics are the circuits' Born distributions on the object built from
`var`, so the right-hand side is the definition of an informationally complete tester set. -/
theorem rank_iff_IC [Field K] {m n : Nat} (per : List (List (List K × K))) (A : Mat K m n)
    (hA : QM.C09.rowsOf A = matA (mkCoeffs per)) :
    A.toM.rank = n ↔ ∀ v v' : Vec K n,
      ((per.map fun rows => rows.map (rowVal v.toList)) = per.map fun rows => rows.map (rowVal v'.toList)) → v = v' := by
  rw [QM.C09.m_rank_eq_iff]
  constructor
  · intro h v v' hd
    rw [statistics_eq_iff_matA per A hA] at hd
    apply Vec.toV_injective
    rw [← sub_eq_zero]
    apply h
    rw [Matrix.mulVec_sub, ← Mat.toV_mulVec, hd, Mat.toV_mulVec, sub_self]
  · intro h d hd
    have hv : A.mulVec (Vec.ofFn d) = A.mulVec (Vec.zero : Vec K n) := by
      apply Vec.toV_injective
      rw [Mat.toV_mulVec, Mat.toV_mulVec, Vec.toV_ofFn, Vec.toV_zero, hd, Matrix.mulVec_zero]
    have e := congrArg Vec.toV (h _ _ ((statistics_eq_iff_matA per A hA _ _).2 hv))
    rwa [Vec.toV_ofFn, Vec.toV_zero] at e

/-- C08.3c the coded verdict `is_fullrank_matA` (`min(shape) == rank`, exact rank) on a forward model with at least as
many rows as variables: true iff the tester set is informationally complete. -/
theorem is_fullrank_iff_IC [Field K] {m n : Nat} (per : List (List (List K × K))) (A : Mat K m n)
    (hA : QM.C09.rowsOf A = matA (mkCoeffs per)) (hmn : n ≤ m) :
    QM.C09.isFullRank m n A.toM.rank = true ↔ ∀ v v' : Vec K n,
      ((per.map fun rows => rows.map (rowVal v.toList)) = per.map fun rows => rows.map (rowVal v'.toList)) → v = v' := by
  rw [← rank_iff_IC per A hA]
  unfold QM.C09.isFullRank
  rw [Nat.min_eq_right hmn]
  constructor
  · intro h; exact (beq_iff_eq.1 h).symm
  · intro h; exact beq_iff_eq.2 h.symm

/-- C08.2 `matA_cols` (QST): with tester vectors of length `n`, every row of matA has `n − 1` (flag) resp. `n`
entries = `num_variables`. -/
theorem qst_cols [Field K] (flag : Bool) (r : K) (n : Nat) (vec a : List K) (b : K)
    (hv : vec.length = n) (h : qstRow flag r vec = some (a, b)) :
    a.length = if flag then n - 1 else n := by
  cases flag with
  | false =>
    obtain ⟨rfl, -⟩ : vec = a ∧ 0 = b := Prod.mk.inj (Option.some.inj h)
    rw [hv, if_neg Bool.false_ne_true]
  | true =>
    cases vec with
    | nil => cases h
    | cons v0 rest =>
      obtain ⟨rfl, -⟩ : rest = a ∧ v0 / r = b := Prod.mk.inj (Option.some.inj h)
      rw [if_pos rfl, ← hv]
      rfl

/-- C08.2 `matA_cols` (QPT): `(n − 1)·n` (flag) resp. `n²` columns = `num_variables`. -/
theorem qpt_cols [Field K] (flag : Bool) (rho e a : List K) (b : K) (he : e.length = rho.length)
    (h : qptRow flag rho.length (outerFlat e rho) = some (a, b)) :
    a.length = (if flag then rho.length - 1 else rho.length) * rho.length := by
  have hl := outerFlat_length e rho
  cases flag with
  | false =>
    obtain ⟨rfl, -⟩ : outerFlat e rho = a ∧ 0 = b := Prod.mk.inj (Option.some.inj h)
    rw [hl, he, if_neg Bool.false_ne_true]
  | true =>
    cases hc : outerFlat e rho with
    | nil => rw [hc] at h; cases h
    | cons c0 cs =>
      rw [hc] at h hl
      obtain ⟨rfl, -⟩ : (c0 :: cs).drop rho.length = a ∧ c0 = b := Prod.mk.inj (Option.some.inj h)
      rw [List.length_drop, hl, he, if_pos rfl, Nat.sub_mul, Nat.one_mul]

/-- C08.2 `matA_cols` (POVMT): every row has `(m−1)·n` (flag) resp. `m·n` entries = `num_variables`. -/
theorem povmt_cols [Field K] (flag : Bool) (r : K) (m : Nat) (rho : List K) (x : Nat) (a : List K) (b : K)
    (hx : x < m) (h : povmtRow flag r m rho x = some (a, b)) :
    a.length = (if flag then m - 1 else m) * rho.length := by
  have hc := blockRow_length rho.length m x rho hx rfl
  cases flag with
  | false =>
    obtain ⟨rfl, -⟩ : blockRow rho.length m x rho = a ∧ 0 = b := Prod.mk.inj (Option.some.inj h)
    rw [hc, if_neg Bool.false_ne_true]
  | true =>
    obtain ⟨k, rfl⟩ := Nat.exists_eq_add_one_of_ne_zero (Nat.ne_of_gt (Nat.zero_lt_of_lt hx))
    obtain ⟨rfl, -⟩ := povmtRow_true r _ rho x a b h
    obtain ⟨htk, hdr⟩ := split_length _ k _ hc
    rw [if_pos rfl, lsub_length, Nat.add_sub_cancel, tile_length, htk, hdr, Nat.min_self]

/-- C08.2 `matA_cols` (QMPT): every row built by `cqpt_to_cqmpt` for a schedule has `m·n² − n` (flag; written
`(m−1)·n² + (n−1)·n`) resp. `m·n²` entries = `num_variables`. -/
theorem qmpt_cols [Field K] (flag : Bool) (m : Nat) (rho : List K) (povm : List (List K))
    (rows : List (List K × K)) (hr : 0 < rho.length)
    (hE : ∀ e ∈ povm, e.length = rho.length) (h : qmptSched flag m rho povm = some rows) :
    ∀ ab ∈ rows, ab.1.length =
      if flag then (m - 1) * (rho.length * rho.length) + (rho.length - 1) * rho.length
      else m * (rho.length * rho.length) := by
  have hw : ∀ e ∈ povm, (outerFlat e rho).length = rho.length * rho.length := by
    intro e he; rw [outerFlat_length, hE e he]
  cases flag with
  | false =>
    obtain rfl := Option.some.inj h
    intro ab hab
    simp only [List.mem_flatMap, List.mem_range, List.mem_map, cQpt] at hab
    obtain ⟨k, hk, c, ⟨e, he, rfl⟩, rfl⟩ := hab
    exact blockRow_length _ m k _ hk (hw e he)
  | true =>
    simp only [qmptSched, cqptToCqmpt, if_true, Option.bind_eq_bind, Option.bind_eq_some_iff,
      Option.pure_def, Option.some.injEq] at h
    obtain ⟨a1, ha1, rfl⟩ := h
    rw [cQpt, List.mapM_map] at ha1
    intro ab hab
    rw [if_pos rfl, Nat.sub_mul rho.length 1, Nat.one_mul]
    rcases List.mem_append.1 hab with hab | hab
    · simp only [List.mem_flatMap, List.mem_range, List.mem_map, cQpt] at hab
      obtain ⟨k, hk, c, ⟨e, he, rfl⟩, rfl⟩ := hab
      rw [List.length_append, blockRow_length _ (m - 1) k _ hk (hw e he), zeros_length]
    · obtain ⟨e, he, hrow⟩ := mapM_opt_mem _ povm a1 ha1 ab hab
      rw [(qmptLastRow_some _ m _ ab.1 ab.2 hrow).1, List.length_append, tile_length, List.length_append,
        lneg_length, List.length_take, zeros_length, List.length_drop, hw e he,
        Nat.min_eq_left (Nat.le_mul_of_pos_left _ hr), Nat.add_sub_cancel' (Nat.le_mul_of_pos_left _ hr)]

/-! ### length-checked variants on the executed `predict` -/

/-- C08.1/2 (QST) on the EXECUTED `predict` (numpy's `matA @ var` with its shape check): tester vectors of length `n` and
`var` of length `num_variables` ⇒ `calc_matA() @ var + calc_vecB()` does not raise and is the concatenation, in schedule
order, of the circuit distributions on the state built from `var`. -/
theorem qst_predict_ok [Field K] (flag : Bool) (r : K) (n : Nat) (povms : List (List (List K))) (scheds : List Nat)
    (cs : List (Coeff K)) (var : List K) (hp : ∀ povm ∈ povms, ∀ vec ∈ povm, vec.length = n)
    (hv : var.length = if flag then n - 1 else n) (h : qstCoeffs flag r povms scheds = some cs) :
    ∃ dists, qstCircuit flag r povms scheds var = some dists ∧ predict cs var = .ok dists.flatten :=
  predict_ok_of_affine _ var scheds cs _ (fun _ rows hr ab hab => by
    obtain ⟨povm, hpv, hs⟩ := Option.bind_eq_some_iff.1 hr
    obtain ⟨vec, hvec, hrow⟩ := mapM_opt_mem _ povm rows hs ab hab
    rw [qst_cols flag r n vec ab.1 ab.2 (hp povm (List.mem_of_getElem? hpv) vec hvec) hrow, hv]) h
    (qst_affine flag r povms scheds cs var h)

/-- C08.1/2 (QPT) on the executed `predict`, with the length hypotheses. -/
theorem qpt_predict_ok [Field K] (flag : Bool) (n : Nat) (states : List (List K))
    (povms : List (List (List K))) (scheds : List (Nat × Nat)) (cs : List (Coeff K)) (var : List K)
    (hstates : ∀ rho ∈ states, rho.length = n) (hpovms : ∀ povm ∈ povms, ∀ e ∈ povm, e.length = n)
    (hvar : var.length = (if flag then n - 1 else n) * n)
    (h : qptCoeffs flag states povms scheds = some cs) :
    ∃ dists, qptCircuit flag n states povms scheds var = some dists ∧ predict cs var = .ok dists.flatten :=
  predict_ok_of_affine _ var scheds cs _ (fun _ rows hr ab hab => by
    obtain ⟨rho, hrho, h1⟩ := Option.bind_eq_some_iff.1 hr
    obtain ⟨povm, hpv, hs⟩ := Option.bind_eq_some_iff.1 h1
    rw [qptSched, cQpt, List.mapM_map] at hs
    obtain ⟨e, he, hrow⟩ := mapM_opt_mem _ povm rows hs ab hab
    obtain rfl := hstates rho (List.mem_of_getElem? hrho)
    rw [qpt_cols flag rho e ab.1 ab.2 (hpovms povm (List.mem_of_getElem? hpv) e he) hrow, hvar]) h
    (qpt_affine flag n states povms scheds cs var hstates hvar h)

/-- C08.1/2 (POVMT) on the executed `predict`, with the length hypotheses. -/
theorem povmt_predict_ok [Field K] (flag : Bool) (r : K) (n m : Nat) (states : List (List K))
    (scheds : List Nat) (cs : List (Coeff K)) (var : List K) (hm : 0 < m)
    (hstates : ∀ rho ∈ states, rho.length = n)
    (hvar : var.length = (if flag then m - 1 else m) * n)
    (h : povmtCoeffs flag r m states scheds = some cs) :
    ∃ dists, povmtCircuit flag r n m states scheds var = some dists ∧ predict cs var = .ok dists.flatten :=
  predict_ok_of_affine _ var scheds cs _ (fun _ rows hr ab hab => by
    obtain ⟨rho, hrho, hs⟩ := Option.bind_eq_some_iff.1 hr
    obtain ⟨x, hx, hrow⟩ := mapM_opt_mem _ _ rows hs ab hab
    rw [povmt_cols flag r m rho x ab.1 ab.2 (List.mem_range.1 hx) hrow, hvar,
      hstates rho (List.mem_of_getElem? hrho)]) h
    (povmt_affine flag r n m states scheds cs var hm hstates hvar h)

/-- C08.1/2 (QMPT) on the executed `predict`, with the length hypotheses. -/
theorem qmpt_predict_ok [Field K] (flag : Bool) (n m : Nat) (states : List (List K))
    (povms : List (List (List K))) (scheds : List (Nat × Nat)) (cs : List (Coeff K)) (var : List K)
    (hm : 0 < m) (hn : 0 < n) (hstates : ∀ rho ∈ states, rho.length = n)
    (hpovms : ∀ povm ∈ povms, ∀ e ∈ povm, e.length = n)
    (hvar : var.length = if flag then (m - 1) * (n * n) + (n - 1) * n else m * (n * n))
    (h : qmptCoeffs flag m states povms scheds = some cs) :
    ∃ dists, qmptCircuit flag n m states povms scheds var = some dists ∧ predict cs var = .ok dists.flatten :=
  predict_ok_of_affine _ var scheds cs _ (fun _ rows hr ab hab => by
    obtain ⟨rho, hrho, h1⟩ := Option.bind_eq_some_iff.1 hr
    obtain ⟨povm, hpv, hs⟩ := Option.bind_eq_some_iff.1 h1
    obtain rfl := hstates rho (List.mem_of_getElem? hrho)
    rw [qmpt_cols flag m rho povm rows hn (hpovms povm (List.mem_of_getElem? hpv)) hs ab hab, hvar]) h
    (qmpt_affine flag n m states povms scheds cs var hm hn hstates hpovms hvar h)

/-- C08.4 `calc_prob_dists` as coded (`reshape((num_schedules, -1))`, then `truncate_and_normalize` row by row):
it returns the circuit's per-schedule distributions (each passed through `truncate_and_normalize`, the identity on
proper distributions by `truncNorm_id`) **if and only if all schedules have the same number of outcomes**.
This is the exact guard under which the coded grouping is right (remark: for a row whose entries are all below `eps`
`truncNorm` divides by 0 — Lean's `x/0 = 0`, numpy's nan; the statement compares the model's two sides and is meant
for proper distributions, see `truncNorm_id*`); outside it the code raises or regroups silently
(defect D8: `calcProbDists_mixed_counts_fails`, `calcProbDists_mixed_counts_regroups_fails`). -/
theorem calcProbDists_eq_circuit_iff [Field K] [LinearOrder K] (eps : K) (cs : List (Coeff K))
    (var : List K) (dists : List (List K)) (hk : 0 < dists.length)
    (hp : predict cs var = .ok dists.flatten) :
    calcProbDists eps dists.length cs var = .ok (dists.map (truncNorm eps)) ↔
      ∃ c, ∀ d ∈ dists, d.length = c := by
  rw [calcProbDists_of_predict eps _ cs var _ hk hp]
  constructor
  · intro h
    split at h
    · cases h
    · -- the rows of a reshape are equally long, and `truncate_and_normalize` keeps lengths
      refine ⟨dists.flatten.length / dists.length, fun d hd => ?_⟩
      have hl := congrArg (List.map List.length) (Except.ok.inj h)
      rw [List.map_map, List.map_map,
        show List.length ∘ truncNorm eps = List.length from funext (truncNorm_length eps)] at hl
      obtain ⟨row, hrow, e⟩ := List.mem_map.1 (hl ▸ List.mem_map_of_mem (f := List.length) hd)
      exact e ▸ chunks_row_length _ _ _ (Nat.mul_div_le ..) row hrow
  · rintro ⟨c, hd⟩
    rw [length_flatten_of_length c dists hd, Nat.mul_mod_right, if_neg (fun h => h rfl), Nat.mul_div_cancel_left c hk, chunks_flatten c dists hd]

/-- C08.4b `calc_prob_dist(qope, i)` under the guard: entry `i` of the circuit's distributions. -/
theorem calcProbDist_eq_circuit [Field K] [LinearOrder K] (eps : K) (cs : List (Coeff K))
    (var : List K) (dists : List (List K)) (c : Nat) (hk : 0 < dists.length)
    (hd : ∀ d ∈ dists, d.length = c) (hp : predict cs var = .ok dists.flatten) (i : Nat) (hi : i < dists.length) :
    calcProbDist eps dists.length cs var i = .ok (truncNorm eps dists[i]) := by
  unfold calcProbDist
  rw [(calcProbDists_eq_circuit_iff eps cs var dists hk hp).2 ⟨c, hd⟩]
  simp [bind, Except.bind, pure, Except.pure, hi]

/-- C08.4 defect D8 (negation witness, raises): tester POVMs with outcome counts `[2, 2, 3]` (one-dimensional
toy vectors, `var = [1]`): the circuit gives three distributions, `calc_prob_dists` fails in its reshape
(`cannot reshape array of size 7 into shape (3, newaxis)`). -/
theorem calcProbDists_mixed_counts_fails :
    ¬ ∀ (povms : List (List (List Rat))) (scheds : List Nat) (cs : List (Coeff Rat)) (var : List Rat)
        (dists : List (List Rat)),
        qstCoeffs false 1 povms scheds = some cs → qstCircuit false 1 povms scheds var = some dists →
        calcProbDists (1 / 10000000000000) scheds.length cs var = .ok dists := by
  intro h
  have h' := h [[[1/2], [1/2]], [[1/3], [2/3]], [[1/4], [1/4], [1/2]]] [0, 1, 2]
    (mkCoeffs [[([1/2], 0), ([1/2], 0)], [([1/3], 0), ([2/3], 0)], [([1/4], 0), ([1/4], 0), ([1/2], 0)]])
    [1] [[1/2, 1/2], [1/3, 2/3], [1/4, 1/4, 1/2]] (by decide +kernel) (by decide +kernel)
  unfold calcProbDists predict predictRaw at h'
  rw [dict_sorted] at h'
  revert h'
  decide +kernel

/-- C08.4 defect D8 (negation witness, silent regrouping): outcome counts `[1, 3]` — the total 4 is divisible by
the 2 schedules, so the reshape succeeds and returns rows of 2 that cut across the schedule boundary. -/
theorem calcProbDists_mixed_counts_regroups_fails :
    ∃ (povms : List (List (List Rat))) (scheds : List Nat) (cs : List (Coeff Rat)) (var : List Rat)
        (dists out : List (List Rat)),
        qstCoeffs false 1 povms scheds = some cs ∧ qstCircuit false 1 povms scheds var = some dists ∧
        calcProbDists (1 / 10000000000000) scheds.length cs var = .ok out ∧ out ≠ dists := by
  refine ⟨[[[1]], [[1/2], [1/4], [1/4]]], [0, 1],
    mkCoeffs [[([1], 0)], [([1/2], 0), ([1/4], 0), ([1/4], 0)]], [1],
    [[1], [1/2, 1/4, 1/4]], [[2/3, 1/3], [1/2, 1/2]], ?_, ?_, ?_, ?_⟩
  · decide +kernel
  · decide +kernel
  · unfold calcProbDists predict predictRaw
    rw [dict_sorted]
    decide +kernel
  · decide +kernel

/-! ## tie to the source: the definitions regenerated from the four `_set_coeffs` / `calc_c_qpt` / `cqpt_to_cqmpt` /
`_get_target_index` (`lean/QGen/C08.lean`, rewritten by `harness/c08.py:translate` on every run) are the model's -/

/-- C08.src-a the QST row read from the source (`vec[1:]`, `vec[0] / np.sqrt(dim)` resp. `vec`, `0`) is the model's. -/
theorem gen_qst_row [Field K] (flag : Bool) (r : K) (vec : List K) :
    QGen.C08.qst_row flag r vec = qstRow flag r vec := gen_qst_row' flag r vec

/-- C08.src-b the QPT row read from `calc_c_qpt` (`c[int(dim*dim):]`, `c[0]` resp. `c`, `0`) and the outer product with
its argument order (`np.outer(povm_vec, state.vec).flatten()`) are the model's. -/
theorem gen_qpt_row [Field K] (flag : Bool) (n : Nat) (c e rho : List K) :
    QGen.C08.qpt_row flag n c = qptRow flag n c ∧ QGen.C08.qpt_c e rho = outerFlat e rho :=
  ⟨gen_qpt_row' flag n c, rfl⟩

/-- C08.src-c the POVMT row read from the source — hstack order, paddings `m_index·vec_size` and
`((m−1)−m_index)·vec_size`, split point `vec_size·(m−1)`, `a_prime − tile(c_prime, m−1)`, offset `np.sqrt(dim)·c_prime[0]`
— is the model's `povmtRow`. -/
theorem gen_povmt_row [Field K] (flag : Bool) (r : K) (m : Nat) (rho : List K) (x : Nat) :
    QGen.C08.povmt_row flag r m rho x = povmtRow flag r m rho x := gen_povmt_row' flag r m rho x

/-- C08.src-d the dictionary keys of all four classes are `(schedule_index, element_index)` in this order, which is the
key the model's `mkCoeffs` uses (and what makes `sorted(items)` the identity, `dict_sorted`). -/
theorem gen_keys (per : List (List (List K × K))) :
    QGen.C08.qst_key = Prod.mk ∧ QGen.C08.povmt_key = Prod.mk ∧ QGen.C08.qpt_key = Prod.mk ∧
    QGen.C08.qmpt_key = Prod.mk ∧
    mkCoeffs per = per.zipIdx.flatMap fun (rows, si) =>
      rows.zipIdx.map fun (ab, x) => ⟨QGen.C08.qst_key si x, ab.1, ab.2⟩ :=
  ⟨rfl, rfl, rfl, rfl, rfl⟩

/-- C08.src-e positions inside a schedule, as the code reads them (`_set_coeffs`, `calc_c_qpt`, `_get_target_index`):
the model's decoding `schedPair` of a schedule into (tester state index, tester POVM index) is the decoding through the
GENERATED item positions, and the unknown sits at the generated target position (QST item 0, POVMT / QPT / QMPT item 1),
which is never a tester position. -/
theorem gen_schedPair (sched : List Nat) :
    schedPair "qst" sched = (do let j ← itemAt sched QGen.C08.qst_tester_item; pure (0, j)) ∧
    schedPair "povmt" sched = (do let i ← itemAt sched QGen.C08.povmt_state_item; pure (i, 0)) ∧
    schedPair "qpt" sched = (do let i ← itemAt sched QGen.C08.qpt_state_item
                                let j ← itemAt sched QGen.C08.qpt_povm_item; pure (i, j)) ∧
    QGen.C08.qst_target_item = 0 ∧ QGen.C08.povmt_target_item = 1 ∧ QGen.C08.qpt_target_item = 1 ∧
    QGen.C08.qmpt_target_item = 1 ∧
    QGen.C08.qst_target_item ≠ QGen.C08.qst_tester_item ∧ QGen.C08.povmt_target_item ≠ QGen.C08.povmt_state_item ∧
    QGen.C08.qpt_target_item ≠ QGen.C08.qpt_state_item ∧ QGen.C08.qpt_target_item ≠ QGen.C08.qpt_povm_item :=
  ⟨rfl, rfl, rfl, rfl, rfl, rfl, rfl, by decide, by decide, by decide, by decide⟩

/-- C08.src-f `cqpt_to_cqmpt` as translated statement by statement from the source (`d_qpt / e_qpt` column slices,
`block_diag(*[c_qpt]*(m−1))`, the zero paddings, `d_dash = hstack([-d_qpt, 0])`, `a_1 = hstack([d_dash]*(m−1) + [e_qpt])`,
`vstack`, `b_0`, `b_1 = d_qpt.T[0]`; resp. `block_diag(*[c_qpt]*m)` without the flag) produces exactly the rows and offsets
of the hand model `cqptToCqmpt` that `qmpt_affine` is proved about (`dim ≥ 1`, rows `c` of length `dim⁴`). A tile / repeat /
slice edit of the source changes the generated definition and breaks this proof. -/
theorem gen_cqpt_to_cqmpt [Field K] (flag : Bool) (dim m : Nat) (cq : List (List K)) (hd : 0 < dim)
    (hw : ∀ c ∈ cq, c.length = dim ^ 2 * dim ^ 2) :
    (QGen.C08.cqpt_to_cqmpt flag dim m cq).map (fun ab => ab.1.zip ab.2) = cqptToCqmpt flag (dim ^ 2) m cq := by
  cases flag
  · exact gen_cqpt_false dim m cq hw
  · exact gen_cqpt_true dim m cq hd hw

/-- C08.src-f' the remaining constants read from the QMPT source: `num_outcomes = povm outcomes × m-process outcomes`,
and the column constants used above. -/
theorem gen_qmpt_constants (d m p : Nat) :
    QGen.C08.qmpt_d_cols d = d ^ 2 ∧ QGen.C08.qmpt_e_from d = d ^ 2 ∧ QGen.C08.qmpt_blocks_flag m = m - 1 ∧
    QGen.C08.qmpt_blocks m = m ∧ QGen.C08.qmpt_b1_col = 0 ∧ QGen.C08.qmpt_num_outcomes p m = p * m :=
  ⟨rfl, rfl, rfl, rfl, rfl, rfl⟩

/-- C08.src-g the headline identity on the generated QST row: what the source's expressions put into the dictionary
predicts the Born value on the state built from `var`. -/
theorem gen_qst_row_affine [Field K] (flag : Bool) (r : K) (vec var a : List K) (b : K)
    (h : QGen.C08.qst_row flag r vec = some (a, b)) : ldot a var + b = ldot vec (stateOf flag r var) := by
  rw [gen_qst_row] at h
  exact qst_row_eq flag r vec var a b h

/-! ## non-vacuity -/

example : schedPair "qst" [0, 2] = some (0, 2) ∧ schedPair "qpt" [3, 0, 1] = some (3, 1) ∧ schedPair "povmt" [4, 0] = some (4, 0) ∧
    schedPair "qpt" [3, 0] = none := by decide
/-- the generated `cqpt_to_cqmpt` on an instance of the hypotheses of `gen_cqpt_to_cqmpt` (`dim = 1`, `m = 2`, rows of
length `dim⁴ = 1`), evaluated directly -/
example : (QGen.C08.cqpt_to_cqmpt (K := Rat) true 1 2 [[3], [5]]).map (fun ab => ab.1.zip ab.2) =
    cqptToCqmpt true 1 2 [[3], [5]] := by decide +kernel
example : QGen.C08.qst_row true (2 : Rat) [1, 3, 5] = some ([3, 5], 1/2) := by decide +kernel
example : QGen.C08.qpt_row true 2 ([1, 2, 3, 4] : List Rat) = some ([3, 4], 1) := by decide +kernel
example : QGen.C08.povmt_row true (2 : Rat) 3 [1, 2] 2 = some ([-1, -2, -1, -2], 2) := by decide +kernel
example : QGen.C08.povmt_row true (2 : Rat) 3 [1, 2] 0 = some ([1, 2, 0, 0], 0) := by decide +kernel

example : truncNorm (1 / 10000000000000 : Rat) [0, 1/4, 3/4, 0] = [0, 1/4, 3/4, 0] := by decide +kernel

/-- equal outcome counts `[2, 2]`: the guard of `calcProbDists_eq_circuit_iff` holds and `calc_prob_dist` returns entry 1 -/
example : calcProbDist (1 / 10000000000000 : Rat) 2 (mkCoeffs [[([1/2], 0), ([1/2], 0)], [([1/4], 0), ([3/4], 0)]]) [1] 1
    = .ok [1/4, 3/4] := by
  unfold calcProbDist calcProbDists predict predictRaw
  rw [dict_sorted]
  decide +kernel

/-- 1 qubit QST, flag = True, z-measurement with `r = 1` standing for `√d`: the hypothesis of `qst_affine` holds
and the predictions are the circuit values -/
example : qstCoeffs true (1 : Rat) [[[1, 0, 0, 1], [1, 0, 0, -1]]] [0, 0] =
    some (mkCoeffs [[([0, 0, 1], 1), ([0, 0, -1], 1)], [([0, 0, 1], 1), ([0, 0, -1], 1)]]) := by decide +kernel

example : qstCircuit true (1 : Rat) [[[1, 0, 0, 1], [1, 0, 0, -1]]] [0, 0] [1/2, 1/3, 1/4]
    = some [[5/4, 3/4], [5/4, 3/4]] := by decide +kernel

/-- QPT, `n = 2` toy vectors, flag = True: `var` has `(n−1)·n = 2` entries -/
example : (qptCoeffs (K := Rat) true [[1, 2]] [[[1, 1], [3, -1]]] [(0, 0)]) =
    some (mkCoeffs [[([1, 2], 1), ([-1, -2], 3)]]) := by decide +kernel

example : qptCircuit (K := Rat) true 2 [[1, 2]] [[[1, 1], [3, -1]]] [(0, 0)] [1/2, 1/3] = some [[13/6, 11/6]] := by
  decide +kernel

/-- POVMT, `n = 2`, `m = 3`, flag = True: `var` has `(m−1)·n = 4` entries -/
example : (povmtCoeffs true (2 : Rat) 3 [[1, 2], [0, 1]] [1]) =
    some (mkCoeffs [[([0, 1, 0, 0], 0), ([0, 0, 0, 1], 0), ([0, -1, 0, -1], 0)]]) := by decide +kernel

example : povmtCircuit true (2 : Rat) 2 3 [[1, 2], [0, 1]] [1] [1, 2, 3, 4] = some [[2, 4, -6]] := by
  decide +kernel

/-- QMPT, `n = 2`, `m = 2`, both flags -/
example : (qmptCoeffs (K := Rat) false 2 [[1, 2]] [[[1, 1], [3, -1]]] [(0, 0)]).isSome = true := by decide +kernel

example : (qmptCoeffs (K := Rat) true 2 [[1, 2]] [[[1, 1], [3, -1]]] [(0, 0)]).map
      (fun cs => cs.map fun c => ldot c.a [1, 2, 3, 4, 5, 6] + c.b)
    = (qmptCircuit true 2 2 [[1, 2]] [[[1, 1], [3, -1]]] [(0, 0)] [1, 2, 3, 4, 5, 6]).map List.flatten := by
  decide +kernel

/-! ### informational completeness: 1-qubit QST, flag on, testers X, Y, Z (and the incomplete set X, Y) -/

/-- the dictionary of the X, Y, Z tester set (`r = 1` stands for `√d`; basis coefficients `(1/2, ±1/2 e_i)`) -/
example : qstCoeffs true (1 : Rat)
    [[[1/2, 1/2, 0, 0], [1/2, -1/2, 0, 0]], [[1/2, 0, 1/2, 0], [1/2, 0, -1/2, 0]], [[1/2, 0, 0, 1/2], [1/2, 0, 0, -1/2]]]
    [0, 1, 2] =
    some (mkCoeffs [[([1/2, 0, 0], 1/2), ([-1/2, 0, 0], 1/2)], [([0, 1/2, 0], 1/2), ([0, -1/2, 0], 1/2)],
      [([0, 0, 1/2], 1/2), ([0, 0, -1/2], 1/2)]]) := by decide +kernel

/-- X, Y, Z: matA has rank 3 = number of variables, hence (by `rank_iff_IC`) the statistics determine the state -/
example : ∀ v v' : Vec ℚ 3,
    (([[(([1/2, 0, 0] : List ℚ), (1/2 : ℚ)), ([-1/2, 0, 0], 1/2)], [([0, 1/2, 0], 1/2), ([0, -1/2, 0], 1/2)],
        [([0, 0, 1/2], 1/2), ([0, 0, -1/2], 1/2)]].map fun rows => rows.map (rowVal v.toList)) =
     [[(([1/2, 0, 0] : List ℚ), (1/2 : ℚ)), ([-1/2, 0, 0], 1/2)], [([0, 1/2, 0], 1/2), ([0, -1/2, 0], 1/2)],
        [([0, 0, 1/2], 1/2), ([0, 0, -1/2], 1/2)]].map fun rows => rows.map (rowVal v'.toList)) → v = v' := by
  -- matA as a matrix, and `G = 2·1` with `G·(AᵀA) = 1`
  refine (rank_iff_IC _ (#v[#v[1/2, 0, 0], #v[-1/2, 0, 0], #v[0, 1/2, 0], #v[0, -1/2, 0], #v[0, 0, 1/2],
      #v[0, 0, -1/2]] : Mat ℚ 6 3) ?_).1 (QM.C09.m_contract_rank
        (QM.C09.Contract.toM (G := (#v[#v[2, 0, 0], #v[0, 2, 0], #v[0, 0, 2]] : Mat ℚ 3 3)) ?_)).1
  · rw [matA, dict_sorted]; decide +kernel
  · unfold QM.C09.Contract; decide +kernel

/-- X, Y only: the forward model is rank deficient — the z-component is invisible -/
example : ¬ (Mat.toM (#v[#v[1/2, 0, 0], #v[-1/2, 0, 0], #v[0, 1/2, 0], #v[0, -1/2, 0]] : Mat ℚ 4 3)).rank = 3 := by
  intro hr
  -- the dictionary of the X, Y testers does not separate `(0, 0, 1)` from `0`
  refine absurd ((rank_iff_IC [[(([1/2, 0, 0] : List ℚ), (1/2 : ℚ)), ([-1/2, 0, 0], 1/2)],
      [([0, 1/2, 0], 1/2), ([0, -1/2, 0], 1/2)]] _ ?_).1 hr (#v[0, 0, 1] : Vec ℚ 3) (#v[0, 0, 0] : Vec ℚ 3)
    (by decide +kernel)) (by decide +kernel)
  rw [matA, dict_sorted]; decide +kernel

/-- the executed circuit walk on an instance where no `p_x` vanishes: equal to the ideal circuit -/
example : qmptCircuitWalk (K := Rat) true 1 2 2 [[1, 2]] [[[1, 1], [3, -1]]] [(0, 0)] [1, 2, 3, 4, 5, 6] =
    qmptCircuit true 2 2 [[1, 2]] [[[1, 1], [3, -1]]] [(0, 0)] [1, 2, 3, 4, 5, 6] := by decide +kernel

/-- hypotheses of `calcProbDists_eq_circuit_iff` on an instance with equal outcome counts `[2, 2]` -/
example : predict (mkCoeffs [[(([1/2] : List Rat), (0 : Rat)), ([1/2], 0)], [([1/4], 0), ([3/4], 0)]]) [1] =
    .ok [[(1/2 : Rat), 1/2], [1/4, 3/4]].flatten := by
  unfold predict predictRaw; rw [dict_sorted]; decide +kernel

/-- `qmpt_cols` on an instance (`n = 2`, `m = 2`, flag on: `m·n² − n = 6` columns in every row) -/
example : (qmptSched (K := Rat) true 2 [1, 2] [[1, 1], [3, -1]]).map (fun rows => rows.map (·.1.length)) =
    some [6, 6, 6, 6] := by decide +kernel

/-- `qst_predict_ok` on the X, Y, Z instance: `predict` succeeds (3 variables) and gives the six Born probabilities -/
example : (qstCoeffs true (1 : Rat)
    [[[1/2, 1/2, 0, 0], [1/2, -1/2, 0, 0]], [[1/2, 0, 1/2, 0], [1/2, 0, -1/2, 0]], [[1/2, 0, 0, 1/2], [1/2, 0, 0, -1/2]]]
    [0, 1, 2]).map (fun cs => predict cs [1/2, 1/4, 0]) =
    some (.ok [3/4, 1/4, 5/8, 3/8, 1/2, 1/2]) := by
  refine Option.map_eq_some_iff.2 ⟨mkCoeffs [[([1/2, 0, 0], 1/2), ([-1/2, 0, 0], 1/2)],
    [([0, 1/2, 0], 1/2), ([0, -1/2, 0], 1/2)], [([0, 0, 1/2], 1/2), ([0, 0, -1/2], 1/2)]], by decide +kernel, ?_⟩
  unfold predict predictRaw
  rw [dict_sorted]
  decide +kernel

/-- a `var` of the wrong length: numpy's shape error -/
example : predict (mkCoeffs [[(([1/2, 0, 0] : List Rat), (1/2 : Rat))]]) [1/2, 1/4] = .error .shape := by
  unfold predict; rw [dict_sorted]; decide +kernel

/-- the thresholded walk on an interior toy instance (no clipping, proper conditionals): equals the ideal circuit;
and on a boundary instance (second gate annihilates the state: `p = 0` is clipped) it returns the zero block -/
example : circuitPovmMprocessStateEps (K := Rat) 1 (1/100000000) (1/10000000000000) [[1/2, 1/2], [1/2, -1/2]]
    [[[1/2, 0], [0, 1/2]], [[1/2, 0], [0, -1/2]]] [1, 1/2] =
    bornPovmMprocessState [[1/2, 1/2], [1/2, -1/2]] [[[1/2, 0], [0, 1/2]], [[1/2, 0], [0, -1/2]]] [1, 1/2] := by
  decide +kernel
example : circuitPovmMprocessStateEps (K := Rat) 1 (1/100000000) (1/10000000000000) [[1/2, 1/2], [1/2, -1/2]]
    [[[1, 0], [0, 1]], [[0, 0], [0, 0]]] [1, 1/2] = [3/4, 1/4, 0, 0] := by decide +kernel

/-- the hypotheses of `qmptCircuitWalkEps_eq_boundary` on that boundary instance: the clipped second outcome has Born
value 0, the remaining probability is 1 -/
example : rawProbs (K := Rat) 1 (1/100000000) [[[1, 0], [0, 1]], [[0, 0], [0, 0]]] [1, 1/2] = [1, 0] ∧
    bornPovmMprocessState (K := Rat) [[1/2, 1/2], [1/2, -1/2]] [[[1, 0], [0, 1]], [[0, 0], [0, 0]]] [1, 1/2] =
      [3/4, 1/4, 0, 0] := by decide +kernel

end QM.C08
