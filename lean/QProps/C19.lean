import QProofs.C19
import QGen.C19
import Mathlib.LinearAlgebra.Matrix.NonsingularInverse
import Mathlib.Logic.Equiv.Fin.Basic
import Mathlib.Algebra.BigOperators.Fin
/-!
# C19 — property theorems: the analytical error formulas are exact expectations

`expectN p n g` is the expectation of `g(counts)` under the multinomial law with `n` draws from `p`
(QModel.C19, defined by recursion on `n`), `expectJoint` its product over schedules.  The expectation statements hold
for every field of characteristic 0 (in particular for the executed instance `Rat`), every outcome
count `m`, every sample size `n ≥ 1`, every number of schedules; the statements about `replace_prob_dist`,
`calc_fisher_matrix` and `calc_fisher_matrix_total` need a linearly ordered field; `fisher_total_size` and the counterexamples are stated over `Rat`.
-/
set_option linter.unusedSectionVars false
open Matrix
namespace QM.C19
open QM

section single
variable {K : Type} [Field K] [CharZero K] {m : Nat}

/-- C19 (unbiasedness): the empirical distribution has mean `p`. -/
theorem multinomial_mean (p : Vec K m) (hp : ∑ i, p.get i = 1) (n : Nat) (hn : 1 ≤ n) (i : Fin m) :
    expectN p n (fun c => (empi (K := K) c n).get i - p.get i) = 0 := by
  simpa only [ite_mul, one_mul, zero_mul, Finset.sum_ite_eq', Finset.mem_univ, if_true]
    using expectN_err p hp n hn fun x => if x = i then 1 else 0

/-- C19 (covariance, entrywise): `E[(f_i − p_i)(f_j − p_j)]` is the `(i,j)` entry of the matrix that
`calc_covariance_mat(p, n)` returns, `(diag p − p pᵀ)/n`. -/
theorem multinomial_cov_entry (p : Vec K m) (hp : ∑ i, p.get i = 1) (n : Nat) (hn : 1 ≤ n)
    (i j : Fin m) :
    expectN p n (fun c => ((empi (K := K) c n).get i - p.get i) * ((empi (K := K) c n).get j - p.get j))
      = (covMat p (n : K)).get i j := by
  simpa only [ite_mul, mul_ite, one_mul, mul_one, zero_mul, mul_zero, Finset.sum_ite_eq', Finset.mem_univ, if_true]
    using expectN_err_mul p hp n hn (fun x => if x = i then 1 else 0) fun x => if x = j then 1 else 0

/-- C19 (covariance): the model of `calc_covariance_mat` *is* the exact covariance matrix of the
empirical distribution, for every `n ≥ 1` and every probability vector. -/
theorem multinomial_cov (p : Vec K m) (hp : ∑ i, p.get i = 1) (n : Nat) (hn : 1 ≤ n) :
    covExact p n = covMat p (n : K) := by
  apply Mat.ext'
  intro i j
  rw [← multinomial_cov_entry p hp n hn i j, covExact, Mat.get_ofFn]

/-- C19 (mse of one empirical distribution): `E‖f − p‖² = tr Cov`, the summand of
`calc_mse_empi_dists_analytical`. -/
theorem mse_empi_exact (p : Vec K m) (hp : ∑ i, p.get i = 1) (n : Nat) (hn : 1 ≤ n) :
    mseEmpiExact p n = (covMat p (n : K)).trace := by
  unfold mseEmpiExact
  simp only [normSq_eq, vsub_get]
  rw [(expectN_linear p n).finset_sum, Mat.trace, fsum_eq_sum]
  exact Finset.sum_congr rfl fun i _ => multinomial_cov_entry p hp n hn i i

/-- closed form: `tr Cov = (1 − Σ p_i²)/n`. -/
theorem trace_covMat (p : Vec K m) (hp : ∑ i, p.get i = 1) (n : K) :
    (covMat p n).trace = (1 - ∑ i, p.get i * p.get i) / n := by
  simp only [Mat.trace, fsum_eq_sum, covMat_get, if_true, div_eq_mul_inv]
  rw [← Finset.sum_mul, Finset.sum_sub_distrib, hp]

/-- C19 (mse of a linear estimate, one schedule): `E‖L(f − p)‖² = tr(L Cov Lᵀ)` for every matrix `L`,
the value `calc_conjugate` + `trace` compute. -/
theorem mse_linear_single {k : Nat} (L : Mat K k m) (p : Vec K m) (hp : ∑ i, p.get i = 1) (n : Nat)
    (hn : 1 ≤ n) :
    expectN p n (fun c => normSq (L.mulVec ((empi (K := K) c n).sub p)))
      = (conjugate L (covMat p (n : K))).trace := by
  simp only [normSq_eq, mulVec_get, vsub_get]
  rw [(expectN_linear p n).finset_sum, trace_conjugate]
  exact Finset.sum_congr rfl fun a _ => expectN_err_mul p hp n hn (L.get a) (L.get a)

/-- every component of `L(f − p)` has mean zero (the linear estimate is unbiased). -/
theorem linear_unbiased {k : Nat} (L : Mat K k m) (p : Vec K m) (hp : ∑ i, p.get i = 1) (n : Nat)
    (hn : 1 ≤ n) (a : Fin k) :
    expectN p n (fun c => (L.mulVec ((empi (K := K) c n).sub p)).get a) = 0 := by
  simp only [mulVec_get, vsub_get]
  exact expectN_err p hp n hn (L.get a)

end single

section joint
variable {K : Type} [Field K] [CharZero K] {m k : Nat}

/-- independence: adding a mean-zero function of the other schedules' counts to a fixed vector adds its mean square -/
theorem expectJoint_normSq_add (l : List (Vec K m × Nat)) (hl : ∀ x ∈ l, ∑ i, x.1.get i = 1) (u : Vec K k)
    (w : List (Vec Nat m) → Vec K k) (hw : ∀ a, expectJoint l (fun cs => (w cs).get a) = 0) :
    expectJoint l (fun cs => normSq (u.add (w cs))) = normSq u + expectJoint l (fun cs => normSq (w cs)) := by
  simp only [normSq_add]
  have L := expectJoint_linear l
  rw [L.add, L.add, expectJoint_const _ hl, L.smul, L.finset_sum,
    Finset.sum_eq_zero fun a _ => by rw [L.smul, hw a, mul_zero], mul_zero, add_zero]

/-- the error of the linear estimate has mean zero under the product law. -/
theorem linErr_mean_zero (l : List (Mat K k m × Vec K m × Nat))
    (hl : ∀ x ∈ l.map (fun x => (x.2.1, x.2.2)), (∑ i, x.1.get i = 1) ∧ 1 ≤ x.2) (a : Fin k) :
    expectJoint (l.map fun x => (x.2.1, x.2.2)) (fun cs => (linErr l cs).get a) = 0 := by
  induction l with
  | nil => exact vzero_get a
  | cons x r ih =>
    obtain ⟨L, p, n⟩ := x
    obtain ⟨hx, hr⟩ := List.forall_mem_cons.mp hl
    simp only [List.map_cons, expectJoint, linErr, vadd_get]
    refine (expectN_congr p n fun c => ?_).trans (linear_unbiased L p hx.1 n hx.2 a)
    rw [(expectJoint_linear _).add, expectJoint_const _ fun y hy => (hr y hy).1, ih hr, add_zero]

/-- C19 (mse of the linear estimate, all schedules): over the product of the schedules' multinomial
laws, `E‖Σ_s L_s (f_s − p_s)‖² = Σ_s tr(L_s Cov_s L_sᵀ)` — independence kills the cross terms.
`L_s` are the column blocks of `A⁺`, so the left side is `E‖v̂ − v‖²` of the linear estimate. -/
theorem mse_linear_joint (l : List (Mat K k m × Vec K m × Nat))
    (hl : ∀ x ∈ l.map (fun x => (x.2.1, x.2.2)), (∑ i, x.1.get i = 1) ∧ 1 ≤ x.2) :
    mseLinearExact l = linTrace l := by
  induction l with
  | nil =>
    show normSq (Vec.zero : Vec K k) = 0
    rw [normSq_eq]
    simp only [vzero_get, mul_zero, Finset.sum_const_zero]
  | cons x r ih =>
    obtain ⟨L, p, n⟩ := x
    obtain ⟨hx, hr⟩ := List.forall_mem_cons.mp hl
    have ihr := ih hr
    unfold mseLinearExact at ihr ⊢
    simp only [List.map_cons, expectJoint, linErr, linTrace]
    rw [expectN_congr p n fun c => expectJoint_normSq_add _ (fun y hy => (hr y hy).1) _ _ (linErr_mean_zero r hr),
      ihr, (expectN_linear p n).add, expectN_const p hx.1, mse_linear_single L p hx.1 n hx.2]

end joint


section formulas
variable {K : Type} [Field K] [CharZero K] {m : Nat}

/-- the linear-estimate trace of the code's block matrix splits over the schedules' column blocks -/
theorem mseLinearVar_eq_linTrace {a : Nat} (l : List (Vec K m × Nat))
    (X : Mat K a (dsSize (covBlocks (uniArgs l)))) :
    mseLinearVar (covBlocks (uniArgs l)) X = linTrace (splitCols l X) := by
  induction l with
  | nil =>
    simp only [splitCols, linTrace]
    exact mseLinearVar_nil X
  | cons x r ih =>
    obtain ⟨p, n⟩ := x
    simp only [splitCols, linTrace]
    rw [← ih]
    exact mseLinearVar_cons m (covMat p (n : K)) (covBlocks (uniArgs r)) X

/-- C19 (`calc_mse_linear_analytical`, mode `var`): for schedules with a common outcome count (what
`calc_prob_dists` supports) the value the code computes, `trace(A⁺ · (⊕_s (diag p_s − p_s p_sᵀ)/n_s) · A⁺ᵀ)`,
equals the exact expectation `E‖A⁺(f − p)‖² = E‖v̂ − v‖²` over the product of the multinomial laws, for
every matrix `A⁺`, every number of schedules, all probability vectors and all sample sizes `≥ 1`. -/
theorem mse_linear_var_exact {a : Nat} (l : List (Vec K m × Nat))
    (hl : ∀ x ∈ l, (∑ i, x.1.get i = 1) ∧ 1 ≤ x.2)
    (Ainv : Mat K a (dsSize (covBlocks (uniArgs l)))) :
    mseLinearVar (covBlocks (uniArgs l)) Ainv = mseLinearExact (splitCols l Ainv) := by
  rw [mseLinearVar_eq_linTrace, mse_linear_joint _ (by rwa [splitCols_map])]

/-- C19 (`calc_mse_empi_dists_analytical`): the sum of the traces of the covariance blocks equals
`Σ_s E‖f_s − p_s‖²`, and equals the trace of the total (direct-sum) covariance matrix. -/
theorem mse_empi_total_exact (l : List (Vec K m × Nat))
    (hl : ∀ x ∈ l, (∑ i, x.1.get i = 1) ∧ 1 ≤ x.2) :
    mseEmpi (covBlocks (uniArgs l)) = mseEmpiExactTotal l
      ∧ (directSum (covBlocks (uniArgs l))).trace = mseEmpi (covBlocks (uniArgs l)) := by
  refine ⟨?_, trace_directSum _⟩
  induction l with
  | nil => rfl
  | cons x r ih =>
    obtain ⟨p, n⟩ := x
    obtain ⟨hx, hr⟩ := List.forall_mem_cons.mp hl
    simp only [uniArgs, covBlocks, mseEmpi, mseEmpiExactTotal]
    rw [ih hr, mse_empi_exact p hx.1 n hx.2]

end formulas

section helpers
variable {K : Type} [Field K]

/-- C19 (`calc_direct_sum`): block structure — a block sits on the diagonal at its running index,
everything outside the blocks is zero, the rest is the direct sum of the remaining blocks. -/
theorem direct_sum_blocks (k : Nat) (B : Mat K k k) (r : List (Block K)) :
    (∀ i j : Fin k, (directSum (⟨k, B⟩ :: r)).get (Fin.castAdd (dsSize r) i) (Fin.castAdd (dsSize r) j)
        = B.get i j)
    ∧ (∀ (i : Fin k) (j : Fin (dsSize r)),
        (directSum (⟨k, B⟩ :: r)).get (Fin.castAdd (dsSize r) i) (Fin.natAdd k j) = 0
        ∧ (directSum (⟨k, B⟩ :: r)).get (Fin.natAdd k j) (Fin.castAdd (dsSize r) i) = 0)
    ∧ (∀ i j : Fin (dsSize r), (directSum (⟨k, B⟩ :: r)).get (Fin.natAdd k i) (Fin.natAdd k j)
        = (directSum r).get i j) := by
  simp only [directSum_cons_get, Fin.addCases_left, Fin.addCases_right, implies_true, and_self]

/-- C19 (`calc_conjugate`): the model value is `x v xᵀ` in Mathlib's matrix algebra. -/
theorem conjugate_spec {k n : Nat} (X : Mat K k n) (V : Mat K n n) :
    (conjugate X V).toM = X.toM * V.toM * X.toMᵀ := conjugate_toM X V

/-- C19 (POVM tomography, mode `qoperation`, `on_para_eq_constraint = True`): the value the code returns is
`tr(A⁺VA⁺ᵀ) + tr((S A⁺) V (S A⁺)ᵀ)`; by `mse_linear_var_exact` (applied to `A⁺` and to `S A⁺`) these are
`E‖v̂ − v‖²` and `E‖S(v̂ − v)‖²`, the squared error of the explicit elements plus that of the implied last
element `−Σ_k δE_k` (`S = [I … I]`, `num_outcomes − 1` copies; layout checked by the correspondence). -/
theorem mse_linear_povm_qop (bs : List (Block K)) (d2 mo : Nat)
    (Ainv : Mat K ((mo - 1) * d2) (dsSize bs)) :
    mseLinearPovmQop bs Ainv d2 mo
      = .ok (mseLinearVar bs Ainv + mseLinearVar bs ((matS d2 mo).mul Ainv)) := by
  unfold mseLinearPovmQop
  have e : conjugate (matS d2 mo) (conjugate Ainv (directSum bs)) = conjugate ((matS d2 mo).mul Ainv) (directSum bs) :=
    Mat.toM_injective (by simp only [conjugate_toM, Mat.toM_mul, Matrix.transpose_mul, Matrix.mul_assoc])
  rw [dif_pos rfl, mseLinearVar, mseLinearVar, ← e]

/-- C19 (POVM tomography, object mode, as an expectation): for schedules with a common outcome count the value the code returns is
`E‖v̂ − v‖² + E‖S(v̂ − v)‖²` over the product of the multinomial laws — the exact mean squared error of all POVM elements, the
implied last one included (`povm_last_element_error`). -/
theorem mse_linear_povm_qop_exact [CharZero K] {m : Nat} (l : List (Vec K m × Nat))
    (hl : ∀ x ∈ l, (∑ i, x.1.get i = 1) ∧ 1 ≤ x.2) (d2 mo : Nat)
    (Ainv : Mat K ((mo - 1) * d2) (dsSize (covBlocks (uniArgs l)))) :
    mseLinearPovmQop (covBlocks (uniArgs l)) Ainv d2 mo
      = .ok (mseLinearExact (splitCols l Ainv) + mseLinearExact (splitCols l ((matS d2 mo).mul Ainv))) := by
  rw [mse_linear_povm_qop, mse_linear_var_exact l hl, mse_linear_var_exact l hl]

/-- `calc_left_inv` accepts a WIDE matrix of full row rank (its test is `min(shape) == rank`) and then returns something that is not
a left inverse: `A = [1 0]`, `pinv(AᵀA) = diag(1,0)`, result `[1 0]ᵀ`, `L·A = diag(1,0) ≠ 1` — so the contract `hG` of
`left_inv_spec` cannot hold for wide matrices (forward models of tomography are tall). -/
theorem left_inv_wide_fails :
    ∃ (L : Mat Rat 2 1), leftInv (K := Rat) (Mat.ofFn (m := 1) (n := 2) fun _ j => if j.val = 0 then 1 else 0) 1
        (Mat.ofFn fun i j => if i.val = 0 ∧ j.val = 0 then 1 else 0) = .ok L ∧
      (L.mul (Mat.ofFn (m := 1) (n := 2) fun _ j => if j.val = 0 then (1 : Rat) else 0)) ≠ Mat.one := by
  refine ⟨Mat.ofFn fun i _ => if i.val = 0 then 1 else 0, by decide +kernel, by decide +kernel⟩

/-- C19 (`calc_left_inv`): when the rank test passes and numpy's `pinv(AᵀA)` is an inverse of `AᵀA`
(full column rank), the result is a left inverse of `A`; so `v̂ = A⁺(f − b)` recovers `v` from `f = Av + b`. -/
theorem left_inv_spec {m n : Nat} (A : Mat K m n) (rank : Nat) (G : Mat K n n) (L : Mat K n m)
    (hG : G.toM * (A.toMᵀ * A.toM) = 1) (h : leftInv A rank G = .ok L) :
    L.toM * A.toM = 1 ∧ min m n = rank := by
  unfold leftInv at h
  split at h
  · cases h
  · rename_i hr
    injection h with h
    subst h
    refine ⟨?_, not_not.mp hr⟩
    rw [Mat.toM_mul, Mat.toM_transpose, Matrix.mul_assoc, hG]

/-- C19 (`calc_se`, inner term): for arrays of equal length the value is `Σ (x_i − y_i)²`. -/
theorem sqDist_eq (x y : List K) (h : x.length = y.length) :
    sqDist x y = .ok (lsum ((x.zip y).map fun (a, b) => (a - b) * (a - b))) := by
  simp [sqDist, h]

/-- arrays of different lengths, neither of length 1 (no broadcast): numpy's `x - y` raises, so does the model. -/
theorem sqDist_mismatch (x y : List K) (h : x.length ≠ y.length) (hx : x.length ≠ 1) (hy : y.length ≠ 1) :
    sqDist x y = .error .broadcast := by
  have h1 : ¬ (x.length = 1 ∧ y.length ≠ 1) := fun hh => hx hh.1
  have h2 : ¬ (y.length = 1 ∧ x.length ≠ 1) := fun hh => hy hh.1
  simp only [sqDist, if_neg h1, if_neg h2, if_neg h]

/-- C19 (`calc_se`): the squared error of two lists of arrays is the sum of the squared distances, pair by pair. -/
theorem se_cons (x y : List K) (xs ys : List (List K)) (d r : K)
    (hd : sqDist x y = .ok d) (hr : se xs ys = .ok r) : se (x :: xs) (y :: ys) = .ok (d + r) := by
  unfold se at hr ⊢
  simp only [List.zip_cons_cons, List.mapM_cons, hd, bind, Except.bind, pure, Except.pure] at hr ⊢
  cases hm : List.mapM (fun p : List K × List K => sqDist p.1 p.2) (xs.zip ys) with
  | error e => simp [hm] at hr
  | ok ds =>
    simp only [hm] at hr ⊢
    injection hr with hr
    simp [lsum, ← hr]

/-- C19 (mean): the arithmetic mean (numpy gives `nan` for an empty list: `mean? [] = none`). -/
theorem mean?_spec (l : List K) (h : l ≠ []) : mean? l = some (lsum l / (l.length : K)) := by
  simp [mean?, h]

/-- C19 (standard deviation): for more than `ddof` samples the squared `np.std(·, ddof)` is `Σ(x − mean)²/(len − ddof)`, any length. -/
theorem varDdof?_spec (ddof : Nat) (l : List K) (h : ddof < l.length) :
    varDdof? ddof l = some (lsum (l.map fun x => (x - lsum l / (l.length : K)) * (x - lsum l / (l.length : K)))
      / ((l.length - ddof : Nat) : K)) := by
  rw [varDdof?, if_neg (not_le.mpr h)]

/-- with at most `ddof` samples numpy returns `nan` (one repetition with `ddof = 1`): the model returns `none`, not 0. -/
theorem varDdof?_nan (ddof : Nat) (l : List K) (h : l.length ≤ ddof) : varDdof? ddof l = none := by
  rw [varDdof?, if_pos h]

/-- two repetitions: `var = (x − y)²/2`. -/
theorem varDdof1_pair [CharZero K] (x y : K) : varDdof? 1 [x, y] = some ((x - y) * (x - y) / 2) := by
  simp [varDdof?, lsum]
  ring

/-- C19 (`calc_mse_prob_dists`, and source tie of `ddof`): (mean, std²) of the per-repetition squared errors with the `ddof` read from
the source (`QGen.C19.ddofMseProbDists`); a change of the model's `ddof` or of the source's breaks this proof. -/
theorem mseProbDists_eq (xsl ysl : List (List (List K))) (ses : List K)
    (h : (xsl.zip ysl).mapM (fun p : List (List K) × List (List K) => se p.1 p.2) = .ok ses) :
    mseProbDists xsl ysl = .ok (mean? ses, varDdof? QGen.C19.ddofMseProbDists ses) := by
  unfold mseProbDists
  simp only [h, bind, Except.bind, pure, Except.pure]
  rfl


end helpers

section fisherThm
variable {K : Type} [Field K] [LinearOrder K] [IsStrictOrderedRing K]

/-- C19 (`replace_prob_dist`): away from the clipping threshold the distribution is unchanged, so the
Fisher matrix is computed from the true probabilities. -/
theorem replace_noop (ps : List K) (eps : K) (h : ∀ p ∈ ps, eps ≤ p) :
    replaceProbDist ps eps = ps := by
  unfold replaceProbDist
  have hc : (ps.filter fun p => decide (p < eps)) = [] := by
    rw [List.filter_eq_nil_iff]
    intro p hp
    simpa using h p hp
  simp only [hc, List.length_nil, Nat.cast_zero, mul_zero, zero_div, sub_zero]
  exact (List.map_congr_left fun p hp => if_neg (not_lt.mpr (h p hp))).trans (List.map_id ps)

/-- entry `(a,b)` of the matrix the code accumulates: `Σ_x g_x[a]·g_x[b] / prob_x` over the outcomes, in list order -/
theorem fisherRaw_entry (sv : Nat) (probs : List K) (grads : List (List K)) (a b : Nat) (ha : a < sv) (hb : b < sv) :
    ((fisherRaw sv probs grads)[a]?).bind (·[b]?)
      = some (lsum ((probs.zip grads).map fun (pr, g) => g.getD a 0 * g.getD b 0 / pr)) := by
  rw [fisherRaw, List.getElem?_map, List.getElem?_range ha, Option.map_some, Option.bind_some,
    List.getElem?_map, List.getElem?_range hb, Option.map_some]


/-- the checks of `calc_fisher_matrix` in the code's order, then the accumulated matrix -/
theorem fisher_eq (ps : List K) (grads : List (List K)) (eps : K) :
    fisher ps grads eps =
      match validate ps eps with
      | .error e => .error e
      | .ok _ =>
        if ps.length ≠ grads.length then .error .sizeMismatch
        else if eps ≤ 0 then .error .epsNonPos
        else match grads with
          | [] => .error .empty
          | g0 :: _ =>
            if grads.any (fun g => g.length ≠ g0.length) then .error .ragged
            else .ok (g0.length, fisherRaw g0.length (replaceProbDist ps eps) grads) := by
  unfold fisher
  cases validate ps eps <;> rfl

/-- C19 (`calc_fisher_matrix`, textbook definition): when the call succeeds and no probability is below `eps`, all gradient
vectors have the length `sv` of the first one (so no default value of `getD` is ever read), `eps > 0`, and entry `(a,b)` of the
returned matrix is `Σ_x ∂_a p_x · ∂_b p_x / p_x` over the outcomes. -/
theorem fisher_formula (ps : List K) (grads : List (List K)) (eps : K) (sv : Nat) (F : List (List K))
    (hok : fisher ps grads eps = .ok (sv, F)) (h : ∀ p ∈ ps, eps ≤ p) :
    ps.length = grads.length ∧ 0 < eps ∧ (∀ g ∈ grads, g.length = sv) ∧ (∃ g0 r, grads = g0 :: r) ∧
    ∀ a b, a < sv → b < sv →
      (F[a]?).bind (·[b]?) = some (lsum ((ps.zip grads).map fun (pr, g) => g.getD a 0 * g.getD b 0 / pr)) := by
  rw [fisher_eq] at hok
  split at hok
  · cases hok
  split at hok
  · cases hok
  rename_i hlen
  split at hok
  · cases hok
  rename_i heps
  obtain _ | ⟨g0, r⟩ := grads
  · cases hok
  dsimp only at hok
  split at hok
  · cases hok
  rename_i hrag
  obtain ⟨rfl, rfl⟩ := Prod.mk.inj (Except.ok.inj hok)
  rw [replace_noop ps eps h]
  refine ⟨not_not.mp hlen, lt_of_not_ge heps, fun g hg => ?_, ⟨g0, r, rfl⟩, fun a b ha hb => fisherRaw_entry _ ps (g0 :: r) a b ha hb⟩
  by_contra hne
  exact hrag (List.any_eq_true.mpr ⟨g, hg, decide_eq_true hne⟩)

end fisherThm

section score
variable {K : Type} [Field K] {m : Nat}

/-- C19 (Fisher information identity): for positive probabilities `Σ_x g_x(a) g_x(b) / p_x` is the
expectation over one draw `x ~ p` of the product of the score components `(g_x(a)/p_x)(g_x(b)/p_x)`,
i.e. `E[∇log p ∇log pᵀ]` — written with the multinomial law at `n = 1`. -/
theorem fisher_is_score_covariance (p : Vec K m) (hpos : ∀ x, p.get x ≠ 0) (ga gb : Fin m → K) :
    (∑ x, ga x * gb x / p.get x)
      = expectN p 1 (fun c => ∑ x, (c.get x : K) * ((ga x / p.get x) * (gb x / p.get x))) := by
  rw [expectN_succ]
  refine Finset.sum_congr rfl fun i _ => ?_
  rw [expectN_zero]
  simp only [bump_get, Vec.get_ofFn, zero_add, Nat.cast_ite, Nat.cast_one, Nat.cast_zero, ite_mul, one_mul, zero_mul,
    Finset.sum_ite_eq', Finset.mem_univ, if_true]
  rw [div_mul_div_comm, ← mul_div_assoc, mul_div_mul_left _ _ (hpos i)]

/-- the list form of the Fisher entry on typed inputs is the finite sum over the outcomes -/
theorem fisher_entry_sum (p : Vec K m) (G : Mat K m nv) (a b : Fin nv) :
    lsum (((List.ofFn p.get).zip (List.ofFn fun x => List.ofFn (G.get x))).map
        fun (pr, g) => g.getD a.val 0 * g.getD b.val 0 / pr)
      = ∑ x, G.get x a * G.get x b / p.get x := by
  rw [lsum_zip_ofFn]
  refine Finset.sum_congr rfl fun x _ => ?_
  simp only [List.getD_eq_getElem?_getD, List.getElem?_ofFn, Fin.is_lt, dite_true, Option.getD_some, Fin.eta]

/-- C19 (Fisher matrix = score covariance, on the model's own matrix): entry `(a,b)` of what `calc_fisher_matrix` accumulates for
probabilities `p` and gradient rows `G` is `E_{x∼p}[(∂_a p_x/p_x)(∂_b p_x/p_x)]` (one draw of the multinomial law). -/
theorem fisher_entry_is_score_expectation (p : Vec K m) (hpos : ∀ x, p.get x ≠ 0) {nv : Nat} (G : Mat K m nv) (a b : Fin nv) :
    lsum (((List.ofFn p.get).zip (List.ofFn fun x => List.ofFn (G.get x))).map
        fun (pr, g) => g.getD a.val 0 * g.getD b.val 0 / pr)
      = expectN p 1 (fun c => ∑ x, (c.get x : K) * ((G.get x a / p.get x) * (G.get x b / p.get x))) := by
  rw [fisher_entry_sum]
  exact fisher_is_score_covariance p hpos (fun x => G.get x a) fun x => G.get x b

/-- C19 (`_calc_cramer_rao_bound`): with `Finv` numpy's inverse of the total Fisher matrix `F` (contract `Finv·F = 1`), the bound is
`tr(F⁻¹)/N` (Mathlib's matrix inverse). -/
theorem crb_formula {nv : Nat} (F Finv : Mat K nv nv) (N : K) (h : Finv.toM * F.toM = 1) :
    crb Finv N = (F.toM⁻¹).trace / N := by
  rw [Matrix.inv_eq_left_inv h, crb, Mat.trace_eq]

/-- C19 (`StandardPovmt.calc_cramer_rao_bound`, flag on): `[tr(F⁻¹) + tr(S F⁻¹ Sᵀ)]/N` — the bound for the explicit elements plus the
bound for the implied last element `−S·δv` (`matS_mulVec`, `povm_last_element_error`). -/
theorem crb_povm_formula (d2 mo : Nat) (F Finv : Mat K ((mo - 1) * d2) ((mo - 1) * d2)) (N : K)
    (h : Finv.toM * F.toM = 1) :
    crbPovm d2 mo Finv N
      = ((F.toM⁻¹).trace + ((matS (K := K) d2 mo).toM * F.toM⁻¹ * (matS (K := K) d2 mo).toMᵀ).trace) / N := by
  rw [Matrix.inv_eq_left_inv h]
  simp only [crbPovm, crb, Mat.trace_eq, conjugate_toM]
  rw [add_div]


end score

section layout

/-- C19 (`_generate_matS` is the hstack of identities): `S v` is the sum of the `num_outcomes − 1` blocks of
`v` — component `a` of `S v` is `Σ_k v[k·d² + a]`. So for a POVM whose last element is implied,
`E_last = c − Σ_k E_k`, the second term of the object-mode MSE, `tr(S Cov_v Sᵀ) = E‖S(v̂ − v)‖²`, is exactly the
squared error of the implied element (`povm_last_element_error`), with no hypothesis on `S`. -/
theorem matS_mulVec {K : Type} [Field K] (d2 mo : Nat) (v : Vec K ((mo - 1) * d2)) (a : Fin d2) :
    ((matS (K := K) d2 mo).mulVec v).get a
      = ∑ k : Fin (mo - 1), v.get (finProdFinEquiv (k, a)) := by
  rw [mulVec_get, ← (finProdFinEquiv (m := mo - 1) (n := d2)).sum_comp, Fintype.sum_prod_type]
  -- column `(k, b)` has index `b + d2·k`, so the entry of `S` there is `1` exactly for `b = a`
  simp only [matS, matSWith, Mat.get_ofFn, finProdFinEquiv_apply_val, Nat.add_mul_mod_self_left,
    Nat.mod_eq_of_lt (Fin.isLt _), Fin.val_inj, ite_mul, one_mul, zero_mul, Finset.sum_ite_eq', Finset.mem_univ, if_true]

/-- C19 (POVM, implied last element): the error of the implied element is `−S(v̂ − v)`. -/
theorem povm_last_element_error {K : Type} [Field K] (d2 mo : Nat) (c : Vec K d2)
    (v v' : Vec K ((mo - 1) * d2)) (a : Fin d2) :
    (lastElem d2 mo c v).get a - (lastElem d2 mo c v').get a
      = -((matS (K := K) d2 mo).mulVec (v.sub v')).get a := by
  rw [matS_mulVec]
  simp only [lastElem, Vec.get_ofFn, vsub_get, Finset.sum_sub_distrib]
  ring

/-- C19 (`StandardQTomography.calc_fisher_matrix`, row slices): when `matA` / `vecB` are the stack of one block per
schedule with a common outcome count `m` (what `calc_prob_dists` supports), the call for schedule `j` is
`matrix_util.calc_fisher_matrix` on exactly the `j`-th block: probabilities `A_j · var + b_j`, gradients the rows
of `A_j` — `int(len(matA)/num_schedules) = m` and the slices `[m·j : m·(j+1)]` pick block `j`. -/
theorem fisherQt_block {K : Type} [Add K] [Sub K] [Mul K] [Div K] [Neg K] [Zero K] [One K] [NatCast K]
    [LT K] [DecidableLT K] [LE K] [DecidableLE K]
    (blocks : List (List (List K))) (bvecs : List (List K)) (m : Nat)
    (hb : ∀ b ∈ blocks, b.length = m) (hv : ∀ b ∈ bvecs, b.length = m)
    (hlen : bvecs.length = blocks.length) (j : Nat) (hj : j < blocks.length) (var : List K) (eps : K) :
    fisherQt blocks.flatten bvecs.flatten blocks.length j var eps
      = fisher ((blocks[j].zip (bvecs[j]'(hlen ▸ hj))).map fun (r, b) =>
          lsum ((r.zip var).map fun (a, v) => a * v) + b) blocks[j] eps := by
  unfold fisherQt
  have hsize : blocks.flatten.length / blocks.length = m := by
    rw [length_flatten_uniform blocks m hb]
    exact Nat.mul_div_cancel m (by omega)
  simp only [hsize]
  rw [slice_flatten_uniform blocks m hb j hj, slice_flatten_uniform bvecs m hv j (hlen ▸ hj)]

end layout

/-! ## tie to the source: constants and structure regenerated from the anchored files (QGen.C19) -/

/-- C19 (source tie): the constants the model hard-wires are the ones in the source — `ddof = 1` of both sample standard
deviations, default `eps = 1e-8` of the three Fisher helpers, `num_outcomes − 1` identity blocks in `_generate_matS`,
`shape[0]` compared with `shape[1]` in `calc_direct_sum` — and `StandardQmpt` overrides neither the object-mode MSE nor
the Cramér–Rao bound of the base class, so `mseLinearQopBase` / `crb` are its model (findings D13 / D13b stay open; an
upstream override flips these booleans and breaks this proof, forcing the model to follow). The formula skeletons
themselves (`(diag q − q qᵀ)/n`, `x @ v @ x.T`, `pinv(AᵀA) Aᵀ`, `Σ w_j·F_j(eps)`, `tr(F⁻¹)/N`, row slicing by
`int(len(matA)/num_schedules)`) are matched statement by statement by the translator, which fails loudly otherwise. -/
theorem gen_constants_match_model :
    QGen.C19.ddofMseProbDists = 1 ∧ QGen.C19.ddofMseQoperations = 1 ∧
    QGen.C19.epsFisher = 1 / 100000000 ∧ QGen.C19.epsReplace = 1 / 100000000 ∧ QGen.C19.epsFisherTotal = 1 / 100000000 ∧
    QGen.C19.matSOffset = 1 ∧ QGen.C19.directSumSquareAxis = 1 ∧
    QGen.C19.qmptOverridesQop = false ∧ QGen.C19.qmptOverridesCrb = false := by
  decide +kernel

/-- C19 (source tie, `_generate_matS`): the model's `matS` IS the hstack with the block count read from the source
(`num_outcomes − QGen.C19.matSOffset`); changing either the model's offset or the source's breaks this proof. -/
theorem matS_eq_gen {K : Type} [Zero K] [One K] (d2 mo : Nat) :
    matS (K := K) d2 mo = matSWith QGen.C19.matSOffset d2 mo := rfl

/-- C19 (source tie, default `eps`): the threshold the driver uses when the implementation is called without `eps` is the one read
from the three functions of the source. -/
theorem defaultEps_eq_gen :
    defaultEps = QGen.C19.epsFisher ∧ defaultEps = QGen.C19.epsReplace ∧ defaultEps = QGen.C19.epsFisherTotal := by
  decide +kernel

/-! ## measurement-process tomography in object mode (open findings D13 / D13b) -/
section qmpt
variable {K : Type} [Field K] [CharZero K] {m : Nat}

/-- C19 (QMPT, what the object-mode MSE has to be): `tr(A⁺VA⁺ᵀ) + tr((S A⁺)V(S A⁺)ᵀ)` is the exact expectation
`E‖v̂ − v‖² + E‖S(v̂ − v)‖²` — error of the stored entries plus error of the implied first row — for every `A⁺`, all
probability vectors and sample sizes (`S = matSQmpt`). -/
theorem qmpt_object_mse_exact (l : List (Vec K m × Nat)) (hl : ∀ x ∈ l, (∑ i, x.1.get i = 1) ∧ 1 ≤ x.2)
    (d2 mo : Nat) (Ainv : Mat K (mo * (d2 * d2) - d2) (dsSize (covBlocks (uniArgs l)))) :
    mseLinearQmptObject (covBlocks (uniArgs l)) d2 mo Ainv
      = mseLinearExact (splitCols l Ainv) + mseLinearExact (splitCols l ((matSQmpt d2 mo).mul Ainv)) := by
  unfold mseLinearQmptObject
  rw [mse_linear_var_exact l hl, mse_linear_var_exact l hl]

end qmpt

/-- C19 (QMPT, the implied row): `matSQmpt` sums, for every column `a`, the first-row entries `v[k·d2² + a]` of the
`mo − 1` completely stored HS matrices — the implied first row of the last HS matrix is `e₀ −` this sum, so its error is
`−S(v̂ − v)` and the second term of `mseLinearQmptObject` is its squared error. -/
theorem matSQmpt_mulVec {K : Type} [Field K] (d2 mo : Nat) (v : Vec K (mo * (d2 * d2) - d2)) (a : Fin d2) :
    ((matSQmpt (K := K) d2 mo).mulVec v).get a
      = ∑ k : Fin (mo - 1), if h : k.val * (d2 * d2) + a.val < mo * (d2 * d2) - d2
          then v.get ⟨k.val * (d2 * d2) + a.val, h⟩ else 0 := by
  have hd : d2 ≤ d2 * d2 := Nat.le_mul_self d2
  have ha : a.val < d2 * d2 := lt_of_lt_of_le a.isLt hd
  -- column `k·d2² + a` lies among the completely stored matrices, so the guard of the statement is always true
  have hcol : ∀ k : Fin (mo - 1), k.val * (d2 * d2) + a.val < (mo - 1) * (d2 * d2) := fun k => by
    have := Nat.mul_le_mul_right (d2 * d2) (Nat.succ_le_of_lt k.isLt)
    rw [Nat.succ_mul] at this
    omega
  have hle : (mo - 1) * (d2 * d2) ≤ mo * (d2 * d2) - d2 := by
    rw [Nat.sub_mul, Nat.one_mul]
    omega
  rw [mulVec_get]
  -- row `a` of `S` has its ones exactly in these columns, one for each `k`
  refine (Fintype.sum_of_injective (fun k : Fin (mo - 1) => (⟨k.val * (d2 * d2) + a.val, (hcol k).trans_le hle⟩ : Fin _))
    (fun k k' h => ?_) _ _ (fun j hj => ?_) fun k => ?_).symm
  · exact Fin.ext (Nat.eq_of_mul_eq_mul_right (by omega) (Nat.add_right_cancel (Fin.mk.inj h)))
  · simp only [matSQmpt, Mat.get_ofFn]
    rw [if_neg, zero_mul]
    rintro ⟨h1, h2⟩
    exact hj ⟨⟨j.val / (d2 * d2), (Nat.div_lt_iff_lt_mul (by omega)).mpr h1⟩,
      Fin.ext (h2 ▸ Nat.div_add_mod' j.val (d2 * d2))⟩
  · simp only [matSQmpt, Mat.get_ofFn]
    rw [dif_pos ((hcol k).trans_le hle), if_pos ⟨hcol k, by rw [Nat.mul_comm, Nat.mul_add_mod, Nat.mod_eq_of_lt ha]⟩, one_mul]

/-- OPEN (D13): the object-mode MSE the code returns for `StandardQmpt` (the base-class value) is not the exact object error.
Instance with `d² = 2`, two outcomes (6 variables), one schedule `p = (1/2,1/2)`, `n = 2`, `A⁺[i] = (i+1, −(i+1))`. -/
theorem qmpt_object_mse_fails :
    ¬ ∀ (bs : List (Block Rat)) (Ainv : Mat Rat (2 * (2 * 2) - 2) (dsSize bs)),
        mseLinearQopBase bs Ainv = mseLinearQmptObject bs 2 2 Ainv := by
  intro h
  have h' := h (covBlocks [⟨2, Vec.ofFn fun _ => 1/2, 2⟩])
    (Mat.ofFn fun i j => if j.val = 0 then (i.val : Rat) + 1 else -((i.val : Rat) + 1))
  revert h'
  decide +kernel

/-- OPEN (D13b): likewise the Cramér–Rao bound the code returns for `StandardQmpt` with the flag on is `tr(F⁻¹)/N` of the variables, not
the object-parametrisation bound (instance `d² = 2`, two outcomes, `F⁻¹ = 1`, `N = 10`: `6/10` vs `8/10`). -/
theorem qmpt_crb_fails :
    ¬ ∀ (Finv : Mat Rat (2 * (2 * 2) - 2) (2 * (2 * 2) - 2)) (N : Rat), crb Finv N = crbQmptObject 2 2 Finv N := by
  intro h
  have h' := h Mat.one 10
  revert h'
  decide +kernel

/-! ## independence of the schedules -/
section indep
variable {K : Type} [Field K] [CharZero K] {m : Nat}

/-- C19 (independence of the schedules): the expectation of (a function of the first schedule's counts) × (a function of the others') factorises -/
theorem expectJoint_head_indep (p : Vec K m) (n : Nat) (r : List (Vec K m × Nat))
    (u : Vec Nat m → K) (g : List (Vec Nat m) → K) :
    expectJoint ((p, n) :: r) (fun cs => match cs with | c :: rest => u c * g rest | [] => 0)
      = expectN p n u * expectJoint r g := by
  simp only [expectJoint]
  rw [expectN_congr p n fun c => (expectJoint_linear r).smul (u c) g, (expectN_linear p n).mul_const]

/-- C19 (cross-schedule covariance vanishes): a centred entry of the first schedule's empirical distribution times any function of
the other schedules' counts has mean zero — these are the zero off-diagonal blocks of the direct sum that
`calc_covariance_mat_total` builds with `calc_direct_sum` (diagonal blocks: `multinomial_cov`) -/
theorem cross_covariance_zero (p : Vec K m) (hp : ∑ i, p.get i = 1) (n : Nat) (hn : 1 ≤ n) (r : List (Vec K m × Nat))
    (i : Fin m) (g : List (Vec Nat m) → K) :
    expectJoint ((p, n) :: r)
        (fun cs => match cs with | c :: rest => ((empi (K := K) c n).get i - p.get i) * g rest | [] => 0) = 0 := by
  rw [expectJoint_head_indep p n r (fun c => (empi (K := K) c n).get i - p.get i) g, multinomial_mean p hp n hn i, zero_mul]

end indep

/-! ## `replace_prob_dist` with clipping active -/
section clip
variable {K : Type} [Field K] [LinearOrder K] [IsStrictOrderedRing K]

/-- C19 (`replace_prob_dist`, clipping active): every entry below `eps` becomes `eps`, every other entry is lowered by the same amount
`eps·cnt/(size − cnt)` -/
theorem replace_entries (ps : List K) (eps : K) :
    replaceProbDist ps eps = ps.map fun p =>
      if p < eps then eps
      else p - eps * ((ps.filter fun x => decide (x < eps)).length : K)
            / ((ps.length - (ps.filter fun x => decide (x < eps)).length : Nat) : K) := rfl

/-- C19 (`replace_prob_dist`, mass is moved, not created): when at least one entry is not clipped, the replaced distribution sums to
the mass of the unclipped entries, `Σ_{p ≥ eps} p = 1 − Σ_{p < eps} p` for a distribution. -/
theorem replace_sum (ps : List K) (eps : K)
    (hbig : (ps.filter fun x => decide (x < eps)).length < ps.length) :
    lsum (replaceProbDist ps eps) = lsum (ps.filter fun x => !decide (x < eps)) := by
  have hlen := List.length_eq_length_filter_add (l := ps) fun x => decide (x < eps)
  have hne : ((ps.filter fun x => !decide (x < eps)).length : K) ≠ 0 := by
    exact Nat.cast_ne_zero.mpr (by omega)
  rw [replace_entries, lsum_eq_sum, lsum_eq_sum, List.sum_map_ite, List.map_const', List.sum_replicate, sum_map_sub_const]
  simp only [decide_not, nsmul_eq_mul]
  rw [Nat.sub_eq_of_eq_add' hlen, mul_div_cancel₀ _ hne]
  ring
end clip

/-! ## `calc_fisher_matrix_total` of `matrix_util` and of `StandardQTomography` -/

/-- C19 (`calc_fisher_matrix_total`, size): a successful call returns a square matrix whose size is the
number of *variables* (length of the first gradient vector), and the three argument lists have equal length. -/
theorem fisher_total_size (pss : List (List Rat)) (gradss : List (List (List Rat))) (ws : List Rat) (eps : Rat)
    (n : Nat) (M : List (List Rat)) (h : fisherTotal pss gradss ws eps = .ok (n, M)) :
    (∃ g00 g0r gr, gradss = (g00 :: g0r) :: gr ∧ n = g00.length) ∧
      pss.length = gradss.length ∧ pss.length = ws.length := by
  unfold fisherTotal at h
  split at h
  · cases h
  rename_i h1
  split at h
  · cases h
  rename_i h2
  refine ⟨?_, not_not.mp h1, not_not.mp h2⟩
  split at h
  · cases h
  obtain _ | ⟨_ | ⟨g00, g0r⟩, gr⟩ := gradss
  · cases h
  · cases h
  · refine ⟨g00, g0r, gr, rfl, ?_⟩
    dsimp only at h
    split at h
    · injection h with h
      injection h with hn
      exact hn.symm
    · cases h

section totalValue
variable {K : Type} [Field K] [LinearOrder K] [IsStrictOrderedRing K]

/-- C19 (`calc_fisher_matrix_total`, one step of the accumulation): a distribution whose Fisher matrix has the accumulator's size adds
`w · F` to it. -/
theorem fisherAcc_step (size : Nat) (eps : K) (ps : List K) (grads : List (List K))
    (r : List (List K × List (List K))) (w : K) (ws : List K) (acc F : List (List K))
    (hF : fisher ps grads eps = .ok (size, F)) :
    fisherAcc size eps ((ps, grads) :: r) (w :: ws) acc
      = fisherAcc size eps r ws (addRows acc (scaleRows w F)) := by
  simp only [fisherAcc, hF, accumulate, bind, Except.bind, eq_self, if_true, scaleRows]

/-- C19 (`calc_fisher_matrix_total`, closed form of the loop): when every distribution's Fisher matrix has the accumulator's size, the loop
returns `acc + Σ_j w_j·F_j` (fold in list order), for any number of distributions. -/
theorem fisherAcc_value (size : Nat) (eps : K)
    (trip : List ((List K × List (List K)) × K × List (List K)))
    (h : ∀ t ∈ trip, fisher t.1.1 t.1.2 eps = .ok (size, t.2.2)) (acc : List (List K)) :
    fisherAcc size eps (trip.map (·.1)) (trip.map (·.2.1)) acc
      = .ok (trip.foldl (fun a t => addRows a (scaleRows t.2.1 t.2.2)) acc) := by
  induction trip generalizing acc with
  | nil => simp [fisherAcc]
  | cons t r ih =>
    obtain ⟨⟨ps, grads⟩, w, F⟩ := t
    simp only [List.map_cons, List.foldl_cons]
    obtain ⟨ht, hr⟩ := List.forall_mem_cons.mp h
    rw [fisherAcc_step size eps ps grads _ w _ acc F ht]
    exact ih hr _

/-- C19 (`calc_fisher_matrix_total`, value): for any number of distributions with non-negative weights whose single Fisher matrices are
`F_j` (all of the size `len(grad_prob_dists[0][0])`), the call returns `Σ_j w_j·F_j`. -/
theorem fisherTotal_value (eps : K) (g00 : List K) (g0r : List (List K)) (ps0 : List K) (w0 : K) (F0 : List (List K))
    (trip : List ((List K × List (List K)) × K × List (List K)))
    (hw : ∀ t ∈ ((ps0, g00 :: g0r), w0, F0) :: trip, ¬ t.2.1 < 0)
    (h : ∀ t ∈ ((ps0, g00 :: g0r), w0, F0) :: trip, fisher t.1.1 t.1.2 eps = .ok (g00.length, t.2.2)) :
    fisherTotal (ps0 :: trip.map (·.1.1)) ((g00 :: g0r) :: trip.map (·.1.2)) (w0 :: trip.map (·.2.1)) eps
      = .ok (g00.length, (((ps0, g00 :: g0r), w0, F0) :: trip).foldl
          (fun a t => addRows a (scaleRows t.2.1 t.2.2)) (zeroRows g00.length)) := by
  unfold fisherTotal
  have hneg : ((w0 :: trip.map (·.2.1)).any fun w => decide (w < 0)) = false := by
    change ((((ps0, g00 :: g0r), w0, F0) :: trip).map (·.2.1)).any _ = false
    rw [List.any_map, List.any_eq_false]
    exact fun t ht => Bool.eq_false_iff.mp (decide_eq_false (hw t ht))
  simp only [List.length_cons, List.length_map, ne_eq, not_true_eq_false, if_false, hneg, Bool.false_eq_true]
  have hz : (ps0 :: trip.map (·.1.1)).zip ((g00 :: g0r) :: trip.map (·.1.2))
      = (((ps0, g00 :: g0r), w0, F0) :: trip).map (·.1) := by
    rw [List.zip_cons_cons, List.zip_map']
    rfl
  have hws : w0 :: trip.map (·.2.1) = (((ps0, g00 :: g0r), w0, F0) :: trip).map (·.2.1) := rfl
  rw [hz, hws, fisherAcc_value g00.length eps _ h]

/-- C19 (`calc_fisher_matrix_total`, one distribution): the total is `0 + w·F` (special case of `fisherTotal_value`). -/
theorem fisherTotal_single (ps : List K) (g0 : List K) (gr : List (List K)) (w eps : K) (F : List (List K))
    (hw : ¬ w < 0)
    (hF : fisher ps (g0 :: gr) eps = .ok (g0.length, F)) :
    fisherTotal [ps] [g0 :: gr] [w] eps = .ok (g0.length, addRows (zeroRows g0.length) (scaleRows w F)) :=
  fisherTotal_value eps g0 gr ps w F [] (fun t ht => by rw [List.mem_singleton.mp ht]; exact hw)
    fun t ht => by rw [List.mem_singleton.mp ht]; exact hF

/-- all summands of `calc_fisher_matrix_total(var, weights)` computed: schedule `j` contributes `w_j · F_j` -/
theorem fisherQtTerms_value (matA : List (List K)) (vecB : List K) (numSched : Nat) (var ws : List K) (eps : K) (sv : Nat)
    (js : List Nat) (Fs : Nat → List (List K)) (w : Nat → K)
    (hw : ∀ j ∈ js, ws[j]? = some (w j))
    (hF : ∀ j ∈ js, fisherQt matA vecB numSched j var eps = .ok (sv, Fs j)) :
    js.mapM (fisherQtTerm matA vecB numSched var ws eps) = .ok (js.map fun j => (sv, scaleRows (w j) (Fs j))) := by
  induction js with
  | nil => rfl
  | cons j r ih =>
    obtain ⟨hwj, hwr⟩ := List.forall_mem_cons.mp hw
    obtain ⟨hFj, hFr⟩ := List.forall_mem_cons.mp hF
    have h1 : fisherQtTerm matA vecB numSched var ws eps j = .ok (sv, scaleRows (w j) (Fs j)) := by
      simp only [fisherQtTerm, hwj, hFj]
      rfl
    rw [List.mapM_cons, h1, ih hwr hFr]
    rfl

/-- C19 (`StandardQTomography.calc_fisher_matrix_total`, value): with one weight per schedule and every schedule's Fisher matrix `F_j`
(of the common size `sv`), the call returns `w_0·F_0 + w_1·F_1 + …` (python `sum`), for any number `numSched ≥ 1` of schedules. -/
theorem fisherQtTotal_value (matA : List (List K)) (vecB : List K) (numSched : Nat) (var ws : List K) (eps : K) (sv : Nat)
    (Fs : Nat → List (List K)) (w : Nat → K)
    (hw : ∀ j < numSched + 1, ws[j]? = some (w j))
    (hF : ∀ j < numSched + 1, fisherQt matA vecB (numSched + 1) j var eps = .ok (sv, Fs j)) :
    fisherQtTotal matA vecB (numSched + 1) var ws eps
      = .ok (sv, ((List.range (numSched + 1)).tail.foldl (fun acc j => addRows acc (scaleRows (w j) (Fs j)))
          (scaleRows (w 0) (Fs 0)))) := by
  unfold fisherQtTotal
  rw [fisherQtTerms_value matA vecB (numSched + 1) var ws eps sv (List.range (numSched + 1)) Fs w
    (fun j hj => hw j (List.mem_range.mp hj)) (fun j hj => hF j (List.mem_range.mp hj))]
  simp only [bind, Except.bind]
  rw [List.range_succ_eq_map]
  simp only [List.map_cons, List.map_map, sumTerms, List.tail_cons, List.foldl_map]
  rfl
end totalValue

/-! ## `calc_direct_sum` on non-square blocks; concrete instances -/

/-- C19 (`calc_direct_sum`, squareness): a block is accepted exactly when it is square. -/
theorem direct_sum_accepts_iff_square {K : Type} (k l : Nat) (B : Mat K k l) :
    (∃ b, dsCheckOne (⟨k, l, B⟩ : RBlock K) = .ok b) ↔ l = k := by
  by_cases h : l = k
  · exact ⟨fun _ => h, fun _ => ⟨_, dif_pos h⟩⟩
  · refine ⟨fun ⟨b, hb⟩ => ?_, fun h' => absurd h' h⟩
    rw [dsCheckOne, dif_neg h] at hb
    cases hb

-- two outcomes / three variables and two outcomes / one variable give 3×3 and 1×1 matrices (the size is the number of variables)
example : (fisherTotal (K := Rat) [[1/2, 1/2]] [[[1, 2, 3], [-1, -2, -3]]] [1] (1/100000000)).toOption
    = some (3, [[4, 8, 12], [8, 16, 24], [12, 24, 36]]) := by
  decide +kernel
example : (fisherTotal (K := Rat) [[1/2, 1/2]] [[[1], [-1]]] [1] (1/100000000)).toOption = some (1, [[4]]) := by
  decide +kernel
-- a weights list of the wrong length is rejected
example : (fisherTotal (K := Rat) [[1/2, 1/2]] [[[1], [-1]]] [1, 1] (1/100000000)).toOption = none := by
  decide +kernel
-- a 2×1 block is rejected
example : (dsCheck (K := Rat) [⟨2, 1, Mat.ofFn fun i _ => (i.val : Rat) + 1⟩]).toOption.isNone = true := by
  decide +kernel

-- non-vacuity: concrete instances of the hypotheses
example : (matSQmpt (K := Rat) 2 2).toList.map (·.toList) = [[1, 0, 0, 0, 0, 0], [0, 1, 0, 0, 0, 0]] := by decide +kernel
example : covExact (K := Rat) (Vec.ofFn fun i : Fin 3 => if i.val = 2 then 1/2 else 1/4) 3
    = covMat (Vec.ofFn fun i : Fin 3 => if i.val = 2 then 1/2 else 1/4) 3 := by decide +kernel
example : (fisher (K := Rat) [1/4, 3/4] [[1, 2], [-1, -2]] (1/100000000)).toOption
    = some (2, [[16/3, 32/3], [32/3, 64/3]]) := by decide +kernel
example : mseLinearExact (K := Rat) (m := 2) (k := 1)
    [(Mat.ofFn fun _ j => (j.val : Rat) + 1, Vec.ofFn fun j => if j.val = 0 then 1/4 else 3/4, 2),
     (Mat.ofFn fun _ j => if j.val = 0 then 1 else 0, Vec.ofFn fun _ => 1/2, 3)] = 17/96 := by
  decide +kernel


/-- `left_inv_spec`: a 3×2 matrix of full column rank, rank 2, and the exact inverse of `AᵀA` -/
example : (leftInv (K := Rat) (Mat.ofFn (m := 3) (n := 2) fun i j => if i.val = j.val ∨ i.val = 2 then 1 else 0) 2
    (Mat.ofFn fun i j => if i = j then 2/3 else -1/3)).toOption.map (fun L => (L.mul
      (Mat.ofFn (m := 3) (n := 2) fun i j => if i.val = j.val ∨ i.val = 2 then (1 : Rat) else 0)).toList.map (·.toList))
    = some [[1, 0], [0, 1]] := by decide +kernel
/-- `mse_linear_var_exact`, code side: the same two-schedule instance as the enumeration example gives `17/96` -/
example : mseLinearVar (K := Rat)
    (covBlocks (uniArgs [(Vec.ofFn fun j : Fin 2 => if j.val = 0 then (1/4 : Rat) else 3/4, 2), (Vec.ofFn fun _ => 1/2, 3)]))
    (Mat.ofFn (m := 1) fun _ j => if j.val = 0 then 1 else if j.val = 1 then 2 else if j.val = 2 then 1 else 0) = 17/96 := by
  decide +kernel
/-- `mse_linear_povm_qop(_exact)`: `d² = 1`, three outcomes (two explicit elements), one schedule -/
example : (mseLinearPovmQop (K := Rat) (covBlocks [⟨2, Vec.ofFn fun _ => 1/2, 2⟩])
    (Mat.ofFn (m := (3 - 1) * 1) fun i j => if i.val = j.val then 1 else 0) 1 3).toOption = some (1/4) := by decide +kernel
/-- `crb_formula` / `crb_povm_formula`: a Fisher matrix and its exact inverse -/
example : (Mat.ofFn (m := 2) (n := 2) fun i j => if i = j then (1/2 : Rat) else 0).mul
    (Mat.ofFn fun i j => if i = j then 2 else 0) = Mat.one := by decide +kernel
example : crb (K := Rat) (Mat.ofFn (m := 2) (n := 2) fun i j => if i = j then 1/2 else 0) 10 = 1/10 := by decide +kernel
example : crbPovm (K := Rat) 1 3 (Mat.ofFn fun i j => if i = j then 1/2 else 0) 10 = 2/10 := by decide +kernel
/-- `replace_noop` / clipping active: probabilities above `eps` are kept, one below is replaced and the others shifted -/
example : replaceProbDist (K := Rat) [1/4, 3/4] (1/100) = [1/4, 3/4] := by decide +kernel
example : replaceProbDist (K := Rat) [0, 1/4, 3/4] (1/100) = [1/100, 1/4 - 1/200, 3/4 - 1/200] := by decide +kernel
/-- `fisherQt_block`: two schedules with two outcomes each; schedule 1 is computed from rows 2–3 -/
example : (fisherQt (K := Rat) [[1, 0], [-1, 0], [0, 1], [0, -1]] [1/2, 1/2, 1/4, 3/4] 2 1 [0, 0] defaultEps).toOption
    = (fisher (K := Rat) [1/4, 3/4] [[0, 1], [0, -1]] defaultEps).toOption := by decide +kernel
/-- sample statistics: one repetition has no standard deviation (numpy: nan), an empty list no mean; a length-1 array broadcasts -/
example : varDdof? (K := Rat) 1 [5] = none ∧ mean? (K := Rat) [] = none ∧
    (sqDist (K := Rat) [1, 2, 3] [1]).toOption = some 5 ∧ (sqDist (K := Rat) [1, 2, 3] [1, 2]).toOption = none := by
  decide +kernel
example : (mseProbDists (K := Rat) [[[1, 2]], [[3, 4]], [[0, 0]]] [[[1, 1]], [[1, 1]], [[1, 1]]]).toOption
    = some (some (16/3), some (133/3)) := by decide +kernel

/-- `fisherTotal_value`: two distributions, weights 2 and 3 -/
example : (fisherTotal (K := Rat) [[1/2, 1/2], [1/4, 3/4]] [[[1], [-1]], [[1], [-1]]] [2, 3] defaultEps).toOption
    = some (1, [[2 * 4 + 3 * (16/3)]]) := by decide +kernel
/-- `replace_sum`: one of three entries is clipped, the sum is the mass of the other two -/
example : lsum (replaceProbDist (K := Rat) [0, 1/4, 3/4] (1/100)) = 1/4 + 3/4 := by decide +kernel
/-- `cross_covariance_zero` on two schedules: E[(f¹₀ − p¹₀)(f²₁ − p²₁)] = 0 -/
example : expectJoint (K := Rat) [(Vec.ofFn fun i : Fin 2 => if i.val = 0 then (1/4 : Rat) else 3/4, 2), (Vec.ofFn fun _ => 1/2, 3)]
    (fun cs => match cs with
      | [c1, c2] => ((empi (K := Rat) c1 2).get 0 - 1/4) * ((empi (K := Rat) c2 3).get 1 - 1/2)
      | _ => 0) = 0 := by decide +kernel

/-- `fisherQtTotal_value`: two schedules with two outcomes each, weights 2 and 3 -/
example : (fisherQtTotal (K := Rat) [[1, 0], [-1, 0], [0, 1], [0, -1]] [1/2, 1/2, 1/4, 3/4] 2 [0, 0] [2, 3] defaultEps).toOption
    = some (2, [[2 * 4, 0], [0, 3 * (16/3)]]) := by decide +kernel

end QM.C19
