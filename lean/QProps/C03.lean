import QProofs.C03
/-!
# C03 — optimisation variables ↔ objects are in one-to-one correspondence: property theorems

All statements are unbounded in the dimension `d ≥ 1`, the outcome count `m`, and the values (arbitrary,
non-physical); scalars `K` are any type with the operations used (the driver runs `K = Rat`).
The integer index maps `convert_*_index*` and `num_variables_*` are the definitions GENERATED from the Python
source (`QGen.C03`, regenerated on every run): a source edit that changes them re-opens these proofs.
`XFree d m f a` = "`a` is an entry of the object that is not implied by the built-in equality constraint".
-/
open QGen.C03
namespace QM.C03
variable {K : Type}

/-! ## clause "every index conversion … is a bijection" (generated maps, ∀ d ≥ 1, ∀ m) -/

/-- C03.4 state: var index ↦ state index maps `[0, num_variables)` into the free entries and is inverted by
the generated obj→var map. -/
theorem state_index_var_obj_var (d i : Int) (f : Bool) (h0 : 0 ≤ i) (h : i < num_variables_qst d f) :
    StateFree d f (convert_var_index_to_state_index i f) ∧
      convert_state_index_to_var_index (convert_var_index_to_state_index i f) f = i := by
  rw [num_variables_qst_eq] at h
  rw [gen_state_index_inv, gen_state_index]
  exact ⟨⟨by omega, by omega⟩, by omega⟩

/-- C03.4 state: conversely every free entry comes from exactly one variable index in range. -/
theorem state_index_obj_var_obj (d a : Int) (f : Bool) (h : StateFree d f a) :
    (0 ≤ convert_state_index_to_var_index a f ∧
        convert_state_index_to_var_index a f < num_variables_qst d f) ∧
      convert_var_index_to_state_index (convert_state_index_to_var_index a f) f = a := by
  obtain ⟨h1, h2⟩ := h
  rw [num_variables_qst_eq, gen_state_index, gen_state_index_inv]
  exact ⟨⟨by omega, by omega⟩, by omega⟩

/-- C03.4 POVM (`vecs[0].shape[0] = d²`). -/
theorem povm_index_var_obj_var (d m i : Int) (f : Bool) (hd : 0 < d) (h0 : 0 ≤ i)
    (h : i < num_variables_povmt d m f) :
    PovmFree d m f (convert_var_index_to_povm_index d m (d ^ (2:Nat)) i f) ∧
      convert_povm_index_to_var_index d m (d ^ (2:Nat))
        (convert_var_index_to_povm_index d m (d ^ (2:Nat)) i f) f = i := by
  rw [num_variables_povmt_eq] at h
  obtain ⟨⟨hq0, hqb⟩, ⟨hr0, hrn⟩, hs⟩ := divmod_v2o _ _ i (Int.pow_pos hd) h0 h
  exact ⟨⟨hq0, hqb, hr0, hrn⟩, hs⟩

/-- C03.4 POVM: conversely every free entry (element, coefficient) comes from exactly one variable index in range. -/
theorem povm_index_obj_var_obj (d m : Int) (a : Int × Int) (f : Bool) (hd : 0 < d)
    (h : PovmFree d m f a) :
    (0 ≤ convert_povm_index_to_var_index d m (d ^ (2:Nat)) a f ∧
        convert_povm_index_to_var_index d m (d ^ (2:Nat)) a f < num_variables_povmt d m f) ∧
      convert_var_index_to_povm_index d m (d ^ (2:Nat))
        (convert_povm_index_to_var_index d m (d ^ (2:Nat)) a f) f = a := by
  rw [num_variables_povmt_eq]
  obtain ⟨hb, h1, h2⟩ := divmod_o2v _ _ a.1 a.2 (Int.pow_pos hd) h.1 h.2.1 h.2.2.1 h.2.2.2
  exact ⟨hb, Prod.ext h1 h2⟩

/-- C03.4 gate. -/
theorem gate_index_var_obj_var (d i : Int) (f : Bool) (hd : 0 < d) (h0 : 0 ≤ i)
    (h : i < num_variables_qpt d f) :
    GateFree d f (convert_var_index_to_gate_index d i f) ∧
      convert_gate_index_to_var_index d (convert_var_index_to_gate_index d i f) f = i := by
  rw [num_variables_qpt_eq] at h
  obtain ⟨⟨hq0, hqb⟩, ⟨hr0, hrn⟩, hs⟩ := divmod_v2o _ _ i (Int.pow_pos hd) h0 h
  rw [gen_gate_index_inv, gen_gate_index]
  exact ⟨⟨by omega, by omega, hr0, hrn⟩, by rw [Int.add_sub_cancel]; exact hs⟩

/-- C03.4 gate: conversely every free entry (row ≥ 1 with the constraint) comes from exactly one variable index in range. -/
theorem gate_index_obj_var_obj (d : Int) (a : Int × Int) (f : Bool) (hd : 0 < d) (h : GateFree d f a) :
    (0 ≤ convert_gate_index_to_var_index d a f ∧
        convert_gate_index_to_var_index d a f < num_variables_qpt d f) ∧
      convert_var_index_to_gate_index d (convert_gate_index_to_var_index d a f) f = a := by
  rw [num_variables_qpt_eq, gen_gate_index, gen_gate_index_inv]
  obtain ⟨h1, h2, h3, h4⟩ := h
  obtain ⟨hb, e1, e2⟩ := divmod_o2v _ (d ^ (2:Nat) - (if f then 1 else 0)) (a.1 - (if f then 1 else 0)) a.2
    (Int.pow_pos hd) (by omega) (by omega) h3 h4
  exact ⟨hb, Prod.ext (by rw [e1]; exact Int.sub_add_cancel _ _) e2⟩

/-- C03.4 measurement process (`len(hss) = m`; the implied entries are the first row of the last HS). -/
theorem mprocess_index_var_obj_var (d m s i : Int) (f : Bool) (hd : 0 < d) (h0 : 0 ≤ i)
    (h : i < num_variables_qmpt d m f) :
    MpFree d m f (convert_var_index_to_mprocess_index d m s i f) ∧
      convert_mprocess_index_to_var_index d (convert_var_index_to_mprocess_index d m s i f) m s f = i := by
  have hn := Int.pow_pos (m := 2) hd
  have hle := (num_variables_qpt_range d f hd).2
  rw [num_variables_qmpt_eq, Int.mul_sub, Int.mul_one] at h
  rw [gen_mp_index_inv, gen_mp_index, MpFree_iff]
  obtain ⟨hk, ⟨hm0, hmH⟩, hs⟩ := divmod_v2o _ m i (Int.mul_pos hn hn) h0 (by omega)
  -- the index inside the block is in the range of that block's gate layout
  have hmi : i.fmod (d ^ (2:Nat) * d ^ (2:Nat)) <
      num_variables_qpt d (f && decide (i.fdiv (d ^ (2:Nat) * d ^ (2:Nat)) = m - 1)) := by
    by_cases hk : i.fdiv (d ^ (2:Nat) * d ^ (2:Nat)) = m - 1
    · rw [hk, Int.mul_sub, Int.mul_one] at hs
      simp only [hk, decide_true, Bool.and_true]; omega
    · simp only [hk, decide_false, Bool.and_false, num_variables_qpt_eq, Bool.false_eq_true, ↓reduceIte, Int.sub_zero]
      exact hmH
  obtain ⟨hfree, hinv⟩ := gate_index_var_obj_var d _ _ hd hm0 hmi
  exact ⟨⟨hk, hfree⟩, by rw [hinv]; exact hs⟩

/-- C03.4 measurement process: conversely every free entry comes from exactly one variable index in range. -/
theorem mprocess_index_obj_var_obj (d m s : Int) (a : Int × Int × Int) (f : Bool) (hd : 0 < d)
    (h : MpFree d m f a) :
    (0 ≤ convert_mprocess_index_to_var_index d a m s f ∧
        convert_mprocess_index_to_var_index d a m s f < num_variables_qmpt d m f) ∧
      convert_var_index_to_mprocess_index d m s (convert_mprocess_index_to_var_index d a m s f) f = a := by
  have hn := Int.pow_pos (m := 2) hd
  obtain ⟨⟨hk0, hkm⟩, hfree⟩ := (MpFree_iff d m f a).1 h
  obtain ⟨⟨hx0, hxb⟩, hxinv⟩ := gate_index_obj_var_obj d a.2 _ hd hfree
  have hle := (num_variables_qpt_range d (f && decide (a.1 = m - 1)) hd).2
  obtain ⟨⟨hb0, _⟩, e1, e2⟩ := divmod_o2v _ m a.1 _ (Int.mul_pos hn hn) hk0 hkm hx0 (Int.lt_of_lt_of_le hxb hle)
  rw [gen_mp_index, gen_mp_index_inv, e1, e2, hxinv, num_variables_qmpt_eq]
  refine ⟨⟨hb0, ?_⟩, rfl⟩
  by_cases hk : a.1 = m - 1
  · simp only [hk, decide_true, Bool.and_true] at hxb ⊢
    exact Int.add_lt_add_left hxb _
  · exact Int.lt_of_lt_of_le (lin_lt _ a.1 _ (m - 1) (Int.mul_pos hn hn) (Int.lt_of_lt_of_le hxb hle) (by omega))
      (Int.le_add_of_nonneg_right (num_variables_qpt_range d f hd).1)

/-! ## clause "var → object → var", "object → var → object", stacked forms, length = num_variables -/

/-- C03.1 state: var → vec → var is the identity, both flags, any values. -/
theorem state_var_roundtrip (s : K) (var : List K) (f : Bool) :
    varOfVec (vecOfVar s var f) f = some var := by
  cases f <;> rfl

/-- C03.1 state: vec → var → vec reproduces the vec exactly when the flag is off or the implied first
coefficient already is `s = 1/√d`. -/
theorem state_obj_roundtrip (s : K) (vec var : List K) (f : Bool) (h : varOfVec vec f = some var) :
    vecOfVar s var f = vec ↔ (f = true → vec.head? = some s) := by
  cases f
  · simp [varOfVec] at h; simp [vecOfVar, h]
  · cases vec with
    | nil => simp [varOfVec] at h
    | cons a t =>
      simp [varOfVec] at h; subst h
      simp [vecOfVar, eq_comm]

/-- C03.3 state: a variable vector of the generated `num_variables_qst` length gives a vec of length `d²`
(the stacked vector of a state is its vec). -/
theorem state_length (d : Nat) (s : K) (var : List K) (f : Bool) (hd : 0 < d)
    (h : (var.length : Int) = num_variables_qst d f) : (vecOfVar s var f).length = d ^ 2 := by
  have hl := (nv_qst d var.length f).1 h
  cases f <;> simpa [vecOfVar] using hl

/-- C03.1–3 gate: for a variable vector of the generated `num_variables_qpt` length: `convert_var_to_hs` succeeds with a
`d² × d²` array, `convert_hs_to_var` gives the vector back, the stacked form is the flattened HS and
`convert_stacked_vector_to_var` inverts it. -/
theorem gate_var_roundtrip [Zero K] [One K] (d : Nat) (var : List K) (f : Bool) (hd : 0 < d)
    (h : (var.length : Int) = num_variables_qpt d f) :
    ∃ hs, hsOfVar d var f = some hs ∧ hs.length = d ^ 2 ∧ (∀ r ∈ hs, r.length = d ^ 2) ∧
      varOfHs hs f = some var ∧ gateStackedOfVar d var f = some hs.flatten ∧
      gateVarOfStacked d hs.flatten f = var := by
  have hl := (nv_qpt d var.length f).1 h
  have hst := gateStackedOfVar_some d var f hd
  cases f
  · obtain ⟨L, rfl, hLl, hreg⟩ := exists_regular (d ^ 2) (d ^ 2) var hl
    exact ⟨L, hsOfVar_false_flatten d L hd hLl hreg, hLl, hreg, rfl, hst, rfl⟩
  · have hl : var.length = (d ^ 2 - 1) * d ^ 2 := by
      have := pred_mul_add d hd
      rw [if_pos rfl] at hl; omega
    obtain ⟨t, rfl, htl, hreg⟩ := exists_regular _ _ var hl
    have he : (e0 (1:K) (d ^ 2)).length = d ^ 2 := e0_length _ _ (Nat.pow_pos hd)
    exact ⟨_, hsOfVar_true_flatten d t hd htl hreg, by rw [List.length_cons, htl]; exact Nat.sub_add_cancel (Nat.pow_pos hd),
      List.forall_mem_cons.2 ⟨he, hreg⟩, rfl, hst, List.drop_left' he⟩

/-- C03.1 gate: HS → var → HS; `len(var) = num_variables`; the HS is reproduced exactly when the flag is off or
its first row is `e₀` (the built-in TP constraint). -/
theorem gate_obj_roundtrip [Zero K] [One K] (d : Nat) (hs : List (List K)) (f : Bool) (hd : 0 < d)
    (hl : hs.length = d ^ 2) (hr : ∀ r ∈ hs, r.length = d ^ 2) :
    ∃ var, varOfHs hs f = some var ∧ (var.length : Int) = num_variables_qpt d f ∧
      (hsOfVar d var f = some hs ↔ (f = true → hs.head? = some (e0 1 (d ^ 2)))) := by
  cases f
  · refine ⟨_, rfl, (nv_qpt d _ false).2 (by rw [flatten_length_of _ _ hr, hl]; rfl), ?_⟩
    simp [hsOfVar_false_flatten d hs hd hl hr]
  · cases hs with
    | nil => exact absurd hl (Nat.ne_of_lt (Nat.pow_pos hd))
    | cons a t =>
      have ht : ∀ r ∈ t, r.length = d ^ 2 := fun r hr' => hr r (List.mem_cons_of_mem _ hr')
      have htl : t.length = d ^ 2 - 1 := by rw [List.length_cons] at hl; omega
      refine ⟨_, rfl, (nv_qpt d _ true).2 (by rw [if_pos rfl, flatten_length_of _ _ ht, htl]; exact pred_mul_add d hd), ?_⟩
      simp [hsOfVar_true_flatten d t hd htl ht, eq_comm]

/-- C03.1–3 POVM (`m ≥ 2` outcomes with the flag, `m ≥ 1` without): var → vecs gives `m` vectors of length `d²`,
vecs → var gives the vector back, stacked = `hstack(vecs)`, stacked → var inverts it. -/
theorem povm_var_roundtrip [Add K] [Sub K] [Zero K] (d m : Nat) (sq : K) (var : List K) (f : Bool)
    (hd : 0 < d) (hm : (if f then 2 else 1) ≤ m)
    (h : (var.length : Int) = num_variables_povmt d m f) :
    ∃ vecs, vecsOfVar d sq var f = some vecs ∧ vecs.length = m ∧ (∀ r ∈ vecs, r.length = d ^ 2) ∧
      varOfVecs vecs f = some var ∧ povmStackedOfVar d sq var f = some vecs.flatten ∧
      povmVarOfStacked d sq vecs.flatten f = some var := by
  cases f
  · obtain ⟨L, rfl, rfl, hreg⟩ := exists_regular _ m var ((nv_povmt d m var.length false).1 h)
    exact ⟨L, vecsOfVar_false_flatten d sq L hd hreg, rfl, hreg, varOfVecs_false L (List.ne_nil_of_length_pos hm), rfl, rfl⟩
  · obtain ⟨k, rfl, hl⟩ := nv_povmt_true d m _ hm h
    obtain ⟨L, rfl, hLl, hreg⟩ := exists_regular _ _ var hl
    have hreg2 := List.forall_mem_append.2 ⟨hreg, List.forall_mem_singleton.2 (povmLast_length d sq L hd hreg)⟩
    have hv := vecsOfVar_true_flatten d sq L hd hreg
    have hvv := varOfVecs_concat L (povmLast d sq L) (List.ne_nil_of_length_eq_add_one hLl)
    refine ⟨_, hv, by rw [List.length_append, hLl]; rfl, hreg2, hvv, ?_, ?_⟩
    · rw [povmStackedOfVar, if_pos rfl, hv]; rfl
    · rw [povmVarOfStacked, if_pos rfl, vecsOfVar_false_flatten d sq _ hd hreg2]; exact hvv

/-- C03.1 POVM: vecs → var → vecs; `len(var) = num_variables`; reproduced exactly when the flag is off or the last
element is the implied one `√d e₀ − Σ others`. -/
theorem povm_obj_roundtrip [Add K] [Sub K] [Zero K] (d m : Nat) (sq : K) (vecs : List (List K)) (f : Bool)
    (hd : 0 < d) (hm : (if f then 2 else 1) ≤ m) (hl : vecs.length = m)
    (hr : ∀ r ∈ vecs, r.length = d ^ 2) :
    ∃ var, varOfVecs vecs f = some var ∧ (var.length : Int) = num_variables_povmt d m f ∧
      (vecsOfVar d sq var f = some vecs ↔
        (f = true → vecs.getLast? = some (povmLast d sq vecs.dropLast))) := by
  subst hl
  cases f
  · refine ⟨_, varOfVecs_false _ (List.ne_nil_of_length_pos hm),
      (nv_povmt d _ _ false).2 (by rw [flatten_length_of _ _ hr]; rfl), ?_⟩
    simp [vecsOfVar_false_flatten d sq _ hd hr]
  · have hnil : vecs ≠ [] := List.ne_nil_of_length_pos (Nat.lt_of_lt_of_le Nat.two_pos hm)
    obtain ⟨pre, lst, rfl⟩ : ∃ pre lst, vecs = pre ++ [lst] := ⟨_, _, (List.dropLast_concat_getLast hnil).symm⟩
    obtain ⟨hprer, _⟩ := List.forall_mem_append.1 hr
    rw [List.length_append] at hm
    refine ⟨_, varOfVecs_concat _ _ (List.ne_nil_of_length_pos (Nat.lt_of_succ_lt_succ hm)), (nv_povmt d _ _ true).2
      (by rw [if_pos rfl, flatten_length_of _ _ hprer, List.length_append, List.length_singleton, Nat.succ_mul]), ?_⟩
    simp [vecsOfVar_true_flatten d sq _ hd hprer, eq_comm]

/-- C03.1–3 measurement process (`m ≥ 1`): for a variable vector of the generated `num_variables_qmpt` length:
stacked vector and `hss` exist, `hss` is the reshape of the stacked vector (`m` arrays of `d⁴` entries),
`convert_hss_to_var` and `convert_stacked_vector_to_var` give the vector back. -/
theorem mp_var_roundtrip [Add K] [Sub K] [Zero K] [One K] (d m : Nat) (var : List K) (f : Bool)
    (hd : 0 < d) (hm : 1 ≤ m) (h : (var.length : Int) = num_variables_qmpt d m f) :
    ∃ st hss, mpStackedOfVar d var f = some st ∧ hssOfVar d var f = some hss ∧ hss.flatten = st ∧
      hss.length = m ∧ (∀ r ∈ hss, r.length = hsSize d) ∧
      varOfHss d hss f = some var ∧ mpVarOfStacked d st f = some var := by
  have hl := (nv_qmpt d m var.length f).1 h
  cases f
  · obtain ⟨L, rfl, rfl, hreg⟩ := exists_regular _ m var hl
    exact ⟨_, L, mpStackedOfVar_false d _ hd, hssOfVar_false_flatten d L hd hreg, rfl, rfl, hreg, rfl, rfl⟩
  · obtain ⟨k, rfl, hl, hple⟩ := nv_qmpt_true d m _ hd hm h
    have hstl := mpStacked_length d k var hd hl
    have hback := mpVarOfStacked_true d k _ hd hstl
    have hdi := delete_insert var (mpLast d k var) (hsSize d * k) hple
    rw [mpLast_length d k var hd hple] at hdi
    rw [hdi] at hback
    exact ⟨_, _, mpStackedOfVar_true d k var hd hl, hssOfVar_true d k var hd hl, rows_flatten _ _ _ hstl,
      rows_length _ _ _, rows_row_length _ _ _ hstl, (varOfHss_rows d (k + 1) _ true hd hm hstl).trans hback, hback⟩

/-! ## clause "… points at the entry holding that variable's value" -/

/-- C03.4 state: the generated var→state index points at the entry of `vec` that holds variable `i`. -/
theorem state_index_points_at (s : K) (var : List K) (f : Bool) (i : Nat) :
    (vecOfVar s var f)[(convert_var_index_to_state_index i f).toNat]? = var[i]? := by
  rw [gen_state_index]
  cases f
  · simp [vecOfVar]
  · rw [if_pos rfl, ← Int.natCast_one, ← Int.natCast_add, Int.toNat_natCast]; rfl

/-- C03.4 gate: the generated var→gate index (row, col), flattened row-major, points at the entry of the
stacked vector (= flattened HS) that holds variable `i`. -/
theorem gate_index_points_at [Zero K] [One K] (d : Nat) (var st : List K) (f : Bool) (i : Nat)
    (hd : 0 < d) (hst : gateStackedOfVar d var f = some st) :
    st[(flat2 ((d : Int) ^ (2:Nat)) (convert_var_index_to_gate_index d i f)).toNat]? = var[i]? := by
  rw [gateStackedOfVar_some d var f hd] at hst
  cases hst
  rw [gate_flat_toNat]
  cases f
  · rfl
  · have he := e0_length (1:K) (d ^ 2) (Nat.pow_pos hd)
    rw [if_pos rfl, if_pos rfl, List.getElem?_append_right (Nat.le_trans (Nat.le_of_eq he) (Nat.le_add_right _ _)), he,
      Nat.add_sub_cancel_left]

/-- C03.4 POVM: the generated var→POVM index (element, entry), flattened, points at the entry of the stacked
vector that holds variable `i`. -/
theorem povm_index_points_at [Add K] [Sub K] [Zero K] (d m : Nat) (sq : K) (var st : List K) (f : Bool)
    (i : Nat) (hd : 0 < d) (hi : i < var.length) (hst : povmStackedOfVar d sq var f = some st) :
    st[(flat2 ((d : Int) ^ (2:Nat))
      (convert_var_index_to_povm_index d m ((d : Int) ^ (2:Nat)) i f)).toNat]? = var[i]? := by
  obtain ⟨last, rfl⟩ := povm_stacked_prefix d sq var st f hst
  rw [flat2_povm_index, Int.toNat_natCast, List.getElem?_append_left hi]

/-- C03.4 measurement process: the generated var→mprocess index (outcome, row, col), flattened, points at the
entry of the stacked vector that holds variable `i` (for every variable vector of the generated length). -/
theorem mprocess_index_points_at [Add K] [Sub K] [Zero K] [One K] (d m : Nat) (s : Int) (var st : List K)
    (f : Bool) (i : Nat) (hd : 0 < d) (hm : 1 ≤ m)
    (hlen : (var.length : Int) = num_variables_qmpt d m f) (hi : i < var.length)
    (hst : mpStackedOfVar d var f = some st) :
    st[(flat3 ((d : Int) ^ (2:Nat)) (convert_var_index_to_mprocess_index d m s i f)).toNat]? = var[i]? := by
  rw [flat3_mp_index]
  cases f
  · rw [mpStackedOfVar_false d var hd] at hst
    cases hst
    simp
  · obtain ⟨j, rfl, hl, hple⟩ := nv_qmpt_true d m _ hd hm hlen
    rw [mpStackedOfVar_true d j var hd hl] at hst
    cases hst
    rw [← getElem?_insert var (mpLast d j var) (hsSize d * j) i hple, mpLast_length d j var hd hple]
    congr 1
    have hiff := fdiv_eq_last_iff d j i hd (by omega)
    by_cases h : i < hsSize d * j
    · rw [if_pos h, if_neg (fun hc => Nat.not_le.2 h (hiff.1 hc.2)), Int.add_zero, Int.toNat_natCast]
    · rw [if_neg h, if_pos ⟨rfl, hiff.2 (Nat.le_of_not_lt h)⟩, ← natCast_sq, ← Int.natCast_add, Int.toNat_natCast]

/-! ## clause "object → var → object" for the measurement process (the implied row lies inside the stacked vector) -/

/-- C03.1 measurement process, object → var → object on stacked vectors: a stacked vector of `m ≥ 1` HS matrices is
reproduced from its variables exactly when the first row of its last HS is the implied one
`e₀ − Σ (first rows of the other HS)` (the built-in constraint); and `len(var) = num_variables`. -/
theorem mp_obj_roundtrip [Add K] [Sub K] [Zero K] [One K] (d m : Nat) (st : List K) (hd : 0 < d) (hm : 1 ≤ m)
    (h : st.length = m * hsSize d) :
    ∃ var, mpVarOfStacked d st true = some var ∧ (var.length : Int) = num_variables_qmpt d m true ∧
      (mpStackedOfVar d var true = some st ↔
        (st.drop (hsSize d * (m - 1))).take (d ^ 2) = mpLast d (m - 1) var) := by
  obtain ⟨k, rfl⟩ := Nat.exists_eq_add_of_le' hm
  have hle : hsSize d * k + d ^ 2 ≤ st.length := by
    have := sq_le_hsSize d
    rw [h, Nat.succ_mul, Nat.mul_comm]; omega
  have hvl := (length_delete st _ _ hle).trans h
  refine ⟨_, mpVarOfStacked_true d k st hd h, (nv_qmpt d (k + 1) _ true).2 hvl, ?_⟩
  rw [mpStackedOfVar_true d k _ hd hvl, Option.some.injEq, Nat.add_sub_cancel]
  exact insert_delete_iff st _ _ _ hle

/-- C03.1 the same on the list of HS matrices (`convert_hss_to_var` / `convert_var_to_hss`). -/
theorem mp_hss_roundtrip [Add K] [Sub K] [Zero K] [One K] (d m : Nat) (hss : List (List K)) (hd : 0 < d)
    (hm : 1 ≤ m) (hl : hss.length = m) (hr : ∀ r ∈ hss, r.length = hsSize d) :
    ∃ var, varOfHss d hss true = some var ∧ (var.length : Int) = num_variables_qmpt d m true ∧
      (hssOfVar d var true = some hss ↔
        (hss.flatten.drop (hsSize d * (m - 1))).take (d ^ 2) = mpLast d (m - 1) var) := by
  have hfl : hss.flatten.length = m * hsSize d := by rw [flatten_length_of _ hss hr, hl]
  have hrows : rows (hsSize d) m hss.flatten = hss := by rw [← hl]; exact rows_of_flatten _ hss hr
  obtain ⟨var, hv, hlen, hiff⟩ := mp_obj_roundtrip d m hss.flatten hd hm hfl
  refine ⟨var, ?_, hlen, ?_⟩
  · rw [← hrows, varOfHss_rows d m hss.flatten true hd hm hfl]; exact hv
  · obtain ⟨k, rfl, hvl, _⟩ := nv_qmpt_true d m _ hd hm hlen
    rw [← hiff, hssOfVar_true d k var hd hvl, mpStackedOfVar_true d k var hd hvl, Option.some.injEq, Option.some.injEq]
    constructor
    · intro h; rw [← h, rows_flatten _ _ _ (mpStacked_length d k var hd hvl)]
    · intro h; rw [h, hrows]

/-! ## `calc_gradient`: the exact statement that holds -/

/-- C03.4 state: `calc_gradient(i)` is the derivative of `var ↦ vec` in coordinate `i`, both flags:
`vec(var + t·e_i) = vec(var) + t·gradient`. -/
theorem state_gradient_is_derivative [CommRing K] (d : Nat) (s t : K) (v : List K) (f : Bool) (i : Nat)
    (hd : 0 < d) (hlen : (v.length : Int) = num_variables_qst d f) (g : List K)
    (hg : gradState d i f = some g) :
    vecOfVar s (perturb v i t) f = vadd (vecOfVar s v f) (lsmul t g) := by
  have hl := (nv_qst d v.length f).1 hlen
  obtain ⟨p, hp, hg⟩ := Option.bind_eq_some_iff.1 hg
  cases hg
  rw [natOf?_eq_some _ _ _ hp, gen_state_index, ← hl]
  cases f
  · simpa [vecOfVar] using append_perturb [] v i t
  · simpa [vecOfVar, Nat.add_comm] using append_perturb [s] v i t

/-- C03.4 gate: the stacked vector (flattened HS) of `var + t·e_i` is the stacked vector of `var` plus `t` times the
one-hot vector at the flat position of the generated var→gate index — the vector `calc_gradient(i)` holds. -/
theorem gate_gradient_is_derivative [CommRing K] (d : Nat) (t : K) (v st : List K) (f : Bool) (i : Nat)
    (hd : 0 < d) (hst : gateStackedOfVar d v f = some st) :
    gateStackedOfVar d (perturb v i t) f =
      some (vadd st (lsmul t (oneHot st.length (if f then d ^ 2 + i else i)))) := by
  rw [gateStackedOfVar_some d v f hd] at hst
  cases hst
  rw [gateStackedOfVar_some d _ f hd, append_perturb, List.length_append]
  cases f
  · simp
  · rw [if_pos rfl, if_pos rfl, e0_length _ _ (Nat.pow_pos hd)]

/-- C03.4 the model's gate gradient (what `calc_gradient(i).to_stacked_vector()` is compared with) is that one-hot vector. -/
theorem gate_gradient_onehot [Zero K] [One K] (d i : Nat) (f : Bool) (hd : 0 < d)
    (hi : (i : Int) < num_variables_qpt d f) :
    (gradGate d i f : Option (List K)) = some (oneHot (hsSize d) (if f then d ^ 2 + i else i)) := by
  obtain ⟨⟨hr1, hrn, hc0, hcn⟩, _⟩ :=
    gate_index_var_obj_var (d : Int) (i : Int) f (Int.natCast_pos.2 hd) (Int.natCast_nonneg i) hi
  have hr0 : 0 ≤ (convert_var_index_to_gate_index d i f).1 := by split at hr1 <;> omega
  unfold gradGate
  dsimp only
  rw [natOf?_of_range _ (d ^ 2) hr0 (by rw [natCast_sq]; exact hrn),
    natOf?_of_range _ (d ^ 2) hc0 (by rw [natCast_sq]; exact hcn)]
  simp only [Option.bind_eq_bind, Option.bind_some, toNat_lin _ _ (d ^ 2) hr0 hc0, natCast_sq]
  rw [← gate_flat_toNat]; rfl

/-- C03.4 concrete witness that the one-hot `calc_gradient` is not the full derivative when the constraint is built in
(the implied last element changes by `−t·e_{i mod d²}`, see `povm_stacked_derivative`),
`d = 1`, two outcomes, `var = [5]`, `t = 1`: the stacked vector moves from `[5, −4]` to `[6, −5]`,
`vec(var) + gradient = [6, −4]`. -/
theorem povm_gradient_is_not_derivative_on_implied_block :
    povmStackedOfVar 1 (1 : Rat) [5] true = some [5, -4] ∧
    povmStackedOfVar 1 (1 : Rat) (perturb [5] 0 1) true = some [6, -5] ∧
    (gradPovm 1 2 0 true : Option (List Rat)) = some [1, 0] ∧
    vadd [5, -4] (lsmul (1 : Rat) [1, 0]) = [6, -4] := by
  decide +kernel

/-- C03.4 state: `calc_gradient(i)` is the indicator of the entry the generated var→state index points at. -/
theorem state_gradient_onehot_at_index [Zero K] [One K] (d i : Nat) (f : Bool)
    (hi : (i : Int) < num_variables_qst d f) :
    (gradState d i f : Option (List K)) =
      some (oneHot (d ^ 2) (convert_var_index_to_state_index i f).toNat) := by
  obtain ⟨⟨h1, h2⟩, _⟩ := state_index_var_obj_var (d : Int) (i : Int) f (Int.natCast_nonneg i) hi
  unfold gradState
  rw [natOf?_of_range _ _ (by split at h1 <;> omega) (by rw [natCast_sq]; exact h2)]
  rfl

/-- C03.4 POVM: `calc_gradient(i)` is the indicator of the entry (element, coefficient) the generated index points at. -/
theorem povm_gradient_onehot_at_index [Zero K] [One K] (d m i : Nat) (f : Bool) (hd : 0 < d)
    (hi : (i : Int) < num_variables_povmt d m f) :
    (gradPovm d m i f : Option (List K)) =
      some (oneHot (m * d ^ 2) (flat2 ((d : Int) ^ (2:Nat))
        (convert_var_index_to_povm_index d m ((d : Int) ^ (2:Nat)) i f)).toNat) := by
  obtain ⟨⟨hk0, hkm, hj0, hjn⟩, _⟩ :=
    povm_index_var_obj_var (d : Int) (m : Int) (i : Int) f (Int.natCast_pos.2 hd) (Int.natCast_nonneg i) hi
  unfold gradPovm
  simp only [natCast_sq] at hjn ⊢
  rw [natOf?_of_range _ m hk0 (by split at hkm <;> omega), natOf?_of_range _ (d ^ 2) hj0 (by rw [natCast_sq]; exact hjn)]
  simp only [Option.bind_eq_bind, Option.bind_some, flat2, toNat_lin _ _ (d ^ 2) hk0 hj0, natCast_sq]

/-- C03.4 gate, in the same form. -/
theorem gate_gradient_onehot_at_index [Zero K] [One K] (d i : Nat) (f : Bool) (hd : 0 < d)
    (hi : (i : Int) < num_variables_qpt d f) :
    (gradGate d i f : Option (List K)) =
      some (oneHot (hsSize d) (flat2 ((d : Int) ^ (2:Nat)) (convert_var_index_to_gate_index d i f)).toNat) := by
  rw [gate_flat_toNat]; exact gate_gradient_onehot d i f hd hi

/-- C03.4 measurement process: `calc_gradient(i)` is the indicator of the entry (outcome, row, col) the generated index points at. -/
theorem mprocess_gradient_onehot_at_index [Zero K] [One K] (d m i : Nat) (f : Bool) (hd : 0 < d)
    (hi : (i : Int) < num_variables_qmpt d m f) :
    (gradMp d m i f : Option (List K)) =
      some (oneHot (m * hsSize d) (flat3 ((d : Int) ^ (2:Nat))
        (convert_var_index_to_mprocess_index d m ((d : Int) ^ (2:Nat)) i f)).toNat) := by
  obtain ⟨⟨hk0, hkm, hr1, hrn, hc0, hcn⟩, _⟩ := mprocess_index_var_obj_var (d : Int) m ((d : Int) ^ (2:Nat)) i f
    (Int.natCast_pos.2 hd) (Int.natCast_nonneg i) hi
  have hr0 : 0 ≤ (convert_var_index_to_mprocess_index d m ((d : Int) ^ (2:Nat)) i f).2.1 := by
    split at hr1 <;> omega
  unfold gradMp
  simp only [natCast_sq]
  rw [natOf?_of_range _ m hk0 hkm, natOf?_of_range _ (d ^ 2) hr0 (by rw [natCast_sq]; exact hrn),
    natOf?_of_range _ (d ^ 2) hc0 (by rw [natCast_sq]; exact hcn)]
  simp only [Option.bind_eq_bind, Option.bind_some, flat3]
  rw [Nat.add_assoc, Int.add_assoc, toNat_lin _ _ (d ^ 2) hr0 hc0, toNat_lin _ _ (hsSize d) hk0
      (Int.add_nonneg (Int.mul_nonneg hr0 (Int.natCast_nonneg _)) hc0), natCast_sq, natCast_hsSize]

/-- C03.4 POVM with the built-in constraint — the exact derivative of var ↦ stacked vector in coordinate `i`:
the free entry `i` moves by `t` (the one-hot `calc_gradient`) AND the implied last element moves by `−t` in
coefficient `i mod d²` (which `calc_gradient` does not contain). -/
theorem povm_stacked_derivative [CommRing K] (d m : Nat) (sq t : K) (v st : List K) (i : Nat) (hd : 0 < d)
    (hm : 2 ≤ m) (hlen : (v.length : Int) = num_variables_povmt d m true) (hi : i < v.length)
    (hst : povmStackedOfVar d sq v true = some st) :
    povmStackedOfVar d sq (perturb v i t) true =
      some (vadd st (lsmul t (oneHot v.length i) ++ lsmul (-t) (oneHot (d ^ 2) (i % d ^ 2)))) := by
  obtain ⟨k, rfl, hl⟩ := nv_povmt_true d m _ hm hlen
  have hpl : (perturb v i t).length = (k + 1) * d ^ 2 := by rw [perturb_length, hl]
  rw [povmStacked_explicit d k sq v hd hl] at hst
  injection hst with hst
  subst hst
  rw [povmStacked_explicit d k sq _ hd hpl]
  congr 1
  rw [vadd_append _ _ _ _ (by rw [lsmul_length, oneHot_length])]
  congr 1
  unfold povmLast
  rw [rows_eq_map, stridedSum_perturb (d ^ 2) (d ^ 2) (k + 1) (Nat.le_refl _) v i t (by rw [hl, Nat.mul_comm]),
    ← rows_eq_map, if_pos (by rw [Nat.mul_comm, ← hl]; exact hi), vsub_vadd_smul]

/-- C03.4 measurement process with the built-in constraint — the exact derivative of var ↦ stacked vector in coordinate `i`:
the free entry moves by `t` (the one-hot `calc_gradient`), and, when variable `i` lies in the FIRST ROW of a non-last HS matrix
(`i < d⁴(m−1)`, `i mod d⁴ < d²`), the implied first row of the last HS moves by `−t` in column `i mod d⁴`; otherwise nothing else moves. -/
theorem mprocess_stacked_derivative [CommRing K] (d m : Nat) (t : K) (v st : List K) (i : Nat) (hd : 0 < d) (hm : 1 ≤ m)
    (hlen : (v.length : Int) = num_variables_qmpt d m true)
    (hst : mpStackedOfVar d v true = some st) :
    mpStackedOfVar d (perturb v i t) true =
      some (vadd st
        ((lsmul t (oneHot v.length i)).take (hsSize d * (m - 1)) ++
          lsmul (-t) (if i < hsSize d * (m - 1) ∧ i % hsSize d < d ^ 2 then oneHot (d ^ 2) (i % hsSize d)
                      else List.replicate (d ^ 2) 0) ++
          (lsmul t (oneHot v.length i)).drop (hsSize d * (m - 1)))) := by
  obtain ⟨k, rfl, hl, hple⟩ := nv_qmpt_true d m _ hd hm hlen
  rw [mpStackedOfVar_true d k v hd hl] at hst
  cases hst
  rw [mpStackedOfVar_true d k _ hd (by rw [perturb_length]; exact hl), Nat.add_sub_cancel]
  have hlastl := mpLast_length d k v hd hple
  unfold mpLast at hlastl ⊢
  rw [ite_oneHot, firstRowSum_eq_colSum, stridedSum_perturb _ _ k (sq_le_hsSize d) v i t hple, ← firstRowSum_eq_colSum,
    vsub_vadd_smul]
  unfold perturb
  rw [take_vadd, drop_vadd]
  have htl : (v.take (hsSize d * k)).length = ((lsmul t (oneHot v.length i : List K)).take (hsSize d * k)).length := by
    rw [List.length_take, List.length_take, lsmul_length, oneHot_length]
  simp only [List.append_assoc]
  rw [vadd_append _ _ _ _ htl, vadd_append _ _ _ _ (by rw [hlastl, lsmul_length, apply_ite List.length, oneHot_length, List.length_replicate, ite_self])]

/-- C03.4 without the built-in constraint the stacked vector IS the variable vector (POVM, m-process) — definitional in the model
(`…StackedOfVar … false = some var`), recorded only to complete the case split of `povm_stacked_derivative` / `mprocess_stacked_derivative`. -/
theorem stacked_derivative_flag_off [CommRing K] (d : Nat) (sq t : K) (v : List K) (i : Nat) (hd : 0 < d) :
    povmStackedOfVar d sq (perturb v i t) false = some (vadd v (lsmul t (oneHot v.length i))) ∧
    mpStackedOfVar d (perturb v i t) false = some (vadd v (lsmul t (oneHot v.length i))) := by
  exact ⟨rfl, mpStackedOfVar_false d _ hd⟩

example : (gradMp 1 2 0 true : Option (List Rat)) = some [1, 0] := by decide +kernel
example : (((([5] : List Rat)).length : Int) = num_variables_povmt 1 2 true) ∧
    povmStackedOfVar 1 (1 : Rat) [5] true = some [5, -4] := by decide +kernel
example : (((([3] : List Rat)).length : Int) = num_variables_qmpt 1 2 true) ∧
    mpStackedOfVar 1 ([3] : List Rat) true = some [3, -2] ∧
    mpStackedOfVar 1 (perturb ([3] : List Rat) 0 1) true = some [4, -3] := by decide +kernel

/-! ## further cases of the clauses above: flag resolution of `generate_from_var`, variables of arbitrary objects, accepted lengths -/

/-- C03.1 flag resolution of `generate_from_var` (base class and the MProcess override): an explicitly requested parametrisation —
`True` or `False` — is used as given; only `None` falls back to the template object's flag. NOTE: the generated definition is a fixed
template that the translator emits only after matching the source expression (`harness/c03.py:flag_fragment`); a source edit makes the
TRANSLATOR fail (broken obligation) rather than this proof — the content is the matcher plus the `gen_flag` correspondence. -/
theorem generate_from_var_flag_resolution (template b : Bool) :
    resolveFlag template (some b) = b ∧ resolveFlag template none = template ∧
    resolveFlagMp template (some b) = b ∧ resolveFlagMp template none = template := by
  simp [resolveFlag, resolveFlagMp, generate_from_var_flag, generate_from_var_flag_mprocess]

example : resolveFlag true (some false) = false ∧ resolveFlagMp true none = true := by decide

/-- C03.3 state: a vec of length `d²` always has a variable vector, of the generated `num_variables_qst` length (both flags). -/
theorem state_to_var_length (d : Nat) (vec : List K) (f : Bool) (hd : 0 < d) (hl : vec.length = d ^ 2) :
    ∃ var, varOfVec vec f = some var ∧ (var.length : Int) = num_variables_qst d f := by
  cases f
  · exact ⟨vec, rfl, (nv_qst d _ false).2 hl⟩
  · cases vec with
    | nil => exact absurd hl (Nat.ne_of_lt (Nat.pow_pos hd))
    | cons a t =>
      exact ⟨t, rfl, (nv_qst d _ true).2 hl⟩

/-- C03.1/3 measurement process WITHOUT the built-in constraint: object → var → object is the identity on every list of `m ≥ 1`
HS matrices and `len(var) = num_variables_qmpt` (the flag-on case is `mp_hss_roundtrip`). -/
theorem mp_hss_roundtrip_flag_off [Add K] [Sub K] [Zero K] [One K] (d m : Nat) (hss : List (List K)) (hd : 0 < d)
    (hm : 1 ≤ m) (hl : hss.length = m) (hr : ∀ r ∈ hss, r.length = hsSize d) :
    ∃ var, varOfHss d hss false = some var ∧ (var.length : Int) = num_variables_qmpt d m false ∧
      hssOfVar d var false = some hss ∧ mpStackedOfVar d var false = some hss.flatten ∧
      mpVarOfStacked d hss.flatten false = some var := by
  exact ⟨_, rfl, (nv_qmpt d m _ false).2 (by rw [flatten_length_of _ hss hr, hl]; rfl),
    hssOfVar_false_flatten d hss hd hr, mpStackedOfVar_false d _ hd, rfl⟩

/-- C03.2 gate: `convert_stacked_vector_to_var` on the stacked vector of ANY `d² × d²` HS array is `convert_hs_to_var` of it
(not only on stacked vectors that came from a variable vector). -/
theorem gate_stacked_to_var_any [Zero K] [One K] (d : Nat) (hs : List (List K)) (f : Bool) (hd : 0 < d)
    (hl : hs.length = d ^ 2) (hr : ∀ r ∈ hs, r.length = d ^ 2) :
    varOfHs hs f = some (gateVarOfStacked d hs.flatten f) := by
  cases f
  · rfl
  · cases hs with
    | nil => exact absurd hl (Nat.ne_of_lt (Nat.pow_pos hd))
    | cons a t => exact congrArg some (List.drop_left' (hr a List.mem_cons_self)).symm

/-- C03.2 POVM: `convert_stacked_vector_to_var` on the stacked vector of ANY list of `m` vectors of length `d²`
(`m ≥ 2` with the constraint, `m ≥ 1` without) is `convert_vecs_to_var` of it. -/
theorem povm_stacked_to_var_any [Add K] [Sub K] [Zero K] (d m : Nat) (sq : K) (vecs : List (List K)) (f : Bool)
    (hd : 0 < d) (hm : 1 ≤ m) (hl : vecs.length = m) (hr : ∀ r ∈ vecs, r.length = d ^ 2) :
    povmVarOfStacked d sq vecs.flatten f = varOfVecs vecs f := by
  cases f
  · obtain ⟨k, rfl⟩ := Nat.exists_eq_add_of_le' hm
    exact (varOfVecs_false _ (List.ne_nil_of_length_eq_add_one hl)).symm
  · rw [povmVarOfStacked, if_pos rfl, vecsOfVar_false_flatten d sq _ hd hr]; rfl

example : ∃ var, varOfVec ([1/2, 3, 4, 5] : List Rat) true = some var ∧ (var.length : Int) = num_variables_qst 2 true :=
  state_to_var_length 2 _ true (by decide) (by decide)
example : povmVarOfStacked 1 (1 : Rat) [5, 7, -11] true = varOfVecs [[5], [7], [-11]] true :=
  povm_stacked_to_var_any 1 3 1 [[5], [7], [-11]] true (by decide) (by decide) (by decide) (by decide)

/-- C03.3 converse for gates: `convert_var_to_hs` accepts ONLY variable vectors of the generated `num_variables_qpt` length
(any other length raises in `reshape`). -/
theorem gate_var_length_of_ok [Zero K] [One K] (d : Nat) (var : List K) (f : Bool) (hs : List (List K)) (hd : 0 < d)
    (h : hsOfVar d var f = some hs) : (var.length : Int) = num_variables_qpt d f := by
  rw [nv_qpt d var.length f]
  unfold hsOfVar at h
  rw [if_neg (Nat.ne_of_gt hd)] at h
  cases f
  · exact (reshape2_some _ _ _ _ h).1
  · obtain ⟨r, hr, _⟩ := Option.bind_eq_some_iff.1 h
    rw [if_pos rfl, (reshape2_some _ _ _ _ hr).1]; exact pred_mul_add d hd

/-- C03.3 converse for POVMs: `convert_var_to_vecs` accepts exactly the variable vectors whose length is a multiple of `d²`
(the outcome count is read off the length: `len/d²` elements, plus the implied one with the constraint). -/
theorem povm_var_length_of_ok [Add K] [Sub K] [Zero K] (d : Nat) (sq : K) (var : List K) (f : Bool)
    (vecs : List (List K)) (h : vecsOfVar d sq var f = some vecs) :
    d ≠ 0 ∧ var.length = (var.length / d ^ 2) * d ^ 2 ∧ vecs.length = var.length / d ^ 2 + (if f then 1 else 0) := by
  unfold vecsOfVar at h
  split at h
  · cases h
  · rename_i hd0
    refine ⟨hd0, ?_⟩
    cases f
    · obtain ⟨h1, h2⟩ := reshape2_some _ _ _ _ h
      exact ⟨h1, by rw [h2, rows_length]; rfl⟩
    · obtain ⟨pre, hr, h⟩ := Option.bind_eq_some_iff.1 h
      rw [Nat.add_sub_cancel] at hr
      exact ⟨(reshape2_some _ _ _ _ hr).1, by rw [(reshape2_some _ _ _ _ h).2, rows_length]; rfl⟩

/-- C03.4 state, with the range hypothesis: the entry the generated index points at IS the variable. -/
theorem state_index_points_at_some (s : K) (var : List K) (f : Bool) (i : Nat) (hi : i < var.length) :
    (vecOfVar s var f)[(convert_var_index_to_state_index i f).toNat]? = some var[i] := by
  rw [state_index_points_at, List.getElem?_eq_getElem hi]

example : (vecOfVar (1/2 : Rat) [3, 4, 5] true)[(convert_var_index_to_state_index 1 true).toNat]? = some 4 :=
  state_index_points_at_some _ _ true 1 (by decide)
example : ¬ ∃ hs, hsOfVar 2 (List.replicate 11 (1 : Rat)) true = some hs := by
  rintro ⟨hs, h⟩
  have := gate_var_length_of_ok 2 _ true hs (by decide) h
  revert this; decide

/-- C03.1 measurement process, the constraint read off the OBJECT itself: a stacked vector of `m ≥ 1` HS matrices is reproduced
from its variables exactly when the first row of its last HS equals `e₀ − Σ (first rows of the other HS)` computed from that same
stacked vector (the built-in "sum is trace preserving" constraint). -/
theorem mp_obj_roundtrip_on_object [Add K] [Sub K] [Zero K] [One K] (d m : Nat) (st : List K) (hd : 0 < d) (hm : 1 ≤ m)
    (h : st.length = m * hsSize d) :
    ∃ var, mpVarOfStacked d st true = some var ∧ (var.length : Int) = num_variables_qmpt d m true ∧
      (mpStackedOfVar d var true = some st ↔
        (st.drop (hsSize d * (m - 1))).take (d ^ 2) = mpLast d (m - 1) st) := by
  obtain ⟨var, hv, hlen, hiff⟩ := mp_obj_roundtrip d m st hd hm h
  refine ⟨var, hv, hlen, ?_⟩
  obtain ⟨k, rfl⟩ := Nat.exists_eq_add_of_le' hm
  rw [mpVarOfStacked_true d k st hd h, Option.some.injEq] at hv
  -- `var` and `st` share their first `H·(m−1)` entries, which is all the implied row reads
  have htake : var.take (hsSize d * k) = st.take (hsSize d * k) := by
    rw [← hv, List.take_left' (by rw [List.length_take, h, Nat.succ_mul, Nat.mul_comm]; omega)]
  rw [hiff, Nat.add_sub_cancel]
  unfold mpLast
  rw [← firstRowSum_take d k var, ← firstRowSum_take d k st, htake]

example := mp_obj_roundtrip_on_object 1 2 ([3, -2] : List Rat) (by decide) (by decide) (by decide)
example : (([3, -2] : List Rat).drop (hsSize 1 * (2 - 1))).take (1 ^ 2) = mpLast 1 (2 - 1) [3, -2] := by decide +kernel

/-- C03.3 converse for measurement processes: `convert_var_to_hss` accepts exactly the variable vectors whose length is
`k·d⁴` (without the constraint) resp. `k·d⁴ − d²` for the outcome count `k = len // d⁴ + 1` read off the length (with it). -/
theorem mp_var_length_of_ok [Add K] [Sub K] [Zero K] [One K] (d : Nat) (var : List K) (f : Bool) (hss : List (List K))
    (h : hssOfVar d var f = some hss) :
    d ≠ 0 ∧ hss.length = var.length / hsSize d + (if f then 1 else 0) ∧
      var.length + (if f then d ^ 2 else 0) = hss.length * hsSize d := by
  unfold hssOfVar at h
  split at h
  · cases h
  · rename_i hd0
    refine ⟨hd0, ?_⟩
    cases f
    · obtain ⟨h1, h2⟩ := reshape2_some _ _ _ _ h
      rw [h2, rows_length]; exact ⟨rfl, h1⟩
    · obtain ⟨st, hs, h⟩ := Option.bind_eq_some_iff.1 h
      obtain ⟨h1, h2⟩ := reshape2_some _ _ _ _ h
      rw [h2, rows_length, ← h1]
      refine ⟨rfl, ?_⟩
      simp only [mpStackedOfVar, hd0, ↓reduceIte, Option.some.injEq, Nat.add_sub_cancel] at hs
      have hp : hsSize d * (var.length / hsSize d) ≤ var.length := Nat.mul_div_le _ _
      rw [← hs, length_insert, mpLast_length d _ var (Nat.pos_of_ne_zero hd0) hp]; rfl

/-! ## clause "across a whole set of operations" -/

/-- C03.5 SetQOperations: local (mode, operation k, local index j) ↦ total index lands in range and
`local_info_from_index_var_total` inverts it — arbitrary mixes and counts of the four types. -/
theorem total_local_roundtrip (S : Sizes) (mode k j : Nat) (sizes : List Nat)
    (hm : S.ofMode mode = some sizes) (hk : k < sizes.length) (hj : j < sizes[k]) :
    ∃ t, totalFromLocal S mode k j = some t ∧ t < S.total ∧ localFromTotal S t = some (mode, k, j) := by
  have hle := nsum_take_le sizes k hk
  have htot := (modeOfTotal_of_mem S mode sizes hm).1
  refine ⟨_, totalFromLocal_eq S mode k j sizes hm (Nat.le_of_lt hk), by omega,
    localFromTotal_eq S mode k j _ sizes hm (by omega) (by omega) ?_⟩
  rw [Nat.add_assoc, Nat.add_sub_cancel_left]
  simpa only [Nat.zero_add] using locate_spec sizes 0 k j hk hj

/-- C03.5 SetQOperations: every total index in range is the image of exactly the local triple that
`local_info_from_index_var_total` returns (onto). -/
theorem local_total_roundtrip (S : Sizes) (t : Nat) (ht : t < S.total) :
    ∃ mode k j sizes, ∃ hk : k < sizes.length, localFromTotal S t = some (mode, k, j) ∧
      S.ofMode mode = some sizes ∧ j < sizes[k] ∧ totalFromLocal S mode k j = some t := by
  obtain ⟨mode, sizes, hm, h1, h2⟩ := exists_mode_of_lt_total S t ht
  obtain ⟨k, j, hk, hloc, hj, hsum⟩ := locate_some sizes 0 (t - S.first mode) (by omega)
  rw [Nat.zero_add] at hloc
  refine ⟨mode, k, j, sizes, hk, localFromTotal_eq S mode k j t sizes hm h1 h2 hloc, hm, hj, ?_⟩
  rw [totalFromLocal_eq S mode k j sizes hm (Nat.le_of_lt hk)]
  congr 1; omega

/-- C03.5 through the EXECUTED `index_var_total_from_local_info` (all four type groups, with the offsets between groups): the total
index of (mode, operation k, local index j) points at that variable of that operation inside `var_total`. -/
theorem total_index_points_at (B : Blocks K) (mode k j t : Nat) (blk : List (List K)) (hb : B.ofMode mode = some blk)
    (hk : k < blk.length) (hj : j < blk[k].length)
    (ht : totalFromLocal B.sizes mode k j = some t) : B.varTotal[t]? = some (blk[k][j]) := by
  obtain ⟨hm, pre, post, hpre, hv⟩ := B.varTotal_split mode blk hb
  rw [totalFromLocal_eq _ mode k j _ hm (by rw [List.length_map]; exact Nat.le_of_lt hk)] at ht
  cases ht
  have hp := flatten_points_at blk k j hk hj
  obtain ⟨hlt, _⟩ := List.getElem?_eq_some_iff.1 hp
  rw [hv, ← hpre, Nat.add_assoc, List.getElem?_append_right (Nat.le_add_right _ _), Nat.add_sub_cancel_left,
    List.getElem?_append_left hlt, hp]

/-- C03.5 the EXECUTED `set_qoperations_from_var_total` slices `var_total` back into exactly the blocks it was stacked from
(and accepts it: the length check passes). -/
theorem set_from_var_total_blocks (B : Blocks K) :
    setFromVarTotal B.sizes B.varTotal = some (B.state ++ B.gate ++ B.povm ++ B.mprocess) := by
  have := splitBy_flatten (B.state ++ B.gate ++ B.povm ++ B.mprocess)
  simp only [List.map_append] at this
  unfold setFromVarTotal Blocks.sizes Blocks.varTotal
  simp only
  rw [if_pos (by simp only [Sizes.total, List.length_append, flatten_len_nsum]), ← List.flatten_append,
    ← List.flatten_append, ← List.flatten_append, this]

example : totalFromLocal (Blocks.sizes (⟨[[1, 2, 3]], [], [[4, 5], [6, 7]], [[8]]⟩ : Blocks Rat)) 2 1 1 = some 6 ∧
    (Blocks.varTotal (⟨[[1, 2, 3]], [], [[4, 5], [6, 7]], [[8]]⟩ : Blocks Rat))[6]? = some 7 := by decide +kernel

/-! ## the hypotheses are satisfiable (concrete non-trivial instances) -/

example : (0:Int) ≤ 5 ∧ (5:Int) < num_variables_qmpt 2 3 true := by decide
example : MpFree 2 3 true (2, 1, 0) := by unfold MpFree; decide
example : ¬ MpFree 2 3 true (2, 0, 0) := by unfold MpFree; decide
example : GateFree 3 true (1, 8) := by unfold GateFree; decide
example : PovmFree 2 4 true (2, 3) := by unfold PovmFree; decide
example : convert_var_index_to_mprocess_index 2 3 4 37 true = (2, 2, 1) := by decide
example : convert_mprocess_index_to_var_index 2 (2, 2, 1) 3 4 true = 37 := by decide
example : (([1, 2, 3] : List Rat).length : Int) = num_variables_qst 2 true := by decide
example : ((List.replicate 12 (1 : Rat)).length : Int) = num_variables_qpt 2 true := by decide
example : ((List.replicate 8 (1 : Rat)).length : Int) = num_variables_povmt 2 3 true := by decide
example : ((List.replicate 28 (1 : Rat)).length : Int) = num_variables_qmpt 2 2 true := by decide
example : vecsOfVar 1 (1 : Rat) [5, 7] true = some [[5], [7], [-11]] := by decide +kernel
example : totalFromLocal ⟨[3, 3], [12], [4, 8], [28]⟩ 2 1 5 = some 27 := by decide
example : localFromTotal ⟨[3, 3], [12], [4, 8], [28]⟩ 27 = some (2, 1, 5) := by decide

end QM.C03
