import QProofs.C18
import Mathlib.Tactic.Module
import Mathlib.Tactic.LinearCombination
import Mathlib.Data.Complex.Basic
/-!
# C18 — Lindbladian generators: property theorems

All statements are about the definitions of `QModel/C18.lean` and are unbounded in the dimension `d`. The polymorphic core is
instantiated at an arbitrary field `K` with an involution `star` and an element `ii`, `ii² = −1`. The driver's scalar type
`CRat` IS such a field (`CRat.instField`, `instStarRing`, `ii_mul_ii` in `QProofs/C18.lean`, built from the model's own
instances), so these theorems hold literally for the executed functions (section `execinst` instantiates them); `ℂ` is
another instance (used where an order / PSD statement is needed, through the embedding `CRat.toC` / `mapC`).
`ONH0 B z s` is the implementation's `is_orthonormal_hermitian_0thprop_identity`.
-/
open Matrix
namespace QM.C18
open QM

/-! ## equality projection (`calc_proj_eq_constraint`) and the TP verdict -/
section projection
variable {R : Type} [Field R] [LinearOrder R] [IsStrictOrderedRing R] {n : Nat}

/-- C18 "the equality projection zeroes exactly the first row": row 0 of the result vanishes … -/
theorem projEq_zeroes_row0 (hs : Mat R n n) (i j : Fin n) (hi : i.val = 0) :
    (projEq hs).get i j = 0 := by
  simp [projEq_get, hi]

/-- … and every other row is returned unchanged. -/
theorem projEq_keeps_other_rows (hs : Mat R n n) (i j : Fin n) (hi : i.val ≠ 0) :
    (projEq hs).get i j = hs.get i j := by
  simp [projEq_get, hi]

/-- generators whose first row vanishes (TP generators) are fixed points; in particular the projection is
idempotent. -/
theorem projEq_fixes_tp (hs : Mat R n n) (h0 : ∀ i j, i.val = 0 → hs.get i j = 0) :
    projEq hs = hs := by
  apply Mat.ext'; intro i j
  by_cases hi : i.val = 0
  · simp [projEq_get, hi, h0 i j hi]
  · simp [projEq_get, hi]

theorem projEq_idem (hs : Mat R n n) : projEq (projEq hs) = projEq hs :=
  projEq_fixes_tp _ fun i j hi => projEq_zeroes_row0 hs i j hi

/-- C18 "nearest point": among all matrices with vanishing first row the projection is the closest one to
`hs` in the Frobenius norm (all sizes; literally valid for the executed instance `ℚ`). -/
theorem projEq_nearest (hs Y : Mat R n n) (hY : ∀ i j, i.val = 0 → Y.get i j = 0) :
    ∑ i, ∑ j, (hs.get i j - (projEq hs).get i j) ^ 2 ≤ ∑ i, ∑ j, (hs.get i j - Y.get i j) ^ 2 := by
  apply Finset.sum_le_sum; intro i _
  apply Finset.sum_le_sum; intro j _
  rw [projEq_get]
  by_cases h0 : i.val = 0
  · simp [h0, hY i j h0]
  · have := sq_nonneg (hs.get i j - Y.get i j)
    simpa [h0] using this
end projection

example : projEq (Mat.ofFn fun i j => ((i.val + 2 * j.val + 1 : Nat) : ℚ) : Mat ℚ 2 2)
    = Mat.ofFn fun i j => if i.val = 0 then 0 else ((i.val + 2 * j.val + 1 : Nat) : ℚ) := by
  apply Mat.ext'; intro i j; simp [projEq_get]

/-- C18 `is_tp` verdict: the model's `is_tp` is `true` exactly when every entry of the first row is within
`atol` of zero (`np.allclose(hs[0], 0, atol, rtol=0)`); with `atol = 0` this is "first row vanishes". -/
theorem isTp_iff {n : Nat} (hs : Mat ℚ n n) (atol : ℚ) :
    isTp hs atol = true ↔ ∀ i j : Fin n, i.val = 0 → |hs.get i j| ≤ atol := by
  simp only [isTp, List.all_eq_true, List.mem_finRange, forall_const, decide_eq_true_eq, rabs_eq_abs, ne_eq,
    imp_iff_not_or]

/-! ## `hs[0, β] = s̄ · tr L(B_β)`: the first row is the trace functional -/
section row0
variable {K : Type} [Field K] [StarRing K] {d : Nat}

/-- C18 `tp_iff_row0` (1): for the Hermitian-basis matrix `convert_hs(L_cb, comp_basis, basis)` of any
comp-basis superoperator, entry `(0, β)` is `s̄` times the trace of `L(B_β)` when `B_0 = s·1`. -/
theorem hs_row0_eq_trace (B : Basis K d) (L : Mat K (d * d) (d * d)) (z b : Fin (d * d)) (s : K)
    (hz : ∀ i j, (B.get z).get i j = if i = j then s else 0) :
    (toHerm B L).get z b = star s * (act L (B.get b)).toM.trace :=
  toHerm_row0 B L z b s hz

/-- C18 `tp_iff_row0` (2): the first row vanishes iff `L` annihilates the trace of every basis element. -/
theorem tp_iff_row0 (B : Basis K d) (L : Mat K (d * d) (d * d)) (z : Fin (d * d)) (s : K) (hs : s ≠ 0)
    (hz : ∀ i j, (B.get z).get i j = if i = j then s else 0) :
    (∀ b, (toHerm B L).get z b = 0) ↔ ∀ b, (act L (B.get b)).toM.trace = 0 := by
  simp only [toHerm_row0 B L z _ s hz, mul_eq_zero, star_eq_zero, hs, false_or]
end row0

section gkslthm
variable {K : Type} [Field K] [StarRing K] [CharZero K] [HasI K] {d : Nat}

/-- C18 `gksl_action` (general form): the comp-basis generator of `generate_hs_from_hjk` acts on every
matrix `ρ` as `−i(Hρ − ρH†) + (Jρ + ρJ†) + Σ K_ab B_{a+1} ρ B_{b+1}†`. -/
theorem gksl_action_hjk (B : Basis K d) (h j : Mat K d d) (k : Mat K (d * d - 1) (d * d - 1))
    (rho : Mat K d d) :
    (act (cbFromHjk B h j k) rho).toM =
      (-(ii : K)) • (h.toM * rho.toM - rho.toM * h.toMᴴ) + (j.toM * rho.toM + rho.toM * j.toMᴴ)
      + ∑ a, ∑ b, k.get a b • (Bm B (suc a) * rho.toM * (Bm B (suc b))ᴴ) := by
  unfold cbFromHjk
  rw [act_add, act_add, act_hPart, act_jPart, act_kPart]

/-- C18 `gksl_action`: the generator of `generate_hs_from_hk` (J computed from K through the table
`basishermitian_basis_T_from_1`) acts, for Hermitian `H` and `K`, exactly as the GKSL equation prescribes:
`−i[H,ρ] + Σ_ab K_ab (B_a ρ B_b† − ½{B_b†B_a, ρ})` (indices over `basis[1:]`); no assumption on the basis. -/
theorem gksl_action_hk (B : Basis K d) (h : Mat K d d) (k : Mat K (d * d - 1) (d * d - 1))
    (hh : h.toMᴴ = h.toM) (hk : ∀ a b, star (k.get b a) = k.get a b) (rho : Mat K d d) :
    (act (cbFromHk B h k) rho).toM =
      (-(ii : K)) • (h.toM * rho.toM - rho.toM * h.toM)
      + ∑ a, ∑ b, k.get a b • (Bm B (suc a) * rho.toM * (Bm B (suc b))ᴴ
          - (1 / (two : K)) • ((Bm B (suc b))ᴴ * Bm B (suc a) * rho.toM
                              + rho.toM * ((Bm B (suc b))ᴴ * Bm B (suc a)))) := by
  rw [cbFromHk_eq, gksl_action_hjk, jMatFromKMat_conjTranspose B k hk, hh, jMatFromKMat_toM, add_assoc]
  congr 1
  simp only [Matrix.smul_mul, Matrix.mul_smul, Matrix.sum_mul, Matrix.mul_sum, Finset.smul_sum,
    ← Finset.sum_add_distrib]
  refine Finset.sum_congr rfl fun a _ => Finset.sum_congr rfl fun b _ => ?_
  module

/-- C18 "built from (H, K) ⇒ trace preserving": the GKSL generator annihilates the trace of every `ρ`. -/
theorem from_hk_trace_zero (B : Basis K d) (h : Mat K d d) (k : Mat K (d * d - 1) (d * d - 1))
    (hh : h.toMᴴ = h.toM) (hk : ∀ a b, star (k.get b a) = k.get a b) (rho : Mat K d d) :
    (act (cbFromHk B h k) rho).toM.trace = 0 := by
  -- every term of the GKSL form is traceless, by cyclicity of the trace
  rw [gksl_action_hk B h k hh hk]
  simp only [Matrix.trace_add, Matrix.trace_smul, Matrix.trace_sub, Matrix.trace_sum, Matrix.trace_mul_comm rho.toM,
    Matrix.trace_mul_cycle (Bm B _) rho.toM, sub_self, smul_zero, zero_add]
  refine Finset.sum_eq_zero fun a _ => Finset.sum_eq_zero fun b _ => ?_
  have h2 : (2 : K) ≠ 0 := two_ne_zero
  simp only [two, smul_eq_mul]
  field_simp
  ring

/-- C18 "built from (H, K) ⇒ first row zero": the first row of the Hermitian-basis matrix of `generate_hs_from_hk` before
the float truncation vanishes (any field). The verdict statement for the executed builder — truncation included, `is_tp`
returns `true` — is `hsFromHk_isTp` below. -/
theorem from_hk_row0 (B : Basis K d) (h : Mat K d d) (k : Mat K (d * d - 1) (d * d - 1))
    (hh : h.toMᴴ = h.toM) (hk : ∀ a b, star (k.get b a) = k.get a b)
    (z b : Fin (d * d)) (s : K) (hz : ∀ i j, (B.get z).get i j = if i = j then s else 0) :
    (toHerm B (cbFromHk B h k)).get z b = 0 := by
  rw [toHerm_row0 B _ z b s hz, from_hk_trace_zero B h k hh hk, mul_zero]
end gkslthm


/-! ## the index glue of the extraction loops, regenerated from the source -/
section glue
variable {K : Type} [Field K] [StarRing K] [HasI K] {d : Nat}

/-- C18 tie to the source (`calc_h_mat`): the executed loop — the generic loop instantiated with the constants that
`translate` regenerates from `effective_lindbladian.py` on every run (loop range `basis`, `kron(B,1) − kron(1, B.conj())`,
coefficient `1j/(2 dim)`) — is `Σ_α hCoef(α) · B_α` over the WHOLE basis, in every dimension. A source edit of the
range, sign, conjugation or coefficient changes `QGen/C18.lean` and breaks this proof. -/
theorem calc_h_mat_glue (B : Basis K d) (L : Mat K (d * d) (d * d)) :
    calcHMatCb B L = msum (d * d) fun a => (B.get a).smul (hCoef B L a) := by
  apply Mat.ext'; intro i j
  simp [calcHMatCb, extractG, coefG, pairG, hCoef, QGen.C18.hLoopStart, QGen.C18.hDeltaAt, QGen.C18.hNumImag,
    QGen.C18.hDen, QGen.C18.hNegSecond, QGen.C18.hConjSecond, two, one_add_one_eq_two]

/-- C18 tie to the source (`calc_j_mat`): range `enumerate(basis)` (not `basis[1:]`, D12), `+`, `B.conj()`,
coefficient `1/(2 dim (1+δ))` with `δ = 1` exactly on element 0. -/
theorem calc_j_mat_glue (B : Basis K d) (L : Mat K (d * d) (d * d)) :
    calcJMatCb B L = msum (d * d) fun a => (B.get a).smul (jCoef B L a (decide (a.val = 0))) := by
  apply Mat.ext'; intro i j
  simp only [calcJMatCb, extractG, coefG, pairG, jCoef, QGen.C18.jLoopStart, QGen.C18.jDeltaAt, QGen.C18.jNumImag,
    QGen.C18.jDen, QGen.C18.jNegSecond, QGen.C18.jConjSecond, two, msum_get]
  apply Finset.sum_congr rfl; intro a _
  by_cases ha : a.val = 0
  · simp [ha, one_add_one_eq_two]
  · have ha' : ¬ (0 = a.val) := fun h => ha h.symm
    simp [ha, ha', one_add_one_eq_two]

/-- C18 tie to the source (`calc_k_mat`): both loops over `basis[1:]`, second factor conjugated. -/
theorem calc_k_mat_glue (B : Basis K d) (L : Mat K (d * d) (d * d)) (a b : Fin (d * d - 1)) :
    (calcKMatCb B L).get a b = trMul L (kron (B.get (suc a)) (conjM (B.get (suc b)))) := by
  simp [calcKMatCb, QGen.C18.kConjSecond]
end glue

section roundtrip
variable {K : Type} [Field K] [StarRing K] [CharZero K] [HasI K] {d : Nat}

/-- C18 `convert_hs` round trip: comp basis → Hermitian basis → comp basis is the identity (orthonormal basis). -/
theorem convert_hs_roundtrip (B : Basis K d) (z : Fin (d * d)) (s : K) (hB : ONH0 B z s)
    (L : Mat K (d * d) (d * d)) : toComp B (toHerm B L) = L := by
  apply Mat.toM_injective
  rw [toM_toComp, toM_toHerm, ← Matrix.mul_assoc, ← Matrix.mul_assoc, hB.toB_adj_mul, Matrix.one_mul,
    Matrix.mul_assoc, hB.toB_adj_mul, Matrix.mul_one]

end roundtrip

/-! ## extraction ∘ rebuild: throughout, an orthonormal Hermitian basis with `B_0 = s·1` and the generator
`cbFromHjk B h j k` rebuilt from Hermitian `h`, `j` -/
section extractthm
variable {K : Type} [Field K] [StarRing K] [CharZero K] [HasI K] {d : Nat}
  (B : Basis K d) (z : Fin (d * d)) (s : K) (hB : ONH0 B z s) (hii : (ii : K) * ii = -1)
  (h j : Mat K d d) (k : Mat K (d * d - 1) (d * d - 1)) (hh : h.toMᴴ = h.toM) (hj : j.toMᴴ = j.toM)
include hB hh hj

/-- C18 `extract_rebuild` (K): `calc_k_mat` of the generator rebuilt from Hermitian `(H, J, K)` is `K`
(orthonormal Hermitian basis with `B_0 = s·1`; the coded index range `basis[1:]` on both axes). -/
theorem extract_k_of_rebuild :
    calcKMatCb B (cbFromHjk B h j k) = k := by
  apply Mat.ext'; intro a b
  rw [calc_k_mat_glue, trMul_cbFromHjk_kron B h j k hh hj hB.herm, conjM_toM_of_herm _ (hB.herm (suc b))]
  simp only [toM_get_eq_Bm, Matrix.trace_transpose, hB.trace_suc, mul_zero, zero_mul, sub_self,
    add_zero, hB.orth, hB.orth_T, suc_eq_iff]
  simp

include hii in
/-- C18 `extract_rebuild` (H), coefficient form: the coefficient that `calc_h_mat` gives to `B_a` is
`tr(H B_a) − tr(B_a)·tr(H)/d`, i.e. the coefficient of the traceless part of `H` (needs `ii² = −1`). -/
theorem extract_h_coef (a : Fin (d * d)) :
    hCoef B (cbFromHjk B h j k) a = (h.toM * Bm B a).trace - (Bm B a).trace * h.toM.trace / (d : K) := by
  simp only [hCoef]
  rw [trMul_sub_right, pair_left B z s hB h j k hh hj, pair_right B z s hB h j k hh hj]
  have hd := hB.d_ne
  have h2 : (2 : K) ≠ 0 := two_ne_zero
  simp only [two, dK]
  field_simp
  linear_combination (-2 * (d : K) * (h.toM * Bm B a).trace + 2 * (Bm B a).trace * h.toM.trace) * hii

/-- C18 `extract_rebuild` (J), coefficient form: the coefficient that the `calc_j_mat` formula gives to `B_a`
is `(tr(J B_a) + tr(B_a)·tr(J)/d) / (1 + δ)` where `δ = 1` on the element treated as "first". -/
theorem extract_j_coef (a : Fin (d * d)) (first : Bool) :
    jCoef B (cbFromHjk B h j k) a first =
      ((j.toM * Bm B a).trace + (Bm B a).trace * j.toM.trace / (d : K)) / (1 + if first then 1 else 0) := by
  simp only [jCoef]
  rw [trMul_add_right, pair_left B z s hB h j k hh hj, pair_right B z s hB h j k hh hj]
  have hd := hB.d_ne
  have h2 : (2 : K) ≠ 0 := two_ne_zero
  simp only [two, dK]
  cases first
  · simp only [Bool.false_eq_true, if_false, add_zero]
    field_simp
    ring
  · simp only [if_true]
    have h11 : (1 + 1 : K) ≠ 0 := by norm_num
    field_simp
    ring

/-- with the loop of `calc_j_mat` (whole basis, `δ = 1` exactly on the identity element) every coefficient is the
right one: `tr(J B_a)` — including the identity component (this is what the D12 repair restored; with the
former range `basis[1:]` the identity component was lost). -/
theorem extract_j_coef_all (a : Fin (d * d)) :
    jCoef B (cbFromHjk B h j k) a (decide (a.val = 0)) = (j.toM * Bm B a).trace := by
  rw [extract_j_coef B z s hB h j k hh hj]
  have hd := hB.d_ne
  by_cases ha : a = z
  · subst ha
    have h11 : (1 + 1 : K) ≠ 0 := by norm_num
    simp only [hB.z0, decide_true, if_true, hB.b0, Matrix.mul_smul, Matrix.mul_one,
      Matrix.trace_smul, smul_eq_mul, Matrix.trace_one, Fintype.card_fin]
    field_simp
  · have : a.val ≠ 0 := fun h0 => ha (Fin.ext (h0.trans hB.z0.symm))
    simp [this, hB.trace_B, ha]


include hii in
/-- C18 `extract_rebuild` (H), matrix form: `calc_h_mat` of the generator rebuilt from Hermitian `(H, J, K)`
returns the traceless part of `H` (the identity component of a Hamiltonian does not act). Completeness of the
basis is derived from orthonormality (`complete_of_onh0`). -/
theorem extract_h_of_rebuild :
    (calcHMatCb B (cbFromHjk B h j k)).toM = h.toM - (h.toM.trace / (d : K)) • (1 : Matrix (Fin d) (Fin d) K) := by
  have hc := complete_of_onh0 B z s hB
  rw [calc_h_mat_glue, toM_msum_smul]
  simp only [extract_h_coef B z s hB hii h j k hh hj, sub_smul, Finset.sum_sub_distrib]
  rw [← hc h.toM]
  congr 1
  conv_rhs => rw [hc (1 : Matrix (Fin d) (Fin d) K), Finset.smul_sum]
  apply Finset.sum_congr rfl; intro a _
  rw [Matrix.one_mul, smul_smul]
  congr 1
  ring

/-- C18 `extract_rebuild` (J): `calc_j_mat` of the generator rebuilt from Hermitian `(H, J, K)` returns `J`
(whole matrix, identity component included). -/
theorem extract_j_of_rebuild :
    (calcJMatCb B (cbFromHjk B h j k)).toM = j.toM := by
  rw [calc_j_mat_glue, toM_msum_smul]
  simp only [extract_j_coef_all B z s hB h j k hh hj]
  exact (complete_of_onh0 B z s hB j.toM).symm

include hii in
/-- C18 `parts_sum` (`_partial`: only for generators of the form `rebuild(H, J, K)`, comp basis): for every generator rebuilt from Hermitian `(H, J, K)` the h-, j- and k-parts computed
from the extracted matrices (`calc_h_part + calc_j_part + calc_k_part`, comp basis) act exactly as the generator
itself, on every `ρ`, in every dimension. (That every Hermiticity-preserving generator is of the form
`rebuild(H, J, K)` is not formalised; the oracle checks the clause on generic real `hs` as well.) -/
theorem parts_sum_partial (rho : Mat K d d) :
    let L := cbFromHjk B h j k
    (act (((hPart (calcHMatCb B L)).add (jPart (calcJMatCb B L))).add (kPart B (calcKMatCb B L))) rho).toM
      = (act L rho).toM := by
  intro L
  have hc : star (h.toM.trace / (d : K)) = h.toM.trace / (d : K) := by
    rw [star_div₀, ← Matrix.trace_conjTranspose, hh, star_natCast]
  rw [act_add, act_add, act_hPart, act_jPart, act_kPart, gksl_action_hjk,
    extract_k_of_rebuild B z s hB h j k hh hj, extract_h_of_rebuild B z s hB hii h j k hh hj,
    extract_j_of_rebuild B z s hB h j k hh hj]
  congr 2
  rw [Matrix.conjTranspose_sub, Matrix.conjTranspose_smul, Matrix.conjTranspose_one, hc, hh]
  simp only [Matrix.sub_mul, Matrix.mul_sub, Matrix.smul_mul, Matrix.mul_smul, Matrix.one_mul,
    Matrix.mul_one]
  congr 1
  abel

include hii in
/-- C18 `extract_rebuild` on the object the code actually holds: the HS matrix `hs = convert_hs(L_cb, comp, basis)` of the
rebuilt generator. `calc_k_mat`, `calc_h_mat`, `calc_j_mat` first convert `hs` back (`toComp`); for an orthonormal basis
that round trip is the identity (`convert_hs_roundtrip`), so the extracted matrices are `(K, H − tr H/d, J)`. (Before the
float truncation `_truncate_hs`, which the correspondence ties.) -/
theorem extract_of_rebuild_hs :
    calcKMat B (toHerm B (cbFromHjk B h j k)) = k ∧
    (calcHMat B (toHerm B (cbFromHjk B h j k))).toM
        = h.toM - (h.toM.trace / (d : K)) • (1 : Matrix (Fin d) (Fin d) K) ∧
    (calcJMat B (toHerm B (cbFromHjk B h j k))).toM = j.toM := by
  simp only [calcKMat, calcHMat, calcJMat, convert_hs_roundtrip B z s hB]
  exact ⟨extract_k_of_rebuild B z s hB h j k hh hj, extract_h_of_rebuild B z s hB hii h j k hh hj,
    extract_j_of_rebuild B z s hB h j k hh hj⟩

include hii in
/-- C18 `parts_sum`, comp-basis mode, as an EQUALITY OF MATRICES (`_partial`: generators of the form `rebuild(H, J, K)`):
`calc_h_part + calc_j_part + calc_k_part` (mode `comp_basis`) of the extracted matrices is the generator itself — a
comp-basis superoperator is determined by its action (`act_ext`). -/
theorem parts_sum_comp_partial :
    let L := cbFromHjk B h j k
    ((hPart (calcHMatCb B L)).add (jPart (calcJMatCb B L))).add (kPart B (calcKMatCb B L)) = L := by
  intro L
  exact act_ext _ _ (fun rho => parts_sum_partial B z s hB hii h j k hh hj rho)

end extractthm

section partsmodes
variable {K : Type} [Field K] [StarRing K] [CharZero K] [HasI K] {d : Nat}

/-- C18 `parts_sum`, mode `hermitian_basis` (`_partial`: rebuilt generators; before the float truncation of each part):
the three parts converted to the Hermitian basis (`convert_hs(part, comp_basis, basis)`, additive) sum to the HS matrix
`hs = convert_hs(L_cb, comp_basis, basis)` of the generator — "in either basis". -/
theorem parts_sum_herm_partial (B : Basis K d) (z : Fin (d * d)) (s : K) (hB : ONH0 B z s) (hii : (ii : K) * ii = -1)
    (h j : Mat K d d) (k : Mat K (d * d - 1) (d * d - 1)) (hh : h.toMᴴ = h.toM) (hj : j.toMᴴ = j.toM) :
    let hs := toHerm B (cbFromHjk B h j k)
    ((toHerm B (hPart (calcHMat B hs))).add (toHerm B (jPart (calcJMat B hs)))).add
        (toHerm B (kPart B (calcKMat B hs))) = hs := by
  intro hs
  simp only [hs, calcHMat, calcJMat, calcKMat, convert_hs_roundtrip B z s hB]
  rw [← toHerm_add, ← toHerm_add, parts_sum_comp_partial B z s hB hii h j k hh hj]
end partsmodes

/-! ## the executed scalars: the theorems above hold literally for the driver's instance `CRat` -/
section execinst
variable {d : Nat}

/-- C18: `CRat` (the complex rationals the driver computes with; every float is one) is a field with involution and
`ii² = −1` (`QProofs/C18.lean`, built from the model's own `Add/Mul/Div/…` instances), so every theorem of this file
stated for an arbitrary `[Field K] [StarRing K] [CharZero K]` is a theorem about the executed functions. Instance: -/
theorem extract_of_rebuild_hs_exec (B : Basis CRat d) (z : Fin (d * d)) (s : CRat) (hB : ONH0 B z s)
    (h j : Mat CRat d d) (k : Mat CRat (d * d - 1) (d * d - 1)) (hh : h.toMᴴ = h.toM) (hj : j.toMᴴ = j.toM) :
    calcKMat B (toHerm B (cbFromHjk B h j k)) = k :=
  (extract_of_rebuild_hs B z s hB CRat.ii_mul_ii h j k hh hj).1

/-- C18 inequality projection, dissipator of the result: `calc_proj_ineq_constraint` rebuilds from the extracted
`(h, j)` and the clipped `K' = clipK λ V`; for Hermitian `(h, j)` the dissipator matrix of the rebuilt generator — what a
later `is_cp` looks at — is exactly `K'` (executed instance, before truncation). -/
theorem projIneq_dissipator (B : Basis CRat d) (z : Fin (d * d)) (s : CRat) (hB : ONH0 B z s)
    (h j : Mat CRat d d) (lam : Vec CRat (d * d - 1)) (V : Mat CRat (d * d - 1) (d * d - 1))
    (hh : h.toMᴴ = h.toM) (hj : j.toMᴴ = j.toM) :
    calcKMat B (toHerm B (cbFromHjk B h j (clipK lam V))) = clipK lam V :=
  extract_of_rebuild_hs_exec B z s hB h j _ hh hj

open scoped ComplexOrder in
/-- C18 inequality projection "returns a physical-dissipator generator": the clipped matrix
`V·diag(λ with negatives zeroed)·Vᴴ` is positive semidefinite (as a complex matrix) whenever the eigenvalues numpy returned
are real — for ANY `V`, all sizes. -/
theorem clipK_psd {n : Nat} (lam : Vec CRat n) (V : Mat CRat n n) (hre : ∀ i, (lam.get i).im = 0) :
    (mapC (clipK lam V)).PosSemidef := by
  rw [mapC_clipK]
  simp only [clip_eq_ofRat _ (hre _), toC_ofRat_clip]
  exact QM.Psd.conj_diag_psd (𝕜 := ℂ) (mapC V) (fun i => max ((lam.get i).re : ℝ) 0) (fun i => le_max_right _ _)

/-- C18 inequality projection "leaves physical generators unchanged" (`_partial`: the K-level statement): if no
eigenvalue is negative nothing is clipped, the rebuilt dissipator matrix is `V·diag(λ)·Vᴴ` — numpy's reconstruction of the
extracted `K` itself. Together with `parts_sum_partial` (rebuild of the extracted `(h, j, K)` acts as the generator) this is
the fixed-point property; the eigen-decomposition contract `K = V diag λ Vᴴ` and the float truncation are not modelled. -/
theorem clipK_fix_partial {n : Nat} (lam : Vec CRat n) (V : Mat CRat n n) (h : ∀ i, cltZero (lam.get i) = false) :
    clipK lam V = (V.mul (diagC lam)).mul (adj V) := by
  unfold clipK
  have : (Vec.ofFn fun i => if cltZero (lam.get i) then (0 : CRat) else lam.get i) = lam := by
    apply Vec.ext'; intro i; simp [h i]
  rw [this]

/-- C18 inequality projection "leaves physical generators unchanged", AT THE GENERATOR LEVEL (executed instance, before the
float truncation and the Hermitian guards): let `hs` be the HS matrix of a generator rebuilt from Hermitian `(h, j)` and any
`k`; under the contract of `numpy.linalg.eig` — `V·diag(λ)·Vᴴ` reproduces `calc_k_mat(hs)` — and no negative eigenvalue,
the generator that `calc_proj_ineq_constraint` rebuilds from `(calc_h_mat, calc_j_mat, clipped K)` has the SAME HS matrix. -/
theorem projIneq_fixed_point (B : Basis CRat d) (z : Fin (d * d)) (s : CRat) (hB : ONH0 B z s)
    (h j : Mat CRat d d) (k : Mat CRat (d * d - 1) (d * d - 1)) (hh : h.toMᴴ = h.toM) (hj : j.toMᴴ = j.toM)
    (lam : Vec CRat (d * d - 1)) (V : Mat CRat (d * d - 1) (d * d - 1))
    (heig : (V.mul (diagC lam)).mul (adj V) = calcKMat B (toHerm B (cbFromHjk B h j k)))
    (hpos : ∀ i, cltZero (lam.get i) = false) :
    let hs := toHerm B (cbFromHjk B h j k)
    toHerm B (cbFromHjk B (calcHMat B hs) (calcJMat B hs) (clipK lam V)) = hs := by
  intro hs
  have hclip : clipK lam V = calcKMat B hs := by rw [clipK_fix_partial lam V hpos, heig]
  rw [hclip]
  have := parts_sum_comp_partial B z s hB CRat.ii_mul_ii h j k hh hj
  simp only [hs, calcHMat, calcJMat, calcKMat, convert_hs_roundtrip B z s hB]
  unfold cbFromHjk at this ⊢
  rw [this]

/-- C18 constructor guards: `EffectiveLindbladian(c_sys, hs, …)` is accepted iff the basis is orthonormal Hermitian with
`B_0 ∝ 1`, `hs` is a square float64 matrix whose size is the square of `c_sys.dim`, and — only when physicality is
required — the verdict `is_tp and is_cp` holds. -/
theorem ctorCheck_ok_iff (bok : Bool) (rows cols : Nat) (isf : Bool) (cd : Nat) (req phys : Bool) :
    ctorCheck bok rows cols isf cd req phys = .ok () ↔
      bok = true ∧ rows = cols ∧ Nat.sqrt rows * Nat.sqrt rows = rows ∧ isf = true ∧ Nat.sqrt rows = cd ∧
        (req = true → phys = true) := by
  simp only [ctorCheck, ite_error_eq_ok, Bool.not_eq_true', Bool.not_eq_false, ne_eq, not_not, Bool.and_eq_true,
    not_and, and_true]

/-- … and the error raised is that of the FIRST violated condition in the order of the code (basis, square, square number,
dtype, dimension, physicality); e.g. a non-physical matrix of the wrong dimension reports the dimension. -/
theorem ctorCheck_error_order (rows cols : Nat) (isf : Bool) (cd : Nat) (req phys : Bool) :
    ctorCheck false rows cols isf cd req phys = .error .basisNotOnh0 ∧
    (rows ≠ cols → ctorCheck true rows cols isf cd req phys = .error .notSquare) ∧
    (Nat.sqrt rows * Nat.sqrt rows ≠ rows → ctorCheck true rows rows isf cd req phys = .error .dimNotSquare) ∧
    (Nat.sqrt rows * Nat.sqrt rows = rows → ctorCheck true rows rows false cd req phys = .error .notReal) ∧
    (Nat.sqrt rows * Nat.sqrt rows = rows → Nat.sqrt rows ≠ cd →
      ctorCheck true rows rows true cd req phys = .error .dimMismatch) ∧
    (Nat.sqrt rows * Nat.sqrt rows = rows → Nat.sqrt rows = cd →
      ctorCheck true rows rows true cd true false = .error .notPhysical) := by
  refine ⟨by simp [ctorCheck], ?_, ?_, ?_, ?_, ?_⟩ <;> intros <;> simp_all [ctorCheck]

example : ctorCheck true 9 9 true 2 true false = .error .dimMismatch := by decide +kernel
example : ctorCheck true 4 4 true 2 false false = .ok () := by decide +kernel

/-- C18 `is_cp` verdict wiring: `mutil.is_positive_semidefinite(k, atol)` with numpy's `eigvalsh` result as a parameter is
`true` iff `k` is Hermitian within `atol` (entrywise modulus) and every eigenvalue is within `atol` of 0 or non-negative;
`isCp` applies it to `calc_k_mat` of the generator. -/
theorem isPsdVerdict_iff {n : Nat} (k : Mat CRat n n) (eigs : List Rat) (atol : Rat) :
    isPsdVerdict k eigs atol = true ↔ isHermitian k atol = true ∧ ∀ e ∈ eigs, rabs e ≤ atol ∨ 0 ≤ e := by
  simp [isPsdVerdict, Bool.and_eq_true, List.all_eq_true]

theorem isCp_iff (B : Basis CRat d) (hs : Mat Rat (d * d) (d * d)) (eigs : List Rat) (atol : Rat) :
    isCp B hs eigs atol = true ↔
      isHermitian (calcKMat B (embed hs)) atol = true ∧ ∀ e ∈ eigs, rabs e ≤ atol ∨ 0 ≤ e :=
  isPsdVerdict_iff _ _ _

/-- `choiCb` is the Choi matrix of the action: entry `((i,k),(j,l))` is `Φ(E_ij)[k,l]`. -/
theorem choiCb_get (L : Mat CRat (d * d) (d * d)) (i j k l : Fin d) :
    (choiCb L).get (pr i k) (pr j l)
      = (act L (Mat.ofFn fun a b => if a = i ∧ b = j then 1 else 0)).get k l := by
  simp only [choiCb, Mat.get_ofFn, p1_pr, p2_pr, act_unit]

/-- C18 "built from (H, K) ⇒ judged TP", executed functions: if `generate_hs_from_hk` (model `hsFromHk`, exact Hermitian
`h`, `k`, basis with `B_0 = s·1`) returns `M`, then `is_tp(M)` holds for every `atol ≥ 0` — the float truncation keeps
zeros. -/
theorem hsFromHk_isTp (B : Basis CRat d) (h : Mat CRat d d) (k : Mat CRat (d * d - 1) (d * d - 1))
    (hh : h.toMᴴ = h.toM) (hk : ∀ a b, star (k.get b a) = k.get a b)
    (z : Fin (d * d)) (hz0 : z.val = 0) (s : CRat) (hz : ∀ i j, (B.get z).get i j = if i = j then s else 0)
    (eps atol atol' : Rat) (hat : 0 ≤ atol') (M : Mat Rat (d * d) (d * d))
    (hM : hsFromHk B h k eps atol = .ok M) : isTp M atol' = true := by
  have hrow : ∀ b, (toHerm B (cbFromHk B h k)).get z b = 0 := fun b => from_hk_row0 B h k hh hk z b s hz
  have hT : truncateHs (toHerm B (cbFromHk B h k)) eps = .ok M := by
    by_cases h1 : isHermitian h atol = true <;> by_cases h2 : isHermitian k atol = true <;>
      simp [hsFromHk, h1, h2, bind, Except.bind] at hM
    exact hM
  unfold truncateHs at hT
  split_ifs at hT with hbad
  injection hT with hT
  subst hT
  rw [isTp_iff]
  intro i j hi
  have hiz : i = z := Fin.ext (hi.trans hz0.symm)
  subst hiz
  have hre : ((toHerm B (cbFromHk B h k)).get i j).re = 0 := by rw [hrow j]; rfl
  simp [hre, rabs, hat]
end execinst

example : QGen.C18.kLoopStartRow = 1 ∧ QGen.C18.kLoopStartCol = 1 := ⟨rfl, rfl⟩

/-- non-degenerate instance (one qubit, normalised Pauli basis `σ_a/√2` over `ℂ`, `H = X`, `J = 1`, `K = 1₃`): the
extraction theorems, the parts sum and the GKSL action with all sums non-empty -/
example := extract_of_rebuild_hs basisPauli _ sP onh0_basisPauli Complex.I_mul_I matX Mat.one
  (Mat.one : Mat ℂ (2 * 2 - 1) (2 * 2 - 1)) matX_herm (by simp)
example := parts_sum_partial basisPauli _ sP onh0_basisPauli Complex.I_mul_I matX Mat.one
  (Mat.one : Mat ℂ (2 * 2 - 1) (2 * 2 - 1)) matX_herm (by simp) matX
example := gksl_action_hk basisPauli matX (Mat.one : Mat ℂ (2 * 2 - 1) (2 * 2 - 1)) matX_herm (by intro a b; simp [eq_comm]) matX

/-- the executed-instance theorems on a NON-DEGENERATE executed basis: two qubits, `σ_a ⊗ σ_b / 2` over `CRat`
(`onh0_basisPauli2`, kernel-checked), `H = J = 1₄`, `K = 1₁₅` (`λ = (1,…,1)`, `V = 1`: the eig contract holds exactly) -/
example : calcKMat basisPauli2 (toHerm basisPauli2 (cbFromHjk basisPauli2 Mat.one Mat.one (Mat.one : Mat CRat (4 * 4 - 1) (4 * 4 - 1))))
    = Mat.one :=
  extract_of_rebuild_hs_exec basisPauli2 _ _ onh0_basisPauli2 Mat.one Mat.one Mat.one (by simp) (by simp)
example (lam : Vec CRat (4 * 4 - 1)) (V : Mat CRat (4 * 4 - 1) (4 * 4 - 1)) :=
  projIneq_dissipator basisPauli2 _ _ onh0_basisPauli2 Mat.one Mat.one lam V (by simp) (by simp)
example :
    let lam : Vec CRat (4 * 4 - 1) := Vec.ofFn fun _ => 1
    let hs := toHerm basisPauli2 (cbFromHjk basisPauli2 Mat.one Mat.one (diagC lam))
    toHerm basisPauli2 (cbFromHjk basisPauli2 (calcHMat basisPauli2 hs) (calcJMat basisPauli2 hs) (clipK lam Mat.one)) = hs := by
  intro lam hs
  exact projIneq_fixed_point basisPauli2 _ _ onh0_basisPauli2 Mat.one Mat.one (diagC lam) (by simp) (by simp) lam Mat.one
    (by rw [one_mul_diagC_adj_one]
        exact (extract_of_rebuild_hs_exec basisPauli2 _ _ onh0_basisPauli2 Mat.one Mat.one (diagC lam) (by simp) (by simp)).symm)
    (by intro i; simp [lam, Vec.get_ofFn, cltZero])
example (M : Mat Rat (4 * 4) (4 * 4))
    (hM : hsFromHk basisPauli2 Mat.one (Mat.one : Mat CRat (4 * 4 - 1) (4 * 4 - 1)) 0 0 = .ok M) : isTp M 0 = true :=
  hsFromHk_isTp basisPauli2 Mat.one Mat.one (by simp) (by intro a b; by_cases h : a = b <;> simp [Mat.one, h, eq_comm])
    ⟨0, by decide⟩ rfl (⟨1/2, 0⟩ : CRat) (by decide +kernel) 0 0 0 le_rfl M hM

section jumpthm
variable {K : Type} [Field K] [StarRing K] [CharZero K] [HasI K] {d : Nat}

/-- C18 jump operators, k part (positive statement, any non-empty list — 1..d² and beyond): `generate_k_part_cb_from_jump_operators`
acts as `ρ ↦ Σ_c c ρ c†`. -/
theorem jump_k_part_action (c : Mat K d d) (cs : List (Mat K d d)) (rho : Mat K d d) :
    ∃ L, kPartCbFromJump (c :: cs) = some L ∧
      (act L rho).toM = ((c :: cs).map fun x => x.toM * rho.toM * x.toMᴴ).sum := by
  obtain ⟨L, hL, hact⟩ := act_lsumM_map (fun x => kron x (conjM x)) c cs rho
  simp only [act_kron_conjM] at hact
  exact ⟨L, hL, hact⟩

/-- C18 jump operators, j part AS CODED (D13): `generate_j_part_cb_from_jump_operators` acts as `ρ ↦ −½ Σ_c (cρ + ρc†)` — built
from `c`, not from `c†c`. -/
theorem jump_j_part_action_coded (c : Mat K d d) (cs : List (Mat K d d)) (rho : Mat K d d) :
    ∃ L, jPartCbFromJump (c :: cs) = some L ∧
      (act L rho).toM = (-(1 / (two : K))) • ((c :: cs).map fun x => x.toM * rho.toM + rho.toM * x.toMᴴ).sum := by
  obtain ⟨L, hL, hact⟩ := act_lsumM_map jPart c cs rho
  refine ⟨L.smul (-(1 / two)), congrArg (Option.map fun s : Mat K (d * d) (d * d) => s.smul (-(1 / two))) hL, ?_⟩
  simp only [act_smul, hact, act_jPart]

/-- the GKSL anti-commutator part (the specification side of D13): `ρ ↦ −½ Σ_c (c†c ρ + ρ c†c)`. -/
theorem jump_j_part_action_gksl (c : Mat K d d) (cs : List (Mat K d d)) (rho : Mat K d d) :
    ∃ L, jPartCbFromJumpGksl (c :: cs) = some L ∧
      (act L rho).toM = (-(1 / (two : K))) •
        ((c :: cs).map fun x => x.toMᴴ * x.toM * rho.toM + rho.toM * (x.toMᴴ * x.toM)).sum := by
  obtain ⟨L, hL, hact⟩ := act_lsumM_map (fun x => jPart ((adj x).mul x)) c cs rho
  refine ⟨L.smul (-(1 / two)), congrArg (Option.map fun s : Mat K (d * d) (d * d) => s.smul (-(1 / two))) hL, ?_⟩
  simp only [act_smul, hact, act_jPart, Mat.toM_mul, toM_adj, Matrix.conjTranspose_mul,
    Matrix.conjTranspose_conjTranspose]

/-- C18 `generate_hs_from_h`: the H-only builder acts as `ρ ↦ −i(Hρ − ρH†)` (`= −i[H,ρ]` for Hermitian `H`). -/
theorem from_h_action (h rho : Mat K d d) :
    (act (cbFromH h) rho).toM = (-(ii : K)) • (h.toM * rho.toM - rho.toM * h.toMᴴ) :=
  act_hPart h rho

/-- C18 `generate_hs_from_k`: the K-only builder is the `(H, K)` builder at `H = 0`. -/
theorem from_k_action (B : Basis K d) (k : Mat K (d * d - 1) (d * d - 1)) (rho : Mat K d d) :
    (act (cbFromK B k) rho).toM = (act (cbFromHk B Mat.zero k) rho).toM := by
  unfold cbFromK cbFromHk
  rw [act_add, act_add, act_add, act_hPart]
  simp
end jumpthm

section cpthm
open scoped ComplexOrder
variable {d : Nat}

/-- the `⇐` direction for ANY basis: a PSD dissipator matrix gives a completely positive jump part. -/
theorem kPart_cp_of_K_psd (B : Basis ℂ d) (k : Mat ℂ (d * d - 1) (d * d - 1)) (hk : k.toM.PosSemidef) :
    (choiCb (kPart B k)).toM.PosSemidef := by
  rw [choiCb_kPart]
  exact hk.mul_mul_conjTranspose_same (vecB B)
/-- C18 `cp_iff_K_psd` (the completely-positive part of the verdict, for the jump part of the generator): for an
orthonormal Hermitian basis the Choi matrix of `ρ ↦ Σ_ab K_ab B_a ρ B_b†` (the model's `kPart`, the table
`basis_basisconjugate_T_sparse_from_1`) is `V K Vᴴ` with `VᴴV = 1`; hence that map is completely positive iff the
dissipator matrix `K` — what `is_cp` tests through `calc_k_mat` — is positive semidefinite. All dimensions.
(`⇐` needs no assumption on the basis. That `exp(tL)` is CP for all `t ≥ 0` iff `K` is PSD — Lindblad's theorem —
is not formalised.) -/
theorem cp_iff_K_psd (B : Basis ℂ d) (z : Fin (d * d)) (s : ℂ) (hB : ONH0 B z s)
    (k : Mat ℂ (d * d - 1) (d * d - 1)) :
    (choiCb (kPart B k)).toM.PosSemidef ↔ k.toM.PosSemidef := by
  refine ⟨fun h => ?_, kPart_cp_of_K_psd B k⟩
  have h1 := h.conjTranspose_mul_mul_same (vecB B)
  rw [choiCb_kPart] at h1
  have h2 : (vecB B)ᴴ * (vecB B * k.toM * (vecB B)ᴴ) * vecB B
      = ((vecB B)ᴴ * vecB B) * k.toM * ((vecB B)ᴴ * vecB B) := by
    simp only [Matrix.mul_assoc]
  rw [h2, vecB_orthonormal B z s hB, Matrix.one_mul, Matrix.mul_one] at h1
  exact h1

end cpthm

open scoped ComplexOrder in
example : ((choiCb (kPart basis1 (Mat.zero : Mat ℂ (1 * 1 - 1) (1 * 1 - 1)))).toM.PosSemidef ↔
    (Mat.zero : Mat ℂ (1 * 1 - 1) (1 * 1 - 1)).toM.PosSemidef) :=
  cp_iff_K_psd basis1 _ 1 onh0_basis1 _

open scoped ComplexOrder in
example : (choiCb (kPart basisPauli (Mat.one : Mat ℂ (2 * 2 - 1) (2 * 2 - 1)))).toM.PosSemidef :=
  (cp_iff_K_psd basisPauli _ sP onh0_basisPauli _).mpr (by simpa using Matrix.PosSemidef.one)

section expthm
variable {R : Type} [Field R] {n : Nat}

/-- C18 `exp_tp`, series form (any field, literally the executed instance `ℚ`): if the first row of `L`
vanishes, the first row of every partial sum `Σ_{k≤N} L^k/k!` is `e₀` — for all `N` and all sizes. `to_gate`
uses scipy's `expm`, tied to this series by the correspondence check; the limit statement is `exp_tp` below.
Complete positivity of `exp(L)` (Lindblad's theorem) is not proved at all. -/
theorem exp_series_tp (L : Mat R n n) (z : Fin n) (hL : ∀ j, L.get z j = 0) (N : Nat) (j : Fin n) :
    (expSeries L N).get z j = if z = j then 1 else 0 :=
  (expLoop_row0 L z hL N).1 j
end expthm

section expmathlib
open NormedSpace
open scoped Matrix.Norms.Operator

/-- C18 `exp_tp`: for Mathlib's matrix exponential (`NormedSpace.exp`, the limit of the series): if the first
row of the generator `L` vanishes then the first row of `exp L` is `e₀` — the gate obtained by exponentiating a
trace-annihilating generator is trace preserving, in every dimension. (Proof: `e₀ᵀ Lᵏ = 0` for `k ≥ 1` and
continuity of the entry functional applied to the exponential series.) -/
theorem exp_tp {n : Nat} (L : Mat ℝ n n) (z : Fin n) (hL : ∀ j, L.get z j = 0) (j : Fin n) :
    (exp L.toM) z j = if z = j then 1 else 0 :=
  exp_row0 L.toM z (fun j => by simpa using hL j) j

/-- the executed truncated series `expSeries L N` (the model's independent reference for `to_gate`) is the
`N`-th partial sum of the series defining Mathlib's `exp L`. -/
theorem expSeries_eq_partial_sum {n : Nat} (L : Mat ℝ n n) (N : Nat) :
    (expSeries L N).toM = ∑ i ∈ Finset.range (N + 1), ((i.factorial : ℝ)⁻¹) • L.toM ^ i :=
  (expLoop_toM L N).2
end expmathlib


/-! ## the hypotheses are satisfiable; the jump-operator builder as coded is not the GKSL one (D13)

`ONH0` (from which `Complete` follows: `complete_of_onh0`) is what the implementation checks at construction time
(`is_orthonormal_hermitian_0thprop_identity`) and what the harness re-checks numerically for every basis it
uses (normalised Pauli, Gell-Mann, their tensor products and random rotations of them). Proved instances: the
one-dimensional basis and the one-qubit Pauli basis over `ℂ` (`onh0_basis1`, `onh0_basisPauli`), the two-qubit Pauli basis
over `CRat` (`onh0_basisPauli2`); the Gell-Mann bases (which need `√3`) are not instantiated. -/
section examples

example : (ii : ℂ) * ii = -1 := Complex.I_mul_I

/-- D13 (negation witness for "built from jump operators ⇒ acts as GKSL prescribes"): as coded, the
anti-commutator part is built from `c` instead of `c†c`; for `c = (2)` the coded generator is `ρ ↦ 2ρ`
while the GKSL dissipator `cρc† − ½{c†c, ρ}` vanishes. -/
theorem jump_operators_gksl_fails :
    ¬ ∀ (d : Nat) (cs : List (Mat ℂ d d)), dPartCbFromJump cs = dPartCbFromJumpGksl cs := by
  intro h
  have h1 := congrArg (Option.map fun L => L.get ⟨0, by decide⟩ ⟨0, by decide⟩) (h 1 [c2])
  have e1 : (dPartCbFromJump [c2]).map (fun L => L.get ⟨0, by decide⟩ ⟨0, by decide⟩) = some 2 := by
    simp [dPartCbFromJump, jPartCbFromJump, kPartCbFromJump, lsumM, c2, two, kron, conjM, Mat.smul,
      Mat.add, Mat.one, conj_eq_star, Mat.get_ofFn]
    rw [show (starRingEnd ℂ) 2 = 2 from map_ofNat _ 2]
    norm_num
  have e2 : (dPartCbFromJumpGksl [c2]).map (fun L => L.get ⟨0, by decide⟩ ⟨0, by decide⟩) = some 0 := by
    simp [dPartCbFromJumpGksl, jPartCbFromJumpGksl, kPartCbFromJump, lsumM, c2, two, kron, conjM, adj,
      Mat.smul, Mat.add, Mat.mul, Mat.one, conj_eq_star, Mat.get_ofFn, fsum_eq_sum]
    rw [show (starRingEnd ℂ) 2 = 2 from map_ofNat _ 2]
    norm_num
  rw [e1, e2] at h1
  norm_num at h1

/-- `extract_j_of_rebuild` instantiated: in dimension 1 `calc_j_mat` of the generator `ρ ↦ 2ρ` (`J = 1`) is `J`. -/
example : (calcJMatCb basis1 (cbFromHjk basis1 Mat.zero Mat.one Mat.zero)).toM = (Mat.one : Mat ℂ 1 1).toM :=
  extract_j_of_rebuild basis1 _ 1 onh0_basis1 _ _ _ (by simp) (by simp)
end examples

end QM.C18
