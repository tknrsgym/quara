import QProofs.C07
import QGen.C07
import QProofs.C07Embed
/-!
# C07 — property theorems: tensor products and embeddings respect subsystem structure

Statements are about the executable definitions of `QModel/C07.lean`; unbounded in all dimensions, numbers of
subsystems and list lengths unless the doc comment says "finite table".
-/
open Matrix
namespace QM.C07
open QM

section kernels
variable {K : Type} [CommSemiring K]

/-- C07 `K_swaps`: the commutation matrix `_K(a, b)` swaps tensor factors, `K(a,b)·(u ⊗ v) = v ⊗ u`,
for all dimensions `a`, `b` (`u ∈ K^b`, `v ∈ K^a`). -/
theorem K_swaps (a b : Nat) (u : Vec K b) (v : Vec K a) :
    (Kmat a b).mulVec (kronVec u v) = kronVec v u := by
  apply Vec.ext'; intro r
  simp only [Mat.mulVec, Vec.get_ofFn, fsum_eq_sum, Kmat_entry, ite_mul, one_mul, zero_mul, Finset.sum_ite_eq',
    Finset.mem_univ, if_true, kronVec]
  simp only [swapIdx, fdiv_pair, fmod_pair, mul_comm]

/-- C07 `hs_tensor`: `_tensor_product_hs_hs` before the subsystem permutation — Kronecker product of the flattened
HS matrices, vec-permutation `I ⊗ K(d2,d1) ⊗ I`, reshape — *is* the Kronecker product of the HS matrices,
for all sizes. (So a product gate acts factor-wise: `HS(g1 ⊗ g2) = HS(g1) ⊗ HS(g2)` in the product basis.) -/
theorem hs_tensor {n1 n2 : Nat} (A : Mat K n1 n1) (B : Mat K n2 n2) : tensorHsHs A B = kron A B := by
  apply Mat.ext'; intro i j
  simp only [tensorHsHs, reshape, Mat.get_ofFn, get_cast, mulVecFn, Vec.get_ofFn, fsum_eq_sum, kron]
  have ht : ∀ h, Fin.cast (hsSize₂ n1 n2).symm ⟨i.val * (n1 * n2) + j.val, h⟩
      = pair (pair (fdiv i) (pair (fmod i) (fdiv j))) (fmod j) := fun _ => Fin.ext <| by
    rw [pair_assoc_val, pair_fdiv_fmod, pair_fdiv_fmod, pair_val]; rfl
  have hs : Fin.cast (hsSize₁ n1 n2).symm (pair (pair (fdiv i) (pair (fdiv j) (fmod i))) (fmod j))
        = pair (pair (fdiv i) (fdiv j)) (pair (fmod i) (fmod j)) := Fin.ext (pair_assoc_val _ _ _ _)
  -- row `((x, (y, z)), w)` of `I ⊗ K ⊗ I` has its single 1 in column `((x, (z, y)), w)`
  have hperm : ∀ k : Fin (n1 * (n1 * n2) * n2),
      ((if fdiv i = fdiv (fdiv k) then (1 : K) else 0) *
          (if fmod (fdiv k) = swapIdx (pair (fmod i) (fdiv j)) then 1 else 0))
        * (if fmod j = fmod k then 1 else 0)
      = if k = pair (pair (fdiv i) (pair (fdiv j) (fmod i))) (fmod j) then 1 else 0 := by
    intro k
    simp only [swapIdx, fdiv_pair, fmod_pair, ite_zero_mul_ite_zero, mul_one, pair_eq_iff (i := k),
      pair_eq_iff (i := fdiv k), @eq_comm _ (fdiv i), @eq_comm _ (fmod j)]
  simp only [ht, fdiv_pair, fmod_pair, Kmat_entry, hperm]
  simp only [ite_mul, one_mul, zero_mul, Finset.sum_ite_eq', Finset.mem_univ, if_true, hs, kronVec, flatten,
    Vec.get_ofFn, fdiv_pair, fmod_pair]

/-- mixed-product property, the reason a product gate maps product states to product states:
`(A ⊗ B)(x ⊗ y) = (A x) ⊗ (B y)`. -/
theorem product_gate_action {a b c d : Nat} (A : Mat K a b) (B : Mat K c d) (x : Vec K b) (y : Vec K d) :
    (kron A B).mulVec (kronVec x y) = kronVec (A.mulVec x) (B.mulVec y) := by
  apply Vec.ext'; intro i
  simp only [Mat.mulVec, kron, kronVec, Vec.get_ofFn, Mat.get_ofFn, fsum_eq_sum]
  exact sum_pair_mul (K := K) _ _ _ _

/-- C07 single-swap lemma: the vec-permutation `I_H ⊗ K(p,q) ⊗ I_T` that `_left_permutation_matrix` builds (`H`, `T`
the products of the sizes before / after the swapped pair, `leftPerm_explicit`) exchanges the two adjacent tensor
factors and leaves the rest alone — for all sizes. -/
theorem left_perm_single_swap (H p q T : Nat) (xh : Vec K H) (u : Vec K q) (v : Vec K p) (xt : Vec K T) :
    (kron (kron (Mat.one : Mat K H H) (Kmat p q)) (Mat.one : Mat K T T)).mulVec
        (kronVec (kronVec xh (kronVec u v)) xt)
      = kronVec (kronVec xh (kronVec v u)) xt := by
  rw [product_gate_action, product_gate_action, Mat.one_mulVec, Mat.one_mulVec, K_swaps]

end kernels

/-- the driver's large-input path (`kron` substituted for the vec-permutation pipeline) computes the same
function as the model of the code as written. -/
theorem tensorObjExec_eq : tensorObjExec = tensorObj := by
  unfold tensorObjExec tensorObj
  congr 1
  funext n1 n2 A B
  exact (hs_tensor A B).symm

def isShapeErr {α : Type} : Except Err α → Bool
  | .error .shape => true
  | _ => false

/-! ### the bubble sort on subsystem names (`calc_permutation_matrix` loop) -/

/-- C07 `perm_sorts`, control part: whenever the loop of `calc_permutation_matrix` returns, the final
`tmp_system_order` is ascending and is a rearrangement of the input order — for every `_left_permutation_matrix`
implementation `lp`, every number of subsystems and every fuel. -/
theorem calcPermLoop_sorted {K : Type} [Add K] [Mul K] [Zero K] [One K]
    (lp : Nat → List Nat → Except Err (DMat K)) (fuel : Nat) (order sizes : List Nat) (perm : DMat K)
    (P : DMat K) (o s : List Nat) (h : calcPermLoop lp fuel order sizes perm = .ok (P, o, s)) :
    o.Pairwise (· ≤ ·) ∧ o.Perm order := by
  obtain ⟨hp, hc⟩ := calcPermLoop_inv lp (fun o' _ _ => o'.Perm order)
    (fun hc _ _ hp => (checkCross_swap _ _ hc).1.trans hp) h (List.Perm.refl _)
  exact ⟨checkCross_none _ hc, hp⟩

/-- `_left_permutation_matrix` never produces the model's fuel error -/
theorem leftPerm_ne_fuel {K : Type} [Add K] [Mul K] [Zero K] [One K] (pos : Nat) (sizes : List Nat) :
    leftPerm (K := K) pos sizes ≠ .error .fuel := by
  rw [leftPerm_eq]
  split <;> simp

/-- C07 `perm_sorts`, termination: the model's loop bound is never hit — the loop performs at most
`#inversions ≤ k²` adjacent swaps (each swap removes exactly one inversion), so `calc_permutation_matrix`
terminates for every order and the `fuel` error of the model is unreachable. -/
theorem calcPermLoop_fuel_suffices {K : Type} [Add K] [Mul K] [Zero K] [One K]
    (lp : Nat → List Nat → Except Err (DMat K)) (hlp : ∀ p s, lp p s ≠ .error .fuel)
    (fuel : Nat) (order sizes : List Nat) (perm : DMat K) (hf : inv order < fuel) :
    calcPermLoop lp fuel order sizes perm ≠ .error .fuel := by
  induction fuel, order, sizes, perm using calcPermLoop.induct lp with
  | case1 => omega
  | case2 _ _ _ _ hc => rw [calcPermLoop, hc]; exact fun h => nomatch h
  | case3 _ _ _ _ _ hc _ hl => simp only [calcPermLoop, hc, hl]; rintro ⟨⟩; exact hlp _ _ hl
  | case4 _ _ _ _ _ hc _ hl _ hm =>
    simp only [calcPermLoop, hc, hl, hm]
    rintro ⟨⟩
    unfold DMat.mul at hm
    split at hm <;> cases hm
  | case5 _ _ _ _ _ hc _ hl _ hm ih =>
    simp only [calcPermLoop, hc, hl, hm]
    exact ih (by have := (checkCross_swap _ _ hc).2; omega)

/-- corollary for `calc_permutation_matrix` as coded -/
theorem calcPerm_never_fuel {K : Type} [Add K] [Mul K] [Zero K] [One K] (order sizes : List Nat) :
    calcPerm (K := K) order sizes ≠ .error .fuel := by
  have := calcPermLoop_fuel_suffices (K := K) leftPerm leftPerm_ne_fuel _ order sizes (DMat.eye (prodL sizes))
    (Nat.lt_succ_of_le (inv_le_sq order))
  unfold calcPerm
  generalize calcPermLoop (K := K) leftPerm _ _ _ _ = r at this ⊢
  cases r with
  | ok v => exact fun h => nomatch h
  | error e => exact fun h => this (by cases h; rfl)

/-! ### the semantic loop invariant (any number of subsystems) -/
section listlevel
variable {K : Type} [CommSemiring K]

/-- single swap on lists: the matrix of `_left_permutation_matrix` at an adjacent pair of a list of vectors (the
images under `f` of a list of labels) exchanges the two factors of their tensor product -/
theorem leftPerm_swap_kronAll {α : Type} (f : α → List K) (pre : List α) (a b : α) (post : List α) :
    ∃ M : DMat K, leftPerm (K := K) (pre.length + 1) (((pre ++ a :: b :: post).map f).map List.length) = .ok M ∧
      M.r = prodL (((pre ++ b :: a :: post).map f).map List.length) ∧
      M.c = prodL (((pre ++ a :: b :: post).map f).map List.length) ∧
      M.mulVecL (kronAll ((pre ++ a :: b :: post).map f)) = .ok (kronAll ((pre ++ b :: a :: post).map f)) := by
  have hM := leftPerm_explicit (K := K) ((pre.map f).map List.length) (f a).length (f b).length
    ((post.map f).map List.length)
  rw [List.length_map, List.length_map] at hM
  simp only [List.map_append, List.map_cons, prodL_append, prodL_cons, kronAll_append, kronAll]
  refine ⟨_, hM, by dsimp only; rw [Nat.mul_assoc, Nat.mul_assoc], by dsimp only; rw [Nat.mul_assoc, Nat.mul_assoc], ?_⟩
  have := mulVecL_toList ⟨_, _, kron (kron (Mat.one : Mat K (prodL ((pre.map f).map List.length)) _)
      (Kmat (f b).length (f a).length)) (Mat.one : Mat K (prodL ((post.map f).map List.length)) _)⟩
    (kronVec (kronVec (ofList _ _ (kronAll_length (pre.map f))) (kronVec (ofList (f a) _ rfl) (ofList (f b) _ rfl)))
      (ofList _ _ (kronAll_length (post.map f))))
  -- the typed statement, read on lists; both sides compared in right-nested form
  simpa only [left_perm_single_swap, kronVec_toList, ofList_toList, kronLG_assoc] using this

/-- C07 `perm_sorts`, the semantic loop invariant, any number of subsystems, on one list of (name, vector) pairs: if
the accumulated matrix maps `x₀` to the tensor product of the vectors in the current order, the loop of
`calc_permutation_matrix` returns a matrix mapping `x₀` to the tensor product in the final order, which is ascending in
the names and a rearrangement of the pairs. -/
theorem calcPermLoop_semantic (fuel : Nat) (nv : List (Nat × List K)) (perm : DMat K) (x0 : List K)
    (hr : perm.r = prodL ((nv.map Prod.snd).map List.length))
    (hinv : perm.mulVecL x0 = .ok (kronAll (nv.map Prod.snd))) (hf : inv (nv.map Prod.fst) < fuel) :
    ∃ (P : DMat K) (nv' : List (Nat × List K)),
      calcPermLoop (K := K) leftPerm fuel (nv.map Prod.fst) ((nv.map Prod.snd).map List.length) perm
        = .ok (P, nv'.map Prod.fst, (nv'.map Prod.snd).map List.length) ∧
      P.mulVecL x0 = .ok (kronAll (nv'.map Prod.snd)) ∧ (nv'.map Prod.fst).Pairwise (· ≤ ·) ∧ nv'.Perm nv := by
  have key := calcPermLoop_terminates leftPerm
    (fun o s M => ∃ nv' : List (Nat × List K), o = nv'.map Prod.fst ∧ s = (nv'.map Prod.snd).map List.length ∧
      nv'.Perm nv ∧ M.r = prodL ((nv'.map Prod.snd).map List.length) ∧ M.mulVecL x0 = .ok (kronAll (nv'.map Prod.snd)))
    ?_ fuel _ _ perm hf ⟨nv, rfl, rfl, .refl _, hr, hinv⟩
  · obtain ⟨P, _, _, h, ⟨nv', rfl, rfl, hp, _, hP⟩, hc⟩ := key
    exact ⟨P, nv', h, hP, checkCross_none _ hc, hp⟩
  · rintro _ _ M pos hc ⟨nv', rfl, rfl, hp, hMr, hM⟩
    obtain ⟨pre, x, y, post, rfl, rfl, hlt⟩ := checkCross_map_some _ _ _ hc
    obtain ⟨L, hL, hLr, hLc, hLv⟩ := leftPerm_swap_kronAll (K := K) Prod.snd pre x y post
    obtain ⟨perm', hmul, hpr, _⟩ := mul_ok L M (hLc.trans hMr.symm)
    refine ⟨L, perm', hL, hmul, pre ++ y :: x :: post, ?_, ?_, (List.Perm.append_left _ (List.Perm.swap _ _ _)).trans hp,
      hpr.trans hLr, by rw [mul_mulVecL L M _ hmul x0 _ hM, hLv]⟩
    · rw [swapAt_map, swapAt_decomp]
    · rw [swapAt_map, swapAt_map, swapAt_decomp]

/-- C07 `perm_sorts` (unbounded): for every order of any number of subsystems, one vector per subsystem,
`calc_permutation_matrix(order, sizes) · (v_σ1 ⊗ … ⊗ v_σk)` is the tensor product of the same vectors arranged with
the names ascending. -/
theorem calcPerm_sorts (order : List Nat) (vs : List (List K)) (hlen : order.length = vs.length) :
    ∃ (P : DMat K) (o : List Nat) (vs' : List (List K)), calcPerm (K := K) order (vs.map List.length) = .ok P ∧
      P.mulVecL (kronAll vs) = .ok (kronAll vs') ∧ o.Pairwise (· ≤ ·) ∧ (o.zip vs').Perm (order.zip vs) ∧
      o.length = order.length ∧ vs'.length = vs.length := by
  have h1 : (order.zip vs).map Prod.fst = order := List.map_fst_zip (Nat.le_of_eq hlen)
  have h2 : (order.zip vs).map Prod.snd = vs := List.map_snd_zip (Nat.le_of_eq hlen.symm)
  obtain ⟨P, nv', h, hP, hs, hp⟩ := calcPermLoop_semantic (order.length * order.length + 1) (order.zip vs)
    (DMat.eye (prodL (vs.map List.length))) (kronAll vs) (by rw [h2]; rfl)
    (by rw [h2]; exact eye_mulVecL _ (kronAll_length vs))
    (by rw [h1]; exact Nat.lt_succ_of_le (inv_le_sq order))
  rw [h1, h2] at h
  refine ⟨P, nv'.map Prod.fst, nv'.map Prod.snd, (calcPerm_eq_ok _ _ _).2 ⟨_, _, h⟩, hP, hs, ?_, ?_, ?_⟩
  · rwa [← List.unzip_fst, ← List.unzip_snd, List.zip_unzip]
  · rw [← h1]; exact (hp.map _).length_eq
  · rw [← h2]; exact (hp.map _).length_eq

/-- C07 `perm_sorts`, `calc_permutation_matrix` is total: for every order of any number of subsystems with one
size per name it returns a matrix (no matmul shape error, for any number of subsystems). -/
theorem calcPerm_total (order sizes : List Nat) (hlen : order.length = sizes.length) :
    ∃ P, calcPerm (K := K) order sizes = .ok P := by
  -- `calcPerm_sorts` on zero vectors of the given sizes: the vectors enter `calcPerm` through their lengths only
  obtain ⟨P, _, _, h, _⟩ := calcPerm_sorts (K := K) order (sizes.map fun n => List.replicate n 0) (by simpa using hlen)
  have e : (sizes.map fun n => List.replicate n (0 : K)).map List.length = sizes := by
    rw [List.map_map]; exact (List.map_congr_left fun n _ => List.length_replicate).trans (List.map_id _)
  exact ⟨P, e ▸ h⟩

end listlevel


/-! ### the executed object-level path (`ratPerm`, `tensorStateState`) -/

/-- the driver's `ratPerm` (integer matrix, entries cast to ℚ) is `calc_permutation_matrix` over ℚ -/
theorem ratPerm_eq_calcPerm (order sizes : List Nat) : ratPerm order sizes = calcPerm (K := Rat) order sizes := by
  rw [← map_calcPerm (Int.castRingHom ℚ) order sizes]
  unfold ratPerm
  cases calcPerm (K := Int) order sizes <;> simp [Except.map, bind, Except.bind, pure, Except.pure, DMat.map]

/-- C07 "the tensor product … denotes the Kronecker product of their operators arranged in ascending subsystem name,
whatever the order … of the arguments", on the **executed** `_tensor_product_State_State` (`tensorStateState`, the
function behind the `tensor` / `fold` driver ops): for operands that are themselves tensor products of one vector per
elemental system (in particular for any two states on single subsystems, `vs = [v]`), of any number and dimensions of
subsystems with distinct names, the result is the sorted composite system together with the tensor product of the
same vectors rearranged with their names ascending. Partial: operands on several subsystems are covered in product
form only (the extension to entangled inputs by linearity is not proved), and the analogous statements for the
POVM / gate / measurement-process branches rest on `calcPerm_sorts`, `hs_tensor` and the correspondence. -/
theorem tensorStateState_product_partial (s1 s2 : List ESys) (vs1 vs2 : List (List Rat))
    (hnd : ((s1 ++ s2).map (·.1)).Nodup)
    (h1 : vs1.map List.length = s1.map fun x => sq x.2) (h2 : vs2.map List.length = s2.map fun x => sq x.2) :
    ∃ (o : List Nat) (vs' : List (List Rat)),
      tensorStateState s1 (kronAll vs1) s2 (kronAll vs2) = .ok ((s1 ++ s2).foldr insertSorted [], kronAll vs') ∧
      o.Pairwise (· ≤ ·) ∧ (o.zip vs').Perm (((s1 ++ s2).map (·.1)).zip (vs1 ++ vs2)) ∧
      o.length = (s1 ++ s2).length ∧ vs'.length = (vs1 ++ vs2).length := by
  have hsz : (s1 ++ s2).map (fun x => sq x.2) = (vs1 ++ vs2).map List.length := by
    simp [h1, h2]
  have hlen : ((s1 ++ s2).map (·.1)).length = (vs1 ++ vs2).length := by
    simpa only [List.length_map] using congrArg List.length hsz
  obtain ⟨P, o, vs', hP, hv, hs, hp, hlo, hlv⟩ := calcPerm_sorts (K := Rat) ((s1 ++ s2).map (·.1)) (vs1 ++ vs2) hlen
  refine ⟨o, vs', ?_, hs, hp, by simpa using hlo, hlv⟩
  unfold tensorStateState
  simp only [mkCSys, hnd, if_true, bind, Except.bind, pure, Except.pure, ratPerm_eq_calcPerm, hsz, hP]
  rw [kronL_eq, ← kronAll_append, hv]

/-- non-vacuity of `tensorStateState_product_partial`: a qutrit state on subsystem 5 and a qubit state on subsystem 2
(argument order descending, different dimensions) -/
example : (([(5, 3)] ++ [(2, 2)] : List ESys).map (·.1)).Nodup ∧
    [List.replicate 9 (1 / 3 : Rat)].map List.length = [(5, 3)].map (fun x : ESys => sq x.2) ∧
    [[(1 : Rat), 0, 0, 1]].map List.length = [(2, 2)].map (fun x : ESys => sq x.2) := by
  decide

/-- non-vacuity of `calcPerm_sorts` / `calcPerm_total`: four subsystems of sizes 2,3,2,3 out of order -/
example : ∃ P, calcPerm (K := Int) [1, 0, 3, 2] [2, 3, 2, 3] = .ok P := calcPerm_total _ _ rfl

/-! ### tie to the source: the model equals the definitions regenerated from matrix_util.py on every run -/

/-- `_left_permutation_matrix` of the model is built from exactly the head / tail identity sizes, `_K` arguments and
`kron` nesting that `harness/c07_translate.py` reads off the current source (QGen/C07.lean): an edit of any of those
expressions (e.g. `reduce(add, …)`, the defect D7) makes this proof fail. -/
theorem leftPerm_matches_source {K : Type} [Add K] [Mul K] [Zero K] [One K] (position : Nat) (sizes : List Nat) :
    leftPerm (K := K) position sizes =
      match QGen.C07.kArgs position sizes with
      | (some sp, some sq) =>
          .ok (((DMat.eye (QGen.C07.headSize position sizes)).kron ⟨sp * sq, sq * sp, Kmat sp sq⟩).kron
                (DMat.eye (QGen.C07.tailSize position sizes)))
      | _ => .error .index := by
  unfold leftPerm QGen.C07.kArgs QGen.C07.headSize QGen.C07.tailSize QGen.C07.redMul prodL
  cases sizes[position]? <;> cases sizes[position - 1]? <;> rfl

/-- the two tuple swaps of the `calc_permutation_matrix` loop, as read off the source: `swapAt` of the model performs
exactly the generated swaps (a no-op swap of `tmp_size_list`, seeded change C07-2, breaks this). The last conjunct is
only a tripwire on the generated constant (`perm_matrix = left_perm @ perm_matrix` has the new factor on the left, as
`calcPermLoop`'s `left.mul perm`); `_check_cross_system_position`, `_K` and operators.py are not regenerated — those
are tied by the correspondence only. -/
theorem calcPerm_loop_matches_source (pre : List Nat) (a b : Nat) (post : List Nat) :
    swapAt (pre ++ a :: b :: post) (pre.length + 1)
        = pre ++ (QGen.C07.swapOrder (a, b)).1 :: (QGen.C07.swapOrder (a, b)).2 :: post ∧
      swapAt (pre ++ a :: b :: post) (pre.length + 1)
        = pre ++ (QGen.C07.swapSizes (a, b)).1 :: (QGen.C07.swapSizes (a, b)).2 :: post ∧
      QGen.C07.accumOnLeft = true := by
  refine ⟨?_, ?_, rfl⟩ <;> simp [QGen.C07.swapOrder, QGen.C07.swapSizes, swapAt_decomp]

example : leftPerm (K := Int) 1 [2, 3] = .ok (((DMat.eye 1).kron ⟨3 * 2, 2 * 3, Kmat 3 2⟩).kron (DMat.eye 1)) := by
  rw [leftPerm_matches_source]; rfl

/-! ### the permutation matrix is orthogonal -/
section orthoprops
variable {K : Type} [CommSemiring K]

/-- every `_left_permutation_matrix` is orthogonal (`I ⊗ K ⊗ I` with `KᵀK = 1`) -/
theorem leftPerm_ortho (pos : Nat) (sizes : List Nat) (M : DMat K) (h : leftPerm (K := K) pos sizes = .ok M) :
    M.IsOrtho := by
  rw [leftPerm_matches_source] at h
  split at h
  · injection h with h; subst h
    apply kron_ortho _ _ (kron_ortho _ _ (eye_ortho _) ?_) (eye_ortho _)
    exact Kmat_orthogonal _ _
  · cases h

/-- C07: the matrix returned by `calc_permutation_matrix` is orthogonal, `PᵀP = 1`, for every order, any number of
subsystems and any sizes (it is a product of `I ⊗ K(p,q) ⊗ I` factors) — so `P · t · Pᵀ` in `_tensor_product_hs_hs`
is a similarity transformation and `Pᵀ` undoes `P`. -/
theorem calcPerm_orthogonal (order sizes : List Nat) (P : DMat K) (h : calcPerm (K := K) order sizes = .ok P) :
    P.IsOrtho := by
  obtain ⟨o, s, hl⟩ := (calcPerm_eq_ok _ _ _).1 h
  refine (calcPermLoop_inv leftPerm (fun _ _ M => M.IsOrtho) (fun _ hl hm hM => ?_) hl (eye_ortho _)).1
  exact mul_ortho _ _ _ hm (leftPerm_ortho _ _ _ hl) hM

/-- the same for the matrix the driver uses (`ratPerm`) -/
theorem ratPerm_orthogonal (order sizes : List Nat) (P : DMat Rat) (h : ratPerm order sizes = .ok P) : P.IsOrtho :=
  calcPerm_orthogonal order sizes P (ratPerm_eq_calcPerm order sizes ▸ h)

/-- non-vacuity: a four-subsystem order on which `calc_permutation_matrix` returns a matrix -/
example : ∃ P, calcPerm (K := Rat) [3, 1, 2, 0] [4, 9, 4, 4] = .ok P := calcPerm_total _ _ rfl

end orthoprops

/-! ### the executed gate product `P(A⊗B)Pᵀ` intertwines with the re-ordering `P` -/

theorem ratPerm_cols (order sizes : List Nat) (P : DMat Rat) (h : ratPerm order sizes = .ok P) :
    P.c = prodL sizes := by
  rw [ratPerm_eq_calcPerm] at h
  obtain ⟨o, s, hl⟩ := (calcPerm_eq_ok _ _ _).1 h
  refine (calcPermLoop_inv leftPerm (fun _ _ M => M.c = prodL sizes) (fun _ _ hm h0 => ?_) hl rfl).1
  obtain ⟨_, rfl⟩ := mul_eq_ok hm
  exact h0

/-- C07 "a product gate … acts factor-wise … whatever the order of the arguments", on the **executed**
`_tensor_product_hs_hs` (`tensorHsWith` with the `kron` core the driver runs, `= tensorHsHs` by `hs_tensor`): the
result is `R = P·(A⊗B)·Pᵀ` with `P` the subsystem re-ordering, and for **every** vector `x` (entangled or not)
`R·(P·x) = P·((A⊗B)·x)` — the product gate maps the re-ordered image of `x` to the re-ordered image of `(A⊗B)x`; for
`x = x₁⊗x₂` the latter is the re-ordering of `(A x₁)⊗(B x₂)` (`product_gate_action`, `calcPerm_sorts`). Any number
and dimensions of subsystems behind `A` and `B`; needs only that the sizes multiply up (`hdim`). -/
theorem tensorHs_intertwines (n1 n2 : Nat) (A : Mat Rat n1 n1) (B : Mat Rat n2 n2) (e : List ESys)
    (hdim : prodL (e.map fun x => sq x.2) = n1 * n2) :
    ∃ (P R : DMat Rat), ratPerm (e.map (·.1)) (e.map fun x => sq x.2) = .ok P ∧
      tensorHsWith (fun A B => kron A B) ⟨n1, n1, A⟩ ⟨n2, n2, B⟩ e = .ok R ∧
      ∀ x y z, P.mulVecL x = .ok y → (⟨n1 * n2, n1 * n2, kron A B⟩ : DMat Rat).mulVecL x = .ok z →
        R.mulVecL y = P.mulVecL z := by
  obtain ⟨P, hP⟩ : ∃ P, ratPerm (e.map (·.1)) (e.map fun x => sq x.2) = .ok P := by
    rw [ratPerm_eq_calcPerm]; exact calcPerm_total _ _ (by simp)
  have hc := ratPerm_cols _ _ P hP
  have hortho := ratPerm_orthogonal _ _ P hP
  rw [hdim] at hc
  obtain ⟨PT, hpt, _, hptc⟩ := mul_ok P ⟨n1 * n2, n1 * n2, kron A B⟩ hc
  obtain ⟨R, hR, _, _⟩ := mul_ok PT P.transpose (hptc.trans hc.symm)
  refine ⟨P, R, hP, ?_, conj_mulVecL_of_ortho hortho hpt hR⟩
  unfold tensorHsWith
  simp only [and_self, dite_true, bind, Except.bind, hP, hpt]
  exact hR

/-- non-vacuity of `tensorHs_intertwines` (`hdim`): a qutrit gate on subsystem 5 and a qubit gate on subsystem 2 -/
example : prodL (([(5, 3), (2, 2)] : List ESys).map fun x => sq x.2) = 9 * 4 := by decide

/-- the mixed-product property for the run-time-sized Kronecker matrix on lists -/
theorem kron_mulVecL (n1 n2 : Nat) (A : Mat Rat n1 n1) (B : Mat Rat n2 n2) (x1 x2 : List Rat)
    (h1 : x1.length = n1) (h2 : x2.length = n2) :
    (⟨n1 * n2, n1 * n2, kron A B⟩ : DMat Rat).mulVecL (kronLG x1 x2)
      = .ok (kronLG (A.mulVec (ofList x1 n1 h1)).toList (B.mulVec (ofList x2 n2 h2)).toList) := by
  have := mulVecL_toList ⟨n1 * n2, n1 * n2, kron A B⟩ (kronVec (ofList x1 n1 h1) (ofList x2 n2 h2))
  simpa only [product_gate_action, kronVec_toList, ofList_toList] using this

/-- C07 "a product gate … acts factor-wise", on the **executed** `_tensor_product_hs_hs`, whatever the order of the
arguments: for the product `R` of two gates `A`, `B` (on any number of subsystems each) and a product input
`x₁ ⊗ x₂`, `R` maps the re-ordered image `P·(x₁⊗x₂)` to the re-ordered image `P·((A x₁)⊗(B x₂))` of the factor-wise
outputs, `P` being `calc_permutation_matrix` of the argument order (which `calcPerm_sorts` identifies as the
rearrangement into ascending subsystem name). -/
theorem tensorHs_product_action (n1 n2 : Nat) (A : Mat Rat n1 n1) (B : Mat Rat n2 n2) (e : List ESys)
    (hdim : prodL (e.map fun x => sq x.2) = n1 * n2) (x1 x2 : List Rat) (h1 : x1.length = n1) (h2 : x2.length = n2) :
    ∃ (P R : DMat Rat) (y : List Rat), ratPerm (e.map (·.1)) (e.map fun x => sq x.2) = .ok P ∧
      tensorHsWith (fun A B => kron A B) ⟨n1, n1, A⟩ ⟨n2, n2, B⟩ e = .ok R ∧
      P.mulVecL (kronLG x1 x2) = .ok y ∧
      R.mulVecL y = P.mulVecL (kronLG (A.mulVec (ofList x1 n1 h1)).toList (B.mulVec (ofList x2 n2 h2)).toList) := by
  obtain ⟨P, R, hP, hR, hint⟩ := tensorHs_intertwines n1 n2 A B e hdim
  have hc := ratPerm_cols _ _ P hP
  rw [hdim] at hc
  have hlen : (kronLG x1 x2).length = P.c := by rw [kronLG_length, h1, h2, hc]
  have hy := mulVecL_of_length P (kronLG x1 x2) hlen
  exact ⟨P, R, _, hP, hR, hy, hint _ _ _ hy (kron_mulVecL n1 n2 A B x1 x2 h1 h2)⟩

/-- non-vacuity of `tensorHs_product_action`: a qutrit gate on subsystem 5 and a qubit gate on subsystem 2, inputs of
lengths 9 and 4 -/
example : prodL (([(5, 3), (2, 2)] : List ESys).map fun x => sq x.2) = 9 * 4 ∧
    (List.replicate 9 (1 : Rat)).length = 9 ∧ ([1, 0, 0, 1] : List Rat).length = 4 := by decide


/-! ### the measurement-process layout (open defect D7b) -/

/-- HS matrices of a 1-dimensional system (1×1) — enough to exhibit an outcome layout -/
def hs1 (x : Rat) : DMat Rat := ⟨1, 1, #v[#v[x]]⟩

def mpEntries : Except Err TObj → Option (List Nat × List (List Rat))
  | .ok (.mprocess _ shape hss) => some (shape, hss.map (·.entries))
  | _ => none

/-- D7b (`_tensor_product_MProcess_MProcess`, operators.py:219): the outcome layout contradicts the reported
shape. For outcome maps `[2,3]` on system 0 and `[5,7,11]` on system 1 the product reports shape `[2,3]` but
stores `[10,15,14,21,22,33]`; laid out as the shape says (first index slow) it must be `[10,14,22,15,21,33]`
— e.g. entry `(0,1)` holds `3·5` instead of `2·7`. -/
theorem mprocess_product_layout_fails :
    ¬ ∀ (a b : List Rat),
        mpEntries (tensorObj (.mprocess [(0, 1)] [a.length] (a.map hs1)) (.mprocess [(1, 1)] [b.length] (b.map hs1)))
          = some ([a.length, b.length], a.flatMap fun x => b.map fun y => [x * y]) := by
  intro h
  have := h [2, 3] [5, 7, 11]
  revert this
  decide +kernel

/-! ### product statistics -/

/-- Euclidean inner product of two coefficient lists (`np.vdot` on real arrays) -/
def dotL (u v : List Rat) : Rat := lsum (List.zipWith (· * ·) u v)

theorem dotL_cons (x y : Rat) (u v : List Rat) : dotL (x :: u) (y :: v) = x * y + dotL u v := rfl

theorem dotL_scale (x y : Rat) (b s : List Rat) :
    dotL (b.map fun t => x * t) (s.map fun t => y * t) = x * y * dotL b s := by
  induction b generalizing s with
  | nil => simp [dotL, lsum]
  | cons b0 bs ih =>
    cases s with
    | nil => simp [dotL, lsum]
    | cons s0 ss => rw [List.map_cons, List.map_cons, dotL_cons, dotL_cons, ih ss]; ring

theorem dotL_append (a b c d : List Rat) (h : a.length = c.length) :
    dotL (a ++ b) (c ++ d) = dotL a c + dotL b d := by
  unfold dotL
  rw [List.zipWith_append h]
  simp [lsum_eq_sum]

/-- C07 "product measurements give product statistics": for a product POVM element `Π¹_x ⊗ Π²_y` and a product
state `ρ¹ ⊗ ρ²` (coefficient arrays, `np.kron`), the Born weight factorises, `⟪Π¹_x⊗Π²_y, ρ¹⊗ρ²⟫ = ⟪Π¹_x,ρ¹⟫·⟪Π²_y,ρ²⟫`,
for all dimensions. -/
theorem product_statistics (a r b s : List Rat) (h1 : a.length = r.length) (h2 : b.length = s.length) :
    dotL (kronL a b) (kronL r s) = dotL a r * dotL b s := by
  induction a generalizing r with
  | nil => simp [kronL, dotL, lsum]
  | cons x xs ih =>
    cases r with
    | nil => simp at h1
    | cons y ys =>
      have hl : (b.map fun t => x * t).length = (s.map fun t => y * t).length := by simp [h2]
      have := ih ys (by simpa using h1)
      simp only [kronL, List.flatMap_cons] at *
      rw [dotL_append _ _ _ _ hl, this, dotL_scale, dotL_cons]
      ring

/-- layout of the raw product list of `_tensor_product_Povm_Povm` (`itertools.product(vecs1, vecs2)`): entry
`i·|Π²| + j` is `Π¹_i ⊗ Π²_j` — first factor's outcome slow, matching `nums_local_outcomes = nums1 + nums2`. -/
theorem povm_product_raw_layout (vs1 vs2 : List (List Rat)) (i j : Nat) (a b : List Rat)
    (hi : vs1[i]? = some a) (hj : vs2[j]? = some b) :
    (vs1.flatMap fun a => vs2.map fun b => kronL a b)[i * vs2.length + j]? = some (kronL a b) :=
  getElem?_flatMap_map' vs1 vs2 kronL i j a b hi hj

/-! ### qutrit → two-qubit embedding (finite tables for one and two qutrits) -/

/-- `_permutation_matrix_from_qutrits_to_qubits(1)` is the identity permutation (finite fact) -/
theorem embedIndex_one : embedIndex 1 = [0, 1, 2, 3] := by decide
/-- `_permutation_matrix_from_qutrits_to_qubits(2)`: qubit index ↦ qutrit-block index (finite fact) -/
theorem embedIndex_two :
    embedIndex 2 = [0, 1, 2, 9, 3, 4, 5, 10, 6, 7, 8, 11, 12, 13, 14, 15] := by decide

/-- C07 embedding, entrywise, any number of qutrits, all matrices and coefficients: once the index table `π` of
`_permutation_matrix_from_qutrits_to_qubits` has no repeated entry, `_calc_matrix_from_qutrits_to_qubits` puts
the input entry at `(π i, π j)` where both qubit indices map into the qutrit block, `coeff` on the rest of the
diagonal and 0 elsewhere. -/
theorem embedEntry_block {K : Type} [Zero K] (num : Nat) (π : List Nat) (hπ : embedIndex num = π) (hnd : π.Nodup)
    (mat : Nat → Nat → K) (coeff : K) (i j : Nat) (hi : i < π.length) (hj : j < π.length) :
    embedEntry num mat coeff i j =
      some (if π[i]'hi < 3 ^ num ∧ π[j]'hj < 3 ^ num then mat (π[i]'hi) (π[j]'hj) else if i = j then coeff else 0) := by
  have hij : π[i]'hi = π[j]'hj ↔ i = j := hnd.getElem_inj_iff
  simp only [embedEntry, hπ, List.getElem?_eq_getElem hi, List.getElem?_eq_getElem hj, Option.bind_eq_bind,
    Option.bind_some, hij]
  split <;> [rfl; split <;> rfl]

/-! ### embedding physicality: the embedding is conjugation with an isometry -/
section embphys
open scoped ComplexOrder
variable {t N : Nat} (ι : Fin t → Fin N) (hι : Function.Injective ι)
include hι

/-- C07 "embedding a qutrit operation into two qubits preserves physicality", states: the embedded density matrix
`V ρ Vᴴ` (complement coefficient 0) is PSD with the same trace — any isometric relabelling `ι`, any dimensions. -/
theorem embed_state_physical (rho : Matrix (Fin t) (Fin t) ℂ) (h : rho.PosSemidef) :
    (embIso ι rho 0).PosSemidef ∧ (embIso ι rho 0).trace = rho.trace := by
  refine ⟨embIso_posSemidef ι hι rho h 0 le_rfl, ?_⟩
  rw [embIso_trace ι hι, zero_mul, add_zero]

/-- C07 embedding, POVMs: with the complement coefficient `1/m` used by `Povm._embed_…` every embedded element is
PSD and the embedded elements still sum to the identity. -/
theorem embed_povm_physical (l : List (Matrix (Fin t) (Fin t) ℂ)) (hpsd : ∀ E ∈ l, E.PosSemidef)
    (hsum : l.sum = 1) (hne : l ≠ []) :
    (∀ E ∈ l, (embIso ι E (1 / (l.length : ℂ))).PosSemidef) ∧
      (l.map fun E => embIso ι E (1 / (l.length : ℂ))).sum = 1 := by
  have hm : (l.length : ℂ) ≠ 0 := by
    have : l.length ≠ 0 := fun h => hne (List.length_eq_zero_iff.mp h)
    exact_mod_cast this
  refine ⟨fun E hE => embIso_posSemidef ι hι E (hpsd E hE) _ ?_, ?_⟩
  · have h : (1 / (l.length : ℂ)) = (((1 / (l.length : ℝ)) : ℝ) : ℂ) := by push_cast; rfl
    rw [h]
    exact Complex.zero_le_real.mpr (one_div_nonneg.mpr (Nat.cast_nonneg _))
  · rw [embIso_list_sum, hsum, mul_one_div_cancel hm, embIso_one]

/-- C07 embedding, gates / measurement processes: Kraus operators embedded with complement coefficient `c`,
`r·|c|² = 1` (`c = 1/√r`, `r` the number of Kraus operators), stay jointly trace preserving. -/
theorem embed_kraus_tp (ks : List (Matrix (Fin t) (Fin t) ℂ)) (htp : (ks.map fun K => Kᴴ * K).sum = 1) (c : ℂ)
    (hc : (ks.length : ℂ) * (star c * c) = 1) :
    (ks.map fun K => (embIso ι K c)ᴴ * embIso ι K c).sum = 1 := by
  have h1 : (ks.map fun K => (embIso ι K c)ᴴ * embIso ι K c)
      = (ks.map fun K => Kᴴ * K).map fun M => embIso ι M (star c * c) := by
    rw [List.map_map]; apply List.map_congr_left; intro K _
    simp only [Function.comp, embIso_conjTranspose, embIso_mul ι hι]
  rw [h1, embIso_list_sum, htp, List.length_map, hc, embIso_one]

/-- C07 embedding preserves "all outcome statistics of embedded inputs": Born weights and Kraus action. -/
theorem embed_statistics (E K rho : Matrix (Fin t) (Fin t) ℂ) (c : ℂ) :
    (embIso ι E c * embIso ι rho 0).trace = (E * rho).trace ∧
      embIso ι K c * embIso ι rho 0 * (embIso ι K c)ᴴ = embIso ι (K * rho * Kᴴ) 0 := by
  constructor
  · rw [embIso_mul ι hι, embIso_trace ι hι, mul_zero, zero_mul, add_zero]
  · rw [embIso_conjTranspose, embIso_mul ι hι, embIso_mul ι hι, mul_zero, zero_mul]

end embphys

section embtie
variable {R : Type} [CommRing R] [StarRing R]

/-- `_calc_matrix_from_qutrits_to_qubits` computes `V M Vᴴ + coeff·(1 − V Vᴴ)`, `V|p⟩ = |ι p⟩`, for every
relabelling `ι` that the index table `π` inverts (`π (ι p) = p`), the table having no repeated entry. -/
theorem embedEntry_eq_embIso (num : Nat) (π : List Nat) (hπ : embedIndex num = π) {t : Nat} (ι : Fin t → Fin π.length)
    (ht : 3 ^ num = t) (hnd : π.Nodup) (hι : ∀ p : Fin t, π[(ι p).val]? = some p.val)
    (M : Matrix (Fin t) (Fin t) R) (c : R) (i j : Fin π.length) :
    embedEntry num (natFn M) c i.val j.val = some (embIso ι M c i j) := by
  have hι' : ∀ p, π[(ι p).val]'(ι p).isLt = p.val := fun p => by
    have := hι p; rwa [List.getElem?_eq_getElem (ι p).isLt, Option.some.injEq] at this
  have hr : ∀ (i : Fin π.length) p, π[i.val]'i.isLt = p.val ↔ ι p = i := fun i p =>
    ⟨fun h => Fin.ext (hnd.getElem_inj_iff.1 ((hι' p).trans h.symm)), fun h => h ▸ hι' p⟩
  rw [embedEntry_block num π hπ hnd _ _ _ _ i.isLt j.isLt, ht, embIso_apply ι (fun i => π[i.val]'i.isLt) hr]
  simp only [Fin.val_inj]

/-- one qutrit: `_calc_matrix_from_qutrits_to_qubits` computes `V M Vᴴ + coeff·(1 − V Vᴴ)` with `V|i⟩ = |i⟩` -/
theorem embedEntry_one_eq (M : Matrix (Fin 3) (Fin 3) R) (c : R) (i j : Fin 4) :
    embedEntry 1 (natFn M) c i.val j.val = some (embIso iota1 M c i j) :=
  embedEntry_eq_embIso 1 _ embedIndex_one iota1 rfl (by decide) (by decide) M c i j

/-- two qutrits (finite table of 16 indices): the same statement with `V|a b⟩ = |a⟩|b⟩` -/
theorem embedEntry_two_eq (M : Matrix (Fin 9) (Fin 9) R) (c : R) (i j : Fin 16) :
    embedEntry 2 (natFn M) c i.val j.val = some (embIso iota2 M c i j) :=
  embedEntry_eq_embIso 2 _ embedIndex_two iota2 rfl (by decide) (by decide) M c i j

end embtie

open scoped ComplexOrder in
/-- non-vacuity of the embedding theorems: the one-qutrit relabelling is injective, the maximally mixed qutrit
state is PSD, the trivial POVM `{1}` sums to the identity, the single Kraus operator `1` is trace preserving -/
example : Function.Injective iota1 ∧ (1 : Matrix (Fin 3) (Fin 3) ℂ).PosSemidef ∧
    ([(1 : Matrix (Fin 3) (Fin 3) ℂ)].sum = 1) ∧
    (([(1 : Matrix (Fin 3) (Fin 3) ℂ)].map fun K => Kᴴ * K).sum = 1) := by
  exact ⟨iota1_inj, Matrix.PosSemidef.one, by simp, by simp⟩

/-! ### non-vacuity -/
example : (Kmat (K := Int) 2 3).mulVec (kronVec #v[1, 2, 3] #v[10, 20]) = kronVec #v[10, 20] #v[1, 2, 3] :=
  K_swaps 2 3 _ _
example : checkCross [0, 5, 2] = some 2 := by decide
example : dotL (kronL [1, 2] [3, 4, 5]) (kronL [1/2, 1] [1, 0, 2]) = dotL [1, 2] [1/2, 1] * dotL [3, 4, 5] [1, 0, 2] :=
  product_statistics _ _ _ _ rfl rfl


end QM.C07
