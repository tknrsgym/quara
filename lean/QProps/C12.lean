import QProofs.C12
import Mathlib.Algebra.Order.Field.Basic
import Mathlib.Analysis.SpecialFunctions.Log.Deriv
import Mathlib.LinearAlgebra.Matrix.NonsingularInverse
/-!
# C12 — property theorems: loss values, derivatives, fast paths, option wiring

All statements are for arbitrary numbers of schedules, outcomes and variables. Outside section `deriv` they hold over any
field (order statements: any linearly ordered field), hence for the executed instance `Rat`; the derivative statements of
section `deriv` are over ℝ with `np.log = Real.log`.
-/
set_option linter.unusedSectionVars false
open Matrix
namespace QM.C12
open QM

section wseThms
variable {K : Type} [Field K] [CharZero K] {m nv : Nat}

/-- C12 (value formula): when the weight lookup succeeds, `value(x) = Σ_j (p_j(x) − q_j)ᵀ W_j (p_j(x) − q_j)`
with `p_j(x) = A_j x + b_j` and `W_j` the j-th weight matrix (identity when the loss has none). -/
theorem wse_value_formula (ss : List (Sched K m nv)) (Ws : Option (List (Mat K m m))) (x : Vec K nv)
    (l : List (Sched K m nv × Option (Mat K m m))) (hl : resolve Ws ss 0 = some l) :
    wseValue ss Ws x = .ok (l.map fun p =>
      (p.1.A.toM *ᵥ x.toV + p.1.b.toV - p.1.q.toV) ⬝ᵥ
        (wmat p.2 *ᵥ (p.1.A.toM *ᵥ x.toV + p.1.b.toV - p.1.q.toV))).sum := by
  rw [wseValue, sumSched_of_resolve hl]
  simp only [bil_eq, resid_toV]

/-- C12 (gradient and Hessian are the derivatives of the value): exact second-order Taylor identity
`value(x+h) = value(x) + ⟨gradient(x), h⟩ + ½ ⟨h, hessian(x) h⟩` for all `x`, `h` (symmetric weights),
with `gradient = 2·wseGradHalf`, `hessian = 2·wseHessHalf` as the code returns them. The value being a
polynomial of degree 2 in `h`, this identifies gradient and Hessian as its first and second derivative. -/
theorem wse_taylor (ss : List (Sched K m nv)) (Ws : Option (List (Mat K m m))) (x h : Vec K nv)
    (l : List (Sched K m nv × Option (Mat K m m))) (hl : resolve Ws ss 0 = some l) (hs : SymWeights l) :
    ∃ v0 v1 : K, ∃ g : Fin nv → K, ∃ H : Fin nv → Fin nv → K,
      wseValue ss Ws x = .ok v0 ∧ wseValue ss Ws (x.add h) = .ok v1 ∧
      (∀ α, wseGradHalf ss Ws x α = .ok (g α)) ∧ (∀ α β, wseHessHalf ss Ws x α β = .ok (H α β)) ∧
      v1 = v0 + ∑ α, (2 * g α) * h.get α + (1 / 2) * ∑ α, ∑ β, h.get α * (2 * H α β) * h.get β := by
  refine ⟨_, _, _, _, sumSched_of_resolve hl _, sumSched_of_resolve hl _, fun α => sumSched_of_resolve hl _,
    fun α β => sumSched_of_resolve hl _, Eq.trans ?_ (taylor_form _ _ _ _)⟩
  exact taylor_sum l h.get _ _ _ _ fun p hp => sched_taylor p.1 p.2 (hs p hp) x h

end wseThms

/-- C12 (`SimpleQuadraticLossFunction`): exact Taylor identity `value(x+h) = value(x) + ⟨gradient(x), h⟩ + ½⟨h, (2I)h⟩` for all `x`, `h`. -/
theorem simple_taylor {K : Type} [Field K] [CharZero K] {n : Nat} (ref x h : Vec K n) :
    simpleValue ref (x.add h) = simpleValue ref x + ∑ i, (simpleGrad ref x).get i * h.get i
      + (1 / 2) * ∑ i, ∑ j, h.get i * simpleHess i j * h.get j := by
  simp only [simpleValue, Vec.dot_eq, dotProduct, Vec.toV, simpleGrad, simpleHess, Vec.get_ofFn, Vec.add, Vec.sub]
  simp only [mul_ite, ite_mul, mul_zero, zero_mul, Finset.sum_ite_eq, Finset.mem_univ, if_true]
  rw [Finset.mul_sum, ← Finset.sum_add_distrib, ← Finset.sum_add_distrib]
  refine Finset.sum_congr rfl fun i _ => ?_
  ring

section fastThms
variable {K : Type} [Field K] {m nv : Nat}

/-- with one weight matrix per schedule (non-empty list) the lookup pairs them in order -/
theorem resolve_some (Ws : List (Mat K m m)) (ss : List (Sched K m nv)) (j : Nat)
    (hne : Ws ≠ []) (hlen : ss.length + j = Ws.length) :
    resolve (some Ws) ss j = some (ss.zip ((Ws.map some).drop j)) := by
  induction ss generalizing j with
  | nil => rfl
  | cons s r ih =>
    rw [List.length_cons] at hlen
    have hj : j < Ws.length := by omega
    have hw : weightAt (some Ws) j = some (some Ws[j]) := by
      obtain _ | ⟨W, Wr⟩ := Ws
      · exact absurd rfl hne
      · exact congrArg (Option.map some) (List.getElem?_eq_getElem hj)
    rw [resolve, hw, ih (j + 1) (by omega), List.drop_eq_getElem_cons (i := j) (by rwa [List.length_map]), List.getElem_map]
    rfl

theorem zip_sum_eq_dotBlocks (f g : Sched K m nv → Vec K m) (ss : List (Sched K m nv)) (Ws : List (Mat K m m)) :
    ((ss.zip (Ws.map some)).map fun p => bil p.2 (f p.1) (g p.1)).sum
      = dotBlocks (ss.map f) (List.zipWith Mat.mulVec Ws (ss.map g)) := by
  induction ss generalizing Ws with
  | nil => rfl
  | cons s r ih =>
    obtain _ | ⟨W, Wr⟩ := Ws
    · rfl
    · simp only [List.map_cons, List.zip_cons_cons, List.sum_cons, List.zipWith_cons_cons, dotBlocks, ih Wr]
      rfl

/-- the stacked bilinear form of the fast class is the generic loop's sum, for any two vectors `f s`, `g s` per schedule
(value: both the residual; gradient: column `α` and the residual) -/
theorem fast_bil_eq_generic (f g : Sched K m nv → Vec K m) (ss : List (Sched K m nv)) (Ws : List (Mat K m m))
    (hlen : ss.length = Ws.length) :
    sumSched ss (some Ws) (fun s W => bil W (f s) (g s))
      = .ok (bilFlat (ss.length * m) (some (blockEntry Ws)) (catEntry (ss.map f)) (catEntry (ss.map g))) := by
  -- `weightAt` reads an empty list as "no weights", so `resolve_some` needs `Ws ≠ []`; by `hlen` an empty list leaves no schedule
  obtain rfl | hne := eq_or_ne Ws []
  · obtain rfl : ss = [] := List.length_eq_zero_iff.mp hlen
    rw [List.length_nil, Nat.zero_mul]
    rfl
  rw [sumSched_of_resolve (resolve_some Ws ss 0 hne hlen), List.drop_zero, zip_sum_eq_dotBlocks, hlen,
    bilFlat_block _ _ Ws ((List.length_map _).trans hlen) ((List.length_map _).trans hlen)]

theorem fast_bil_eq_generic_noweights (f g : Sched K m nv → Vec K m) (ss : List (Sched K m nv)) :
    sumSched ss none (fun s W => bil W (f s) (g s))
      = .ok (bilFlat (ss.length * m) none (catEntry (ss.map f)) (catEntry (ss.map g))) := by
  have := bilFlat_none_cat (ss.map f) (ss.map g) (by rw [List.length_map, List.length_map])
  rw [List.length_map] at this
  rw [sumSched_of_resolve (resolve_none ss 0), map_sum_eq_dotBlocks, this]

/-- C12 (fast value = generic value, given equal weights): when the cached block matrix was built from
the same weight matrices the generic loss uses (one per schedule), both `value`s agree — the stacked
`vec · (np.block(W) vec)` is the sum of the per-schedule quadratic forms. -/
theorem fast_eq_generic_value (ss : List (Sched K m nv)) (Ws : List (Mat K m m)) (x : Vec K nv)
    (hne : Ws ≠ []) (hlen : ss.length = Ws.length) :
    fastValue ss (some ⟨Ws⟩) x = wseValue ss (some Ws) x := by
  rw [wseValue, fast_bil_eq_generic _ _ ss Ws hlen]
  exact if_neg fun h => h hlen.symm

/-- C12 (fast gradient = generic gradient, given equal weights), componentwise. -/
theorem fast_eq_generic_grad (ss : List (Sched K m nv)) (Ws : List (Mat K m m)) (x : Vec K nv)
    (α : Fin nv) (hlen : ss.length = Ws.length) :
    fastGradHalf ss (some ⟨Ws⟩) x α = wseGradHalf ss (some Ws) x α := by
  rw [wseGradHalf, fast_bil_eq_generic _ _ ss Ws hlen]
  exact if_neg fun h => h hlen.symm

/-- C12 (fast value = generic value without weight matrices): the stacked `vec · vec` is the sum of the per-schedule
squared distances, for any number of schedules and outcomes. -/
theorem fast_eq_generic_value_noweights (ss : List (Sched K m nv)) (x : Vec K nv) :
    fastValue ss none x = wseValue ss none x := by
  rw [wseValue, fast_bil_eq_generic_noweights]
  rfl

/-- C12 (fast gradient = generic gradient without weight matrices), componentwise. -/
theorem fast_eq_generic_grad_noweights (ss : List (Sched K m nv)) (x : Vec K nv) (α : Fin nv) :
    fastGradHalf ss none x α = wseGradHalf ss none x α := by
  rw [wseGradHalf, fast_bil_eq_generic_noweights]
  rfl

end fastThms

section symmHess
/-- C12 (the Hessian of the Taylor identity is symmetric): `hessian[α,β] = hessian[β,α]` for symmetric weights — so `wse_taylor`
determines it completely as the second derivative. -/
theorem wseHessHalf_symm {K : Type} [Field K] {m nv : Nat} (ss : List (Sched K m nv)) (Ws : Option (List (Mat K m m)))
    (x : Vec K nv) (l : List (Sched K m nv × Option (Mat K m m))) (hl : resolve Ws ss 0 = some l)
    (hs : SymWeights l) (α β : Fin nv) :
    wseHessHalf ss Ws x α β = wseHessHalf ss Ws x β α := by
  unfold wseHessHalf
  rw [sumSched_of_resolve hl, sumSched_of_resolve hl]
  refine congrArg (fun l : List K => Except.ok l.sum) (List.map_congr_left fun p hp => ?_)
  simp only [bil_eq]
  rw [sym_swap _ (hs p hp)]

end symmHess


section wiringThms
variable {K : Type} [Field K] [LinearOrder K] [IsStrictOrderedRing K] {m : Nat}

theorem weightsByMode_eq (opt : Opt K m) (G : List (Mat K (m - 1) (m - 1))) :
    weightsByMode opt G = some (modeWeights opt G) := by
  unfold weightsByMode modeWeights invCovWeights
  cases opt.mode <;> rfl

/-- C12 (inverse-covariance modes, every outcome count): the weight matrix is the symmetrisation `(G + Gᵀ)/2` of the matrix `G`
received from `np.linalg.inv` in the leading `(m−1)×(m−1)` block and zero in the last row and column. -/
theorem inv_cov_weight_entries (G : Mat K (m - 1) (m - 1)) (i j : Fin m) :
    (invCovWeight G).get i j =
      if h : i.val < m - 1 ∧ j.val < m - 1 then
        (G.get ⟨i.val, h.1⟩ ⟨j.val, h.2⟩ + G.get ⟨j.val, h.2⟩ ⟨i.val, h.1⟩) / (1 + 1) else 0 := by
  by_cases hm : m = 2
  · subst hm
    rw [invCovWeight, dif_pos rfl]
    simp only [symmetrise, Mat.get_ofFn]
    by_cases h : i.val = 0 ∧ j.val = 0
    · rw [dif_pos h, dif_pos (by omega)]
      simp only [h.1, h.2]
    · rw [dif_neg h, dif_neg (by omega)]
  · rw [invCovWeight, dif_neg hm]
    simp only [symmetrise, Mat.get_ofFn]

/-- the covariance-mode weight matrix is exactly symmetric (the inverse is symmetrised before use) -/
theorem invCovWeight_symm (G : Mat K (m - 1) (m - 1)) (i j : Fin m) :
    (invCovWeight G).get i j = (invCovWeight G).get j i := by
  rw [inv_cov_weight_entries, inv_cov_weight_entries]
  by_cases h : i.val < m - 1 ∧ j.val < m - 1
  · rw [dif_pos h, dif_pos h.symm, add_comm]
  · rw [dif_neg h, dif_neg fun h' => h h'.symm]

theorem symOk_of_symm (atol : K) (hat : 0 ≤ atol) (W : Mat K m m) (h : ∀ i j, W.get i j = W.get j i) :
    symOk atol W = true := by
  unfold symOk
  simp only [List.all_eq_true, List.mem_finRange, true_implies]
  intro i j
  rw [h i j, sub_self]
  simp [not_lt.mpr hat]

theorem configureGen_eq (atol : K) (st : GenWse K m) (opt : Opt K m) (G : List (Mat K (m - 1) (m - 1))) :
    configureGen atol st opt G
      = if validWs atol (modeWeights opt G) then .ok ⟨modeWeights opt G⟩ else .error .notSymmetric := by
  rw [configureGen, weightsByMode_eq]

theorem validWs_invCov (atol : K) (hat : 0 ≤ atol) (G : List (Mat K (m - 1) (m - 1))) :
    validWs atol (some (G.map invCovWeight)) = true := by
  unfold validWs
  simp only [List.all_eq_true, List.mem_map]
  rintro W ⟨g, _, rfl⟩
  exact symOk_of_symm atol hat _ (invCovWeight_symm g)

/-- C12 (configuration succeeds): `identity` and the covariance modes are accepted from every earlier state
and for every outcome count (their matrices always pass the setter's symmetry validation); `custom` is accepted
exactly when the option's matrices are symmetric within `atol`. -/
theorem configure_ok (atol : K) (hat : 0 ≤ atol) (st : GenWse K m) (opt : Opt K m)
    (G : List (Mat K (m - 1) (m - 1))) :
    (opt.mode ≠ .custom → ∃ st', configureGen atol st opt G = .ok st') ∧
    (opt.mode = .custom → ((∃ st', configureGen atol st opt G = .ok st') ↔ validWs atol opt.weights = true)) := by
  simp only [configureGen_eq, exists_ok_ite]
  refine ⟨fun hne => ?_, fun hc => by rw [modeWeights, hc]⟩
  unfold modeWeights
  cases hm : opt.mode
  exacts [rfl, absurd hm hne, validWs_invCov atol hat G, validWs_invCov atol hat G, validWs_invCov atol hat G]

/-- C12 (every accepted mode string takes effect, generic loss): whenever
`set_from_standard_qtomography_option_data` succeeds, the weight matrices in force are the mode's — identity
weights for `identity`, the option's for `custom`, the inverse-covariance matrices for the covariance modes —
whatever the object was configured with before (fresh or re-used), for any number of outcomes. -/
theorem generic_mode_takes_effect (atol : K) (st st' : GenWse K m) (opt : Opt K m)
    (G : List (Mat K (m - 1) (m - 1))) (h : configureGen atol st opt G = .ok st') :
    st'.weightMatrices = modeWeights opt G := by
  rw [configureGen_eq] at h
  split at h
  · injection h with h; subst h; rfl
  · cases h

/-- the fast setter stores the new weights and rebuilds the cache from them, whatever the state held -/
theorem setWeightsFast_ok {st st' : FastWse K m} {w : Option (List (Mat K m m))} (h : setWeightsFast st w = .ok st') :
    st'.weightMatrices = w ∧ st'.extW = w.map ExtW.mk := by
  obtain _ | _ | ⟨W, r⟩ := w <;> cases h <;> exact ⟨rfl, rfl⟩

theorem calcExt_idem {st st1 : FastWse K m} (h : calcExt st = .ok st1) : calcExt st1 = .ok st1 := by
  unfold calcExt at h ⊢
  obtain ⟨_ | _ | ⟨W, r⟩, e⟩ := st <;> cases h <;> rfl

/-- C12 (every accepted mode string takes effect, fast loss): whenever configuration succeeds — from any
earlier state, fresh or re-used, gradient required or not — the weight matrices in force are the mode's, the
same as for the generic loss, and the cached block matrix `_extend_weight_matrix` is built from exactly these
matrices (none when there are none). Model-level statement about the cached fields; the value-level consequence, with its shape
hypotheses, is `fast_eq_generic_after_configure`. -/
theorem fast_mode_takes_effect (atol : K) (st st' : FastWse K m) (opt : Opt K m) (grad : Bool)
    (G : List (Mat K (m - 1) (m - 1))) (h : configureFast atol st opt grad G = .ok st') :
    st'.weightMatrices = modeWeights opt G ∧ st'.extW = (modeWeights opt G).map ExtW.mk := by
  unfold configureFast at h
  rw [weightsByMode_eq] at h
  simp only at h
  split at h
  · cases h
  · split at h
    · cases h
    · split at h
      · exact setWeightsFast_ok h
      · cases h

/-- C12 (relative entropy, `custom` mode takes effect): the option's weights become the loss's `weights`, and
the fast variant's `_extend_weights` is rebuilt from them (each weight repeated once per outcome). -/
theorem wre_option_weights_installed (st : WreState K) (w : List K) (lens : List Nat) (fast grad : Bool) :
    (configureWre st (some w) lens fast grad).weights = some w ∧
    (fast = true → (configureWre st (some w) lens fast grad).extWeights
        = some ((w.zip lens).flatMap fun (a, n) => List.replicate n a)) := by
  cases fast
  · exact ⟨rfl, fun h => Bool.noConfusion h⟩
  · exact ⟨rfl, fun _ => rfl⟩

/-- C12 (relative entropy, `identity` mode takes effect): whatever weights were in force before, afterwards
there are none (the value is the unweighted sum). -/
theorem wre_identity_resets_weights (st : WreState K) (lens : List Nat) (fast grad : Bool) :
    (configureWre st none lens fast grad).weights = none := by
  cases fast <;> rfl

/-- an EMPTY custom weight list: the generic loss configures (and then evaluates unweighted, `if self.weight_matrices:`), the fast loss
raises `IndexError` in `_calc_extend_weight_matrix` (`self.weight_matrices[0]`) — from any earlier state satisfying `h0`. -/
theorem configureFast_empty_custom_raises (atol : K) (st : FastWse K m) (sg : GenWse K m) (grad : Bool)
    (G : List (Mat K (m - 1) (m - 1))) (h0 : ∃ st1, calcExt st = .ok st1) :
    configureFast atol st (mkOpt .custom (some [])) grad G = .error .index ∧
    configureGen atol sg (mkOpt .custom (some [])) G = .ok ⟨some []⟩ := by
  refine ⟨?_, rfl⟩
  -- whatever the state holds (no weights, an empty list, a non-empty list), one of the cache rebuilds meets the empty list
  obtain ⟨_ | _ | ⟨W, r⟩, e⟩ := st <;> cases grad <;> rfl

/-- C12 (fast = generic after configuration, end to end): when both the fast and the generic loss have been configured with the same
option (from ANY earlier states) and the mode's weight list, if any, is non-empty with one matrix per schedule, the fast value and every
gradient component equal the generic ones. (Without the shape hypothesis the two classes differ: an empty custom list is an `IndexError`
for the fast class only — `configureFast_empty_custom_raises` — and surplus matrices are ignored by the generic loss but a shape error
for the fast one.) -/
theorem fast_eq_generic_after_configure {K : Type} [Field K] [LinearOrder K] [IsStrictOrderedRing K] {m nv : Nat}
    (atol : K) (sf sf' : FastWse K m) (sg sg' : GenWse K m) (opt : Opt K m) (grad : Bool)
    (G : List (Mat K (m - 1) (m - 1))) (ss : List (Sched K m nv)) (x : Vec K nv)
    (hf : configureFast atol sf opt grad G = .ok sf') (hg : configureGen atol sg opt G = .ok sg')
    (hshape : ∀ Ws, modeWeights opt G = some Ws → Ws ≠ [] ∧ ss.length = Ws.length) :
    fastValue ss sf'.extW x = wseValue ss sg'.weightMatrices x ∧
    ∀ α, fastGradHalf ss sf'.extW x α = wseGradHalf ss sg'.weightMatrices x α := by
  rw [(fast_mode_takes_effect atol sf sf' opt grad G hf).2, generic_mode_takes_effect atol sg sg' opt G hg]
  cases hw : modeWeights opt G with
  | none => exact ⟨fast_eq_generic_value_noweights ss x, fun α => fast_eq_generic_grad_noweights ss x α⟩
  | some Ws =>
    obtain ⟨hne, hlen⟩ := hshape Ws hw
    exact ⟨fast_eq_generic_value ss Ws x hne hlen, fun α => fast_eq_generic_grad ss Ws x α hlen⟩

end wiringThms

section invWeight
variable {K : Type} [Field K] [LinearOrder K] [IsStrictOrderedRing K] {m : Nat}

/-- numpy's inverse of a SYMMETRIC matrix is symmetric when it is exact, so the symmetrisation step leaves it unchanged -/
theorem symmetrise_of_inverse {n : Nat} (X G : Mat K n n) (hX : X.toMᵀ = X.toM) (hG : G.toM * X.toM = 1) :
    symmetrise G = G ∧ G.toM = X.toM⁻¹ := by
  have hinv : X.toM⁻¹ = G.toM := Matrix.inv_eq_left_inv hG
  have hsym : G.toMᵀ = G.toM := by
    rw [← hinv, Matrix.transpose_nonsing_inv, hX]
  refine ⟨?_, hinv.symm⟩
  apply Mat.ext'
  intro i j
  have hij : G.get j i = G.get i j := congrFun (congrFun hsym i) j
  simp only [symmetrise, Mat.get_ofFn, hij]
  rw [← mul_two, one_add_one_eq_two, mul_div_cancel_right₀ _ two_ne_zero]

theorem covMat_symm (q : Vec K m) (n : K) (i j : Fin m) : (covMat q n).get i j = (covMat q n).get j i := by
  simp only [covMat, Mat.get_ofFn]
  by_cases h : i = j
  · rw [h]
  · rw [if_neg h, if_neg (Ne.symm h), mul_comm]

theorem extractedFor_symm (md : Mode) (q : Vec K m) (eps nn n32 : K) :
    (extractedFor md q eps nn n32).toMᵀ = (extractedFor md q eps nn n32).toM := by
  ext i j
  simp only [Matrix.transpose_apply, Mat.toM_apply, extractedFor, extracted, Mat.get_ofFn]
  by_cases h : i = j
  · rw [h]
  · rw [if_neg h, if_neg (Ne.symm h), covMat_symm]

/-- C12 (covariance modes, what the weight IS): with numpy's inverse abstracted by its contract `G·X = 1`, `X` the regularised reduced
(sample resp. unbiased, `extractedFor`) covariance of the clipped empirical distribution, the installed weight is `X⁻¹` of the regularised reduced covariance, padded with a zero last row/column -/
theorem inv_cov_weight_is_inverse (md : Mode) (q : Vec K m) (eps nn n32 : K) (G : Mat K (m - 1) (m - 1))
    (hG : G.toM * (extractedFor md q eps nn n32).toM = 1) (i j : Fin m) :
    (invCovWeight G).get i j =
      if h : i.val < m - 1 ∧ j.val < m - 1 then ((extractedFor md q eps nn n32).toM⁻¹) ⟨i.val, h.1⟩ ⟨j.val, h.2⟩ else 0 := by
  obtain ⟨hs, hinv⟩ := symmetrise_of_inverse (extractedFor md q eps nn n32) G (extractedFor_symm md q eps nn n32) hG
  rw [inv_cov_weight_entries]
  split
  · rename_i h
    have e := congrArg (fun M : Mat K (m - 1) (m - 1) => M.get ⟨i.val, h.1⟩ ⟨j.val, h.2⟩) hs
    simp only [symmetrise, Mat.get_ofFn] at e
    rw [e, ← hinv]; rfl
  · rfl
end invWeight


/-! ## the hand-written wiring model is the interpretation of the GENERATED tables (QGen.C12, from the source) -/
section generatedThms
variable {K : Type} [Field K] [LinearOrder K] {m : Nat}

/-- C12 (source tie, mode table): for every mode the model handles, the if/elif chain of
`WeightedProbabilityBasedSquaredError._set_weights_by_mode` as generated from the source takes the branch the model
implements — setter(None) for `identity`, setter(option.weights) for `custom`, the covariance loop with `num_data`
for `inverse_sample_covariance` and with `num_data - 1` for `inverse_unbiased_covariance` and its alias. A renamed or re-wired mode in
the source changes `QGen.C12.wseBranch` and breaks this proof. -/
theorem gen_wse_branches (md : Mode) : QGen.C12.wseBranch (modeName md) = some (expectedBranch md) := by
  cases md <;> simp only [modeName, QGen.C12.wseBranch, String.reduceEq, if_true, if_false, expectedBranch]

/-- C12 (source tie, weights handed to the setter): `weightsByMode` is the interpretation of the generated branch. -/
theorem weightsByMode_eq_generated (opt : Opt K m) (G : List (Mat K (m - 1) (m - 1))) :
    weightsByMode opt G = (QGen.C12.wseBranch (modeName opt.mode)).map (interpBranch opt G) := by
  rw [gen_wse_branches]
  unfold weightsByMode expectedBranch interpBranch
  cases opt.mode <;> rfl

/-- C12 (source tie, call order): the model of `set_from_standard_qtomography_option_data` on the fast loss is the
interpretation, call by call, of the method-call list generated from the source (option, q, model → cache rebuild,
gradient model if required → cache rebuild, Hessian model if required, and last `_set_weights_by_mode`, whose setter
rebuilds the cache). Moving or renaming a call in the source breaks this proof. -/
theorem configureFast_eq_generated (atol : K) (st : FastWse K m) (opt : Opt K m) (grad : Bool)
    (G : List (Mat K (m - 1) (m - 1))) :
    configureFast atol st opt grad G = interpFast atol opt grad G QGen.C12.wiringOrder st := by
  simp only [QGen.C12.wiringOrder, interpFast, stepFast, String.reduceEq, decide_true, decide_false,
    Bool.or_false, Bool.false_or, Bool.or_true, Bool.true_and, Bool.false_and, if_true, Bool.false_eq_true,
    if_false, ok_bind, bind_ok]
  rw [configureFast, weightsByMode_eq_generated]
  cases calcExt st with
  | error e => rfl
  | ok st1 =>
    dsimp only [ok_bind]
    cases (if grad = true then calcExt st1 else .ok st1) with
    | error e => rfl
    | ok st2 => cases QGen.C12.wseBranch (modeName opt.mode) <;> rfl

/-- C12 (source tie, cache discipline of the fast classes): the generated facts the state machine relies on —
the fast squared-error `set_weight_matrices` is `super()` + rebuild, `_calc_extend_weight_matrix` resets the cache
when there are no weights and is called by both model setters; the fast relative-entropy `set_weights` rebuilds. -/
theorem gen_fast_cache_discipline :
    QGen.C12.fastWseSetterRebuilds = true ∧ QGen.C12.fastWseCalcResetsOnNone = true ∧
    QGen.C12.fastWseModelSetterRebuilds = true ∧ QGen.C12.fastWseGradSetterRebuilds = true ∧
    QGen.C12.fastWreSetterRebuilds = true := by decide

/-- C12 (source tie, relative entropy): both accepted mode strings are handled, `identity` by `set_weights(None)`,
`custom` by `set_weights(option.weights)` — what `configureWre` implements for `optWeights = none / some w`. -/
theorem gen_wre_modes_handled :
    (∀ md ∈ QGen.C12.wreAccepted, (QGen.C12.wreBranch md).isSome = true) ∧
    QGen.C12.wreBranch "identity" = some .reset ∧ QGen.C12.wreBranch "custom" = some .optionWeights ∧
    QGen.C12.wreForcesCustom = true ∧ QGen.C12.wseForcesCustom = true := by decide

/-- C12 (every accepted mode is handled): every mode string the squared-error option accepts has a branch in
`_set_weights_by_mode`, is one of the model's modes, and the alias `"unbiased_inverse_covariance"` takes the covariance
branch with the unbiased (`num_data − 1`) denominator. -/
theorem gen_wse_accepted_handled :
    (∀ md ∈ QGen.C12.wseAccepted, (QGen.C12.wseBranch md).isSome = true) ∧
    (∀ md ∈ QGen.C12.wseAccepted, md ∈ [Mode.identity, .custom, .invSample, .invUnbiased, .unbiasedInv].map modeName) ∧
    QGen.C12.wseBranch "unbiased_inverse_covariance" = some (.invCov true) := by
  refine ⟨?_, fun _ h => h, gen_wse_branches .unbiasedInv⟩
  simp only [QGen.C12.wseAccepted, List.forall_mem_cons, List.not_mem_nil, false_imp_iff, implies_true, and_true,
    QGen.C12.wseBranch, String.reduceEq, if_true, if_false, Option.isSome_some]

/-- C12 (source tie, sample vs unbiased covariance): the denominator flag the driver uses (`modeUnbiased`) is the one of the generated
branch — a mode wired to the other covariance in the source breaks this proof. -/
theorem gen_unbiased_flag (md : Mode) (b : Bool) (h : QGen.C12.wseBranch (modeName md) = some (.invCov b)) :
    modeUnbiased md = b := by
  rw [gen_wse_branches] at h
  cases md <;> cases h <;> rfl

/-- the matrix handed to `np.linalg.inv` differs between the two kinds of covariance mode exactly in that denominator (`num_data − 1` vs `num_data`) -/
theorem extractedFor_denominator (md : Mode) (q : Vec K m) (eps n n32 : K) :
    extractedFor md q eps n n32
      = extracted (covMat (replaceVec q eps) (if modeUnbiased md then n - 1 else n)) n32 := by
  unfold extractedFor covDenom; rfl

end generatedThms

section entropyThms
variable {K : Type} [Field K] [LinearOrder K] [IsStrictOrderedRing K]

theorem truncQ_eq {q eps : K} (h0 : 0 ≤ q) : truncQ q eps = if eps ≤ q then q else 0 := by
  unfold truncQ
  rw [if_neg (not_lt.mpr h0)]
  by_cases h : eps ≤ q
  · rw [if_neg (not_lt.mpr h), if_pos h]
  · rw [if_pos (lt_of_not_ge h), if_neg h]

theorem roundVarz_of_lt {z eps : K} (h : eps < z) : roundVarz z eps = z := if_pos h

theorem roundVarz_of_ge {z eps : K} (h : z ≤ eps) : roundVarz z eps = eps := if_neg (not_lt.mpr h)

theorem roundVarz_of_le {z eps : K} (h : eps ≤ z) : roundVarz z eps = z := by
  rcases lt_or_eq_of_le h with h1 | rfl
  · exact roundVarz_of_lt h1
  · exact if_neg (lt_irrefl _)

/-- C12 (fast = generic, relative entropy value): for non-negative data `q` the vectorised kernel
`Σ truncate(q)·log(…)` equals the loop `Σ_{q ≥ eps_q} round(q)·log(…)` for the same log values. -/
theorem relEntVec_eq_relEnt (epsq epsp : K) (qs ps ls : List K) (hq : ∀ q ∈ qs, 0 ≤ q) :
    relEntVec epsq epsp qs ps ls = relEnt epsq epsp qs ps ls := by
  rw [relEntVec_eq_sum3, relEnt_eq_sum3]
  refine sum3_congr _ _ _ fun q hq0 _ l => ?_
  simp only [truncQ_eq (hq q hq0)]
  split
  · rw [roundVarz_of_le ‹_›]
  · rw [zero_mul]

/-- C12 (fast = generic, relative entropy gradient), componentwise. -/
theorem relEntGradVec_eq_relEntGrad (epsq epsp : K) (qs ps gs : List K) (hq : ∀ q ∈ qs, 0 ≤ q) :
    relEntGradVec epsq epsp qs ps gs = relEntGrad epsq epsp qs ps gs := by
  rw [relEntGradVec_eq_sum3, relEntGrad_eq_sum3]
  refine sum3_congr _ _ _ fun q hq0 p g => ?_
  simp only [truncQ_eq (hq q hq0)]
  split
  · ring
  · rw [neg_zero, zero_div, zero_mul]

section linearityThms
/-- the gradient kernel is additive in the gradient rows; with `relEntGrad_smul` (homogeneous) this gives `relEntGrad_lincomb`. -/
theorem relEntGrad_add (epsq epsp : K) (qs ps g1 g2 : List K) (h : g1.length = g2.length) :
    relEntGrad epsq epsp qs ps (List.zipWith (· + ·) g1 g2)
      = relEntGrad epsq epsp qs ps g1 + relEntGrad epsq epsp qs ps g2 := by
  simp only [relEntGrad_eq_sum3]
  refine sum3_add _ _ _ (fun q p x y => ?_) g1 g2 h
  by_cases hc : epsq ≤ q
  · simp only [if_pos hc, mul_add, add_div]
  · simp only [if_neg hc, add_zero]

theorem relEntGrad_smul (epsq epsp c : K) (qs ps g : List K) :
    relEntGrad epsq epsp qs ps (g.map (c * ·)) = c * relEntGrad epsq epsp qs ps g := by
  simp only [relEntGrad_eq_sum3]
  refine sum3_smul _ _ _ c (fun q p x => ?_) g
  by_cases hc : epsq ≤ q
  · simp only [if_pos hc, mul_left_comm, mul_div_assoc]
  · simp only [if_neg hc, mul_zero]

theorem lincomb_length (n : Nat) (l : List (K × List K)) (h : ∀ x ∈ l, x.2.length = n) : (lincomb n l).length = n := by
  induction l with
  | nil => simp [lincomb]
  | cons x r ih =>
    obtain ⟨c, col⟩ := x
    obtain ⟨hc, hr⟩ := List.forall_mem_cons.mp h
    simp [lincomb, ih hr, hc]

theorem relEntGrad_zero (epsq epsp : K) (qs ps : List K) (n : Nat) :
    relEntGrad epsq epsp qs ps (List.replicate n 0) = 0 := by
  have h := relEntGrad_smul epsq epsp 0 qs ps (List.replicate n 0)
  rwa [List.map_replicate, mul_zero, zero_mul] at h

/-- C12 (⟨gradient, h⟩): the gradient kernel evaluated on the direction `d = Σ_α h_α·column_α` is `Σ_α h_α ·` (its value on column α) = ⟨gradient, h⟩ -/
theorem relEntGrad_lincomb (epsq epsp : K) (qs ps : List K) (n : Nat) (l : List (K × List K))
    (h : ∀ x ∈ l, x.2.length = n) :
    relEntGrad epsq epsp qs ps (lincomb n l) = (l.map fun x => x.1 * relEntGrad epsq epsp qs ps x.2).sum := by
  induction l with
  | nil => simp [lincomb, relEntGrad_zero]
  | cons x r ih =>
    obtain ⟨c, col⟩ := x
    obtain ⟨hc, hr⟩ := List.forall_mem_cons.mp h
    simp only [lincomb, List.map_cons, List.sum_cons]
    rw [relEntGrad_add _ _ _ _ _ _ (by simp [hc, lincomb_length n r hr]), relEntGrad_smul, ih hr]

-- `relEntGrad_lincomb`: two columns of length 2
example : lincomb (K := Rat) 2 [(2, [1, 0]), (3, [0, 1])] = [2, 3] := by decide +kernel

end linearityThms

end entropyThms

section wreWeighted
variable {K : Type} [Field K]

/-- C12 (weighted relative entropy, fast value and gradient component = generic ones for the same weights): with one weight per
schedule and the extended weights the fast class caches, `np.sum(_extend_weights * vector)` and
`np.dot(_extend_weights, column)` over the stacked per-outcome terms equal `Σ_j w_j · (sum of schedule j's terms)`, for any number of
schedules and outcome counts (which may differ between schedules). -/
theorem fastWre_eq_generic (w : List K) (ts : List (List K)) (h : w.length = ts.length) :
    fastWreSum ⟨some w, some (extendW w (ts.map List.length))⟩ ts.flatten = wreSum (some w) (ts.map lsum) ∧
    fastWreDot ⟨some w, some (extendW w (ts.map List.length))⟩ ts.flatten = wreSum (some w) (ts.map lsum) := by
  have hl := extendW_length w ts h
  obtain _ | ⟨a, w⟩ := w
  · obtain rfl : ts = [] := List.length_eq_zero_iff.mp h.symm
    exact ⟨rfl, rfl⟩
  · simp only [fastWreSum, fastWreDot, bmul, hl, if_true, Except.map, wreSum, List.length_map, ← h, lt_irrefl, if_false,
      extend_dot (a :: w) ts h, and_self]

/-- without weights both fast paths sum the stacked terms, as the generic loop does. -/
theorem fastWre_noweights (e : Option (List K)) (ts : List (List K)) :
    fastWreSum ⟨none, e⟩ ts.flatten = wreSum none (ts.map lsum) ∧
    fastWreDot ⟨none, e⟩ ts.flatten = wreSum none (ts.map lsum) := by
  simp [fastWreSum, fastWreDot, wreSum, lsum_flatten]


theorem relEntVecTerms_sum [LinearOrder K] (epsq epsp : K) (qs ps ls : List K) :
    lsum (relEntVecTerms epsq epsp qs ps ls) = relEntVec epsq epsp qs ps ls := by
  fun_induction relEntVecTerms epsq epsp qs ps ls with
  | case1 q qs p ps l ls ih => rw [relEntVec, ← ih]; rfl
  | case2 qs ps ls h => rw [relEntVec]; exacts [rfl, h]

theorem relEntGradVecTerms_sum [LinearOrder K] (epsq epsp : K) (qs ps gs : List K) :
    lsum (relEntGradVecTerms epsq epsp qs ps gs) = relEntGradVec epsq epsp qs ps gs := by
  fun_induction relEntGradVecTerms epsq epsp qs ps gs with
  | case1 q qs p ps g gs ih => rw [relEntGradVec, ← ih]; rfl
  | case2 qs ps gs h => rw [relEntGradVec]; exacts [rfl, h]

/-- the fast class configured with custom weights `w` holds `w` and its extension, whatever it held before -/
theorem configureWre_fast_custom [LT K] [DecidableLT K] [LE K] [DecidableLE K] (st : WreState K) (w : List K)
    (lens : List Nat) (grad : Bool) :
    configureWre st (some w) lens true grad = ⟨some w, some (extendW w lens)⟩ := rfl

/-- after configuration with one custom weight per schedule, the fast value and the fast gradient component over the stacked
per-outcome terms `T s` are `Σ_j w_j · v_j` when schedule `j`'s terms sum to `v_j` -/
theorem fastWre_configured [LT K] [DecidableLT K] [LE K] [DecidableLE K] {σ : Type} (st : WreState K) (w : List K)
    (scheds : List σ) (grad : Bool) (T : σ → List K) (v : σ → K) (hT : ∀ s ∈ scheds, lsum (T s) = v s)
    (h : w.length = scheds.length) :
    fastWreSum (configureWre st (some w) (scheds.map fun s => (T s).length) true grad) (scheds.map T).flatten
        = wreSum (some w) (scheds.map v) ∧
    fastWreDot (configureWre st (some w) (scheds.map fun s => (T s).length) true grad) (scheds.map T).flatten
        = wreSum (some w) (scheds.map v) := by
  have hl : w.length = (scheds.map T).length := by rw [List.length_map]; exact h
  have hv : (scheds.map T).map lsum = scheds.map v := by
    rw [List.map_map]; exact List.map_congr_left hT
  have e : (scheds.map fun s => (T s).length) = (scheds.map T).map List.length := by rw [List.map_map]; rfl
  rw [configureWre_fast_custom, e, ← hv]
  exact fastWre_eq_generic w _ hl

/-- C12 (weighted relative entropy end to end, value): after `set_from_standard_qtomography_option_data` with custom weights `w`
(one per schedule) the fast loss's value `Σ_i extW_i · vector_i` equals the generic loss's `Σ_j w_j · relative_entropy(q_j, p_j)`
for the same data, predictions and log values — from any earlier state of the fast object, for non-negative data. -/
theorem wre_weighted_fast_eq_generic [LinearOrder K] [IsStrictOrderedRing K] (epsq epsp : K) (st : WreState K) (w : List K)
    (scheds : List (List K × List K × List K)) (grad : Bool) (hw : w ≠ []) (h : w.length = scheds.length)
    (hq : ∀ s ∈ scheds, ∀ q ∈ s.1, 0 ≤ q) :
    fastWreSum (configureWre st (some w) (scheds.map fun s => (relEntVecTerms epsq epsp s.1 s.2.1 s.2.2).length) true grad)
        (scheds.map fun s => relEntVecTerms epsq epsp s.1 s.2.1 s.2.2).flatten
      = wreSum (configureWre st (some w) (scheds.map fun s => s.1.length) false grad).weights
          (scheds.map fun s => relEnt epsq epsp s.1 s.2.1 s.2.2) :=
  (fastWre_configured st w scheds grad _ _
    (fun s hs => by rw [relEntVecTerms_sum, relEntVec_eq_relEnt _ _ _ _ _ (hq s hs)]) h).1

/-- C12 (weighted relative entropy end to end, gradient component α): likewise `np.dot(_extend_weights, column α)` equals
`Σ_j w_j · gradient_relative_entropy_2nd(q_j, p_j, ·)[α]`. -/
theorem wre_weighted_fast_grad_eq_generic [LinearOrder K] [IsStrictOrderedRing K] (epsq epsp : K) (st : WreState K) (w : List K)
    (scheds : List (List K × List K × List K)) (grad : Bool) (hw : w ≠ []) (h : w.length = scheds.length)
    (hq : ∀ s ∈ scheds, ∀ q ∈ s.1, 0 ≤ q) :
    fastWreDot (configureWre st (some w) (scheds.map fun s => (relEntGradVecTerms epsq epsp s.1 s.2.1 s.2.2).length) true grad)
        (scheds.map fun s => relEntGradVecTerms epsq epsp s.1 s.2.1 s.2.2).flatten
      = wreSum (some w) (scheds.map fun s => relEntGrad epsq epsp s.1 s.2.1 s.2.2) :=
  (fastWre_configured st w scheds grad _ _
    (fun s hs => by rw [relEntGradVecTerms_sum, relEntGradVec_eq_relEntGrad _ _ _ _ _ (hq s hs)]) h).2

end wreWeighted


section deriv
open Filter Topology

variable {epsq epsp : ℝ} {x : Pt} {t : ℝ}

/-- away from the thresholds the value term of the kernel is `q log(q/p)` -/
theorem Away.value (h : Away epsq epsp x t) :
    (if epsq ≤ x.q then roundVarz x.q epsq * Real.log (logArg x.q (x.p + t * x.d) epsq epsp) else 0)
      = x.q * Real.log (x.q / (x.p + t * x.d)) := by
  rw [if_pos h.2.1, logArg, roundVarz_of_le h.2.1, roundVarz_of_lt h.2.2.2.1, roundVarz_of_lt h.2.2.2.2]

theorem Away.grad (h : Away epsq epsp x t) (g : ℝ) :
    (if epsq ≤ x.q then -x.q * g / roundVarz (x.p + t * x.d) epsp else 0) = -x.q * g / (x.p + t * x.d) := by
  rw [if_pos h.2.1, roundVarz_of_lt h.2.2.2.1]

theorem Away.p_pos (h : Away epsq epsp x 0) : 0 < x.p := by
  simpa only [zero_mul, add_zero] using h.2.2.1

/-- the thresholds stay inactive in a neighbourhood of `t = 0` -/
theorem Away.eventually (h : Away epsq epsp x 0) : ∀ᶠ t in 𝓝 (0 : ℝ), Away epsq epsp x t := by
  obtain ⟨h1, h2, h3, h4, h5⟩ := h
  have hc : ContinuousAt (fun t : ℝ => x.p + t * x.d) 0 := by fun_prop
  have hcd : ContinuousAt (fun t : ℝ => x.q / (x.p + t * x.d)) 0 := continuousAt_const.div hc h3.ne'
  filter_upwards [hc.eventually (lt_mem_nhds h3), hc.eventually (lt_mem_nhds h4),
    hcd.eventually (lt_mem_nhds h5)] with t e3 e4 e5
  exact ⟨h1, h2, e3, e4, e5⟩

theorem AwayOrSkipped.mem {l : List Pt} (h : AwayOrSkipped epsq epsp l t) (hx : x ∈ l) :
    x.q < epsq ∨ Away epsq epsp x t := h x hx

theorem list_sum_hasDerivAt {α : Type} (l : List α) (f : α → ℝ → ℝ) (f' : α → ℝ)
    (h : ∀ x ∈ l, HasDerivAt (f x) (f' x) 0) :
    HasDerivAt (fun t => (l.map fun x => f x t).sum) (l.map f').sum 0 := by
  induction l with
  | nil => simpa using hasDerivAt_const (0 : ℝ) (0 : ℝ)
  | cons x r ih =>
    simp only [List.map_cons, List.sum_cons]
    obtain ⟨hx, hr⟩ := List.forall_mem_cons.mp h
    exact hx.add (ih hr)

theorem line_hasDerivAt (p d : ℝ) : HasDerivAt (fun t : ℝ => p + t * d) d 0 :=
  (hasDerivAt_mul_const d).const_add p

/-- `d/dt c/(p+td) = −c d / p²` at `t = 0` -/
theorem const_div_line_hasDerivAt (c p d : ℝ) (hp : p ≠ 0) :
    HasDerivAt (fun t : ℝ => c / (p + t * d)) (-c * d / p ^ 2) 0 := by
  have hp0 : p + 0 * d ≠ 0 := by rwa [zero_mul, add_zero]
  refine ((hasDerivAt_const (0 : ℝ) c).div (line_hasDerivAt p d) hp0).congr_deriv ?_
  simp only [zero_mul, add_zero, zero_sub, neg_mul]

/-- one outcome's term: `d/dt q·log(q/(p+td)) = −q d / p` at `t = 0` (Mathlib `HasDerivAt`, `Real.log`) -/
theorem term_hasDerivAt (q p d : ℝ) (hq : 0 < q) (hp : 0 < p) :
    HasDerivAt (fun t : ℝ => q * Real.log (q / (p + t * d))) (-q * d / p) 0 := by
  have hp' : p ≠ 0 := hp.ne'
  have hq' : q ≠ 0 := hq.ne'
  have h0 : q / (p + 0 * d) ≠ 0 := by rw [zero_mul, add_zero]; exact div_ne_zero hq' hp'
  refine (((const_div_line_hasDerivAt q p d hp').log h0).const_mul q).congr_deriv ?_
  rw [zero_mul, add_zero]
  field_simp

/-- one outcome's value term of the kernel, clipping included, has the gradient kernel's term for the direction `d` as derivative:
a skipped outcome contributes the constant `0` to both, elsewhere the thresholds stay inactive near `t = 0` -/
theorem valueTerm_hasDerivAt (h : x.q < epsq ∨ Away epsq epsp x 0) :
    HasDerivAt (fun t => if epsq ≤ x.q then roundVarz x.q epsq * Real.log (logArg x.q (x.p + t * x.d) epsq epsp) else 0)
      (if epsq ≤ x.q then -x.q * x.d / roundVarz (x.p + 0 * x.d) epsp else 0) 0 := by
  rcases h with h | h
  · simp only [if_neg (not_le.mpr h)]
    exact hasDerivAt_const _ _
  · rw [h.grad]
    refine ((term_hasDerivAt x.q x.p x.d h.1 h.p_pos).congr_of_eventuallyEq ?_).congr_deriv (by simp)
    filter_upwards [h.eventually] with t ht using ht.value

/-- likewise the gradient term has the Hessian kernel's term (affine `p`) as derivative -/
theorem gradTerm_hasDerivAt (h : x.q < epsq ∨ Away epsq epsp x 0) :
    HasDerivAt (fun t => if epsq ≤ x.q then -x.q * x.g / roundVarz (x.p + t * x.d) epsp else 0)
      (if epsq ≤ x.q then -x.q * 0 / roundVarz (x.p + 0 * x.d) epsp
        + x.q / (roundVarz (x.p + 0 * x.d) epsp * roundVarz (x.p + 0 * x.d) epsp) * (x.g * x.d) else 0) 0 := by
  rcases h with h | h
  · simp only [if_neg (not_le.mpr h)]
    exact hasDerivAt_const _ _
  · rw [if_pos h.2.1, roundVarz_of_lt h.2.2.2.1]
    refine ((const_div_line_hasDerivAt (-x.q * x.g) x.p x.d h.p_pos.ne').congr_of_eventuallyEq ?_).congr_deriv ?_
    · filter_upwards [h.eventually] with t ht using ht.grad x.g
    · simp only [zero_mul, add_zero, mul_zero, zero_div, zero_add]
      ring

/-- C12 (relative entropy, gradient is the derivative — data WITH zero entries): every outcome is either skipped by the kernel
(`q < eps_q`, in particular an exactly-zero empirical entry) or away from all clipping thresholds; then along every line the model's value
kernel has the model's gradient as derivative. This is the statement for the property's quantifier "all empirical distributions including
zero entries". -/
theorem wre_gradient_hasDerivAt_mixed (epsq epsp : ℝ) (l : List Pt) (h : AwayOrSkipped epsq epsp l 0) :
    HasDerivAt (valueAt epsq epsp l) (relEntGrad epsq epsp (qsOf l) (psAt l 0) (dsOf l)) 0 := by
  unfold valueAt
  simp only [relEnt_eq_sum3, relEntGrad_eq_sum3, qsOf, psAt, logsAt, dsOf, sum3_map]
  exact list_sum_hasDerivAt l _ _ fun x hx => valueTerm_hasDerivAt (h.mem hx)

/-- C12 (relative entropy, Hessian is the derivative of the gradient — data WITH zero entries): along every line the component
`g = ∂_α p` of the model's gradient kernel has at `t = 0` the derivative that the model of `hessian_relative_entropy_2nd` returns for
`(g, d)` (affine `p`, so the `hess_p` term vanishes), every outcome being skipped or away from the clipping thresholds. -/
theorem wre_hessian_hasDerivAt_mixed (epsq epsp : ℝ) (l : List Pt) (h : AwayOrSkipped epsq epsp l 0) :
    HasDerivAt (fun t => relEntGrad epsq epsp (qsOf l) (psAt l t) (gsOf l))
      (relEntHess epsq epsp (qsOf l) (psAt l 0) (gsOf l) (dsOf l)) 0 := by
  simp only [relEntGrad_eq_sum3, qsOf, psAt, gsOf, dsOf, sum3_map, relEntHess_map]
  exact list_sum_hasDerivAt l _ _ fun x hx => gradTerm_hasDerivAt (h.mem hx)

/-- C12 (relative entropy, value formula with zero entries): the kernel's value is `Σ_{q_i ≥ eps_q} q_i log(q_i/p_i)` — skipped outcomes
contribute nothing. -/
theorem wre_value_formula_mixed (epsq epsp : ℝ) (l : List Pt) (h : AwayOrSkipped epsq epsp l 0) :
    valueAt epsq epsp l 0 = ((kept epsq l).map fun x => x.q * Real.log (x.q / x.p)).sum := by
  unfold valueAt kept
  simp only [relEnt_eq_sum3, qsOf, psAt, logsAt, sum3_map]
  rw [List.sum_map_ite, List.map_const', List.sum_replicate, smul_zero, add_zero]
  refine congrArg List.sum (List.map_congr_left fun x hx => ?_)
  obtain ⟨hx, hk⟩ := List.mem_filter.mp hx
  have hk : epsq ≤ x.q := of_decide_eq_true hk
  simpa [hk] using Away.value (x := x) (t := 0) ((h.mem hx).resolve_left (not_lt.mpr hk))

/-- C12 (clipping branches, region `q < eps_q`): the outcome is skipped — its contribution to value, gradient and
Hessian is identically zero for every `p` (so the gradient is trivially the derivative there). -/
theorem relEnt_region_q_below (epsq epsp q p g a b : ℝ) (hq : q < epsq) :
    termAt epsq epsp q p = 0 ∧ relEntGrad epsq epsp [q] [p] [g] = 0 ∧
      relEntHess epsq epsp [q] [p] [a] [b] = 0 := by
  have h : ¬ epsq ≤ q := not_le.mpr hq
  simp [termAt, relEnt, relEntGrad, relEntHess, h]

/-- C12 (clipping branches, region `q ≥ eps_q`, `p < eps_p`): `p` is replaced by `eps_p`, so the value term is locally
constant in `p` (derivative `0`, Mathlib `HasDerivAt`), while `gradient_relative_entropy_2nd` returns `−q·∂p/eps_p`:
inside the clipping region the reported gradient is NOT the derivative of the reported value (unless `q·∂p = 0`) —
which is why the property is stated "away from the documented clipping thresholds". -/
theorem relEnt_region_p_clipped (epsq epsp q p g : ℝ) (hq : epsq ≤ q) (hp : p < epsp) (_hpos : 0 < epsp) :
    HasDerivAt (termAt epsq epsp q) 0 p ∧ relEntGrad epsq epsp [q] [p] [g] = -q * g / epsp := by
  have r2 := roundVarz_of_ge hp.le
  refine ⟨?_, by simp [relEntGrad, hq, r2]⟩
  refine (hasDerivAt_const p (termAt epsq epsp q p)).congr_of_eventuallyEq ?_
  filter_upwards [gt_mem_nhds hp] with p' hp'
  simp only [termAt, relEnt, logArg, roundVarz_of_ge hp'.le, r2]

/-- C12 (clipping branches, region `q ≥ eps_q`, `p > eps_p`, `q/p < eps_p`): the ratio is replaced by `eps_p`, the value
term is locally constant (`q·log eps_p`, derivative `0`), the gradient kernel returns `−q·∂p/p`. Together with
`relEnt_region_q_below`, `relEnt_region_p_clipped` and `wre_gradient_hasDerivAt_mixed` (the open region where no threshold is
active) this lists every branch of the kernel and its derivative on the interior of each region. -/
theorem relEnt_region_ratio_clipped (epsq epsp q p g : ℝ) (hq : epsq ≤ q) (hp : epsp < p) (hpos : 0 < epsp)
    (hr : q / p < epsp) :
    HasDerivAt (termAt epsq epsp q) 0 p ∧ relEntGrad epsq epsp [q] [p] [g] = -q * g / p := by
  refine ⟨?_, by simp [relEntGrad, hq, roundVarz_of_lt hp]⟩
  have hc : ContinuousAt (fun p' : ℝ => q / p') p := continuousAt_const.div continuousAt_id (hpos.trans hp).ne'
  refine (hasDerivAt_const p (roundVarz q epsq * Real.log epsp + 0)).congr_of_eventuallyEq ?_
  filter_upwards [hc.eventually (gt_mem_nhds hr), lt_mem_nhds hp] with p' h1 h2
  simp only [termAt, relEnt, logArg, roundVarz_of_lt h2, roundVarz_of_le hq, roundVarz_of_ge h1.le, if_pos hq]

-- non-vacuity of the region hypotheses
example := relEnt_region_q_below (1/10) (1/10) (1/20) (1/2) 1 1 1 (by norm_num)
example := relEnt_region_p_clipped (1/10) (1/10) (1/2) (1/20) 1 (by norm_num) (by norm_num) (by norm_num)
example := relEnt_region_ratio_clipped (1/100) (1/10) (1/50) (1/2) 1 (by norm_num) (by norm_num) (by norm_num) (by norm_num)
example : AwayAt (1/10) (1/10) [⟨1/2, 1/2, 1, 1⟩] 0 := List.forall_mem_singleton.mpr (by norm_num)

-- non-vacuity with a zero empirical entry
example : AwayOrSkipped (1/10) (1/10) [⟨0, 1/2, 1, 1⟩, ⟨1/2, 1/2, 1, -1⟩] 0 :=
  List.forall_mem_cons.mpr ⟨.inl (by norm_num), List.forall_mem_cons.mpr ⟨.inr (by norm_num), nofun⟩⟩


/-- C12 (weighted relative entropy, loss level): the model's weighted value is this sum — `wreSum (some w) (per-schedule kernel values)` -/
theorem lossAt_eq_wreSum (epsq epsp : ℝ) (scheds : List (ℝ × List Pt)) (t : ℝ) (hne : scheds ≠ []) :
    wreSum (some (scheds.map (·.1))) (scheds.map fun s => valueAt epsq epsp s.2 t) = .ok (lossAt epsq epsp scheds t) := by
  cases scheds with
  | nil => exact absurd rfl hne
  | cons s r =>
    simp only [wreSum, List.map_cons, List.length_cons, List.length_map, lt_irrefl, if_false, lossAt, lsum_eq_sum,
      List.zip_cons_cons, List.zip_map', List.map_map, List.sum_cons]
    rfl

/-- C12 (weighted relative entropy, loss level): along every line the weighted loss value has as derivative the weighted sum of the
model's per-schedule gradients (direction `d`), for data with zero entries, away from the clipping thresholds. -/
theorem wre_loss_hasDerivAt (epsq epsp : ℝ) (scheds : List (ℝ × List Pt))
    (h : ∀ s ∈ scheds, AwayOrSkipped epsq epsp s.2 0) :
    HasDerivAt (lossAt epsq epsp scheds)
      (scheds.map fun s => s.1 * relEntGrad epsq epsp (qsOf s.2) (psAt s.2 0) (dsOf s.2)).sum 0 := by
  unfold lossAt
  apply list_sum_hasDerivAt scheds (fun s t => s.1 * valueAt epsq epsp s.2 t)
  intro s hs
  exact (wre_gradient_hasDerivAt_mixed epsq epsp s.2 (h s hs)).const_mul s.1

/-- C12 (weighted relative entropy, loss level): the weighted gradient component has the weighted Hessian entry as derivative. -/
theorem wre_loss_grad_hasDerivAt (epsq epsp : ℝ) (scheds : List (ℝ × List Pt))
    (h : ∀ s ∈ scheds, AwayOrSkipped epsq epsp s.2 0) :
    HasDerivAt (fun t => (scheds.map fun s => s.1 * relEntGrad epsq epsp (qsOf s.2) (psAt s.2 t) (gsOf s.2)).sum)
      (scheds.map fun s => s.1 * relEntHess epsq epsp (qsOf s.2) (psAt s.2 0) (gsOf s.2) (dsOf s.2)).sum 0 := by
  apply list_sum_hasDerivAt scheds (fun s t => s.1 * relEntGrad epsq epsp (qsOf s.2) (psAt s.2 t) (gsOf s.2))
  intro s hs
  exact (wre_hessian_hasDerivAt_mixed epsq epsp s.2 (h s hs)).const_mul s.1


-- loss-level derivative: two schedules with weights 2 and 0 (a switched-off schedule), one zero data entry
example : ∀ s ∈ [((2 : ℝ), [(⟨0, 1/2, 1, 1⟩ : Pt), ⟨1/2, 1/2, 1, -1⟩]), (0, [⟨1/2, 1/2, 1, 1⟩])], AwayOrSkipped (1/10) (1/10) s.2 0 := by
  simp only [AwayOrSkipped, List.forall_mem_cons, List.not_mem_nil, false_imp_iff, implies_true, and_true]
  norm_num
end deriv

-- `identity` after `custom` resets the weights (generic loss)
example :
    (((configureGen (K := Rat) (m := 1) 0 ⟨none⟩ (mkOpt .custom (some [Mat.ofFn fun _ _ => 5])) []).toOption.bind
        fun st => (configureGen 0 st (mkOpt .identity none) []).toOption).map
      fun st => st.weightMatrices.isNone) = some true := by
  decide +kernel

-- a fresh fast loss configured with custom weights has them in its cache; re-configuration replaces them
example :
    ((configureFast (K := Rat) (m := 1) 0 ⟨none, none⟩ (mkOpt .custom (some [Mat.ofFn fun _ _ => 5])) true []).toOption.bind
      fun st => (configureFast 0 st (mkOpt .custom (some [Mat.ofFn fun _ _ => 7])) true []).toOption.map
        fun st' => (st.extW.map fun e => e.blocks.map fun W => W.get 0 0,
                    st'.extW.map fun e => e.blocks.map fun W => W.get 0 0)) = some (some [5], some [7]) := by
  decide +kernel
-- an asymmetric float inverse is symmetrised and accepted; an asymmetric custom matrix is rejected
example : ((configureGen (K := Rat) (m := 3) (1/10000000000000) ⟨none⟩ (mkOpt .invSample none)
    [Mat.ofFn fun i j => if i.val < j.val then 1 else 2]).toOption.map fun st =>
      st.weightMatrices.map fun l => l.map fun W => W.toList.map (·.toList))
    = some (some [[[2, 3/2, 0], [3/2, 2, 0], [0, 0, 0]]]) := by
  decide +kernel
example : (configureGen (K := Rat) (m := 2) (1/10000000000000) ⟨none⟩
    (mkOpt .custom (some [Mat.ofFn fun i j => if i.val < j.val then 1 else 2])) []).toOption.isNone = true := by
  decide +kernel
-- three outcomes: the symmetrised inverse fills the leading 2×2 block
example : (invCovWeight (K := Rat) (m := 3) (Mat.ofFn fun i j => (i.val : Rat) * 2 + j.val + 1)).toList.map (·.toList)
    = [[1, 5/2, 0], [5/2, 4, 0], [0, 0, 0]] := by
  decide +kernel

-- `inv_cov_weight_is_inverse`: two outcomes, q = (1/4, 3/4), 4 shots, regulariser 1/8: X = [11/64], exact inverse [64/11]
example : ∃ G : Mat Rat (2 - 1) (2 - 1),
    G.toM * (extractedFor (m := 2) .invSample (Vec.ofFn fun i => if i.val = 0 then (1/4 : Rat) else 3/4) (1/100) 4 8).toM = 1 := by
  refine ⟨Mat.ofFn fun _ _ => 64/11, ?_⟩
  rw [← Mat.toM_mul, ← Mat.toM_one]
  exact congrArg Mat.toM (by decide +kernel)
-- data with a zero entry satisfy the hypothesis of the mixed derivative theorems
example : AwayOrSkipped (1/10) (1/10) [⟨0, 1/2, 1, 1⟩, ⟨1/2, 1/2, 1, -1⟩] 0 :=
  List.forall_mem_cons.mpr ⟨.inl (by norm_num), List.forall_mem_cons.mpr ⟨.inr (by norm_num), nofun⟩⟩
-- full instantiation of `wse_taylor` (all hypotheses at once)
example : True := by
  have s1 : Sched Rat 1 1 := ⟨Mat.ofFn fun _ _ => 2, Vec.ofFn fun _ => 1, Vec.ofFn fun _ => 0⟩
  have x1 : Vec Rat 1 := Vec.ofFn fun _ => 1
  have := wse_taylor (K := Rat) [s1] none x1 x1 [(s1, none)] (by simp [resolve, weightAt])
    (List.forall_mem_singleton.mpr (by simp [wmat]))
  trivial
-- weighted relative entropy: two schedules with 2 and 3 outcomes, weights [2, 3] — fast sum = generic sum
example : fastWreSum (K := Rat) ⟨some [2, 3], some (extendW [2, 3] [2, 3])⟩ [1, 1, 5, 5, 5]
    = wreSum (some [2, 3]) [2, 15] := by decide +kernel
-- an empty custom list: generic evaluates unweighted, the fast relative-entropy value is numpy's broadcast error
example : (wreSum (K := Rat) (some []) [1, 2]).toOption = some 3 ∧
    (fastWreSum (K := Rat) ⟨some [], some []⟩ [1, 2]).toOption = none := by decide +kernel
-- a length-1 weight vector broadcasts in the fast value (numpy), it does not truncate
example : (fastWreSum (K := Rat) ⟨some [2], some [2]⟩ [1, 10, 100]).toOption = some 222 := by decide +kernel
-- non-vacuity: the hypotheses of the Taylor identity / fast-path theorems are satisfiable
example (s : Sched Rat 2 1) :
    resolve (none : Option (List (Mat Rat 2 2))) [s] 0 = some [(s, none)] := by
  simp [resolve, weightAt]
example (s : Sched Rat 2 1) : SymWeights [(s, (none : Option (Mat Rat 2 2)))] :=
  List.forall_mem_singleton.mpr (by simp [wmat])
example (s : Sched Rat 2 1) (W : Mat Rat 2 2) (h : W.toMᵀ = W.toM) : SymWeights [(s, some W)] :=
  List.forall_mem_singleton.mpr (by simpa [wmat] using h)
example : (fastValue (K := Rat) (m := 1) (nv := 1)
    [⟨Mat.ofFn fun _ _ => 2, Vec.ofFn fun _ => 1, Vec.ofFn fun _ => 0⟩]
    (some ⟨[Mat.ofFn fun _ _ => 3]⟩) (Vec.ofFn fun _ => 1)).toOption = some 27 := by
  decide +kernel

end QM.C12
