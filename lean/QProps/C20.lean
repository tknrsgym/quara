import QProofs.C20
/-!
# C20 — property theorems: experiments and tomographies accept exactly the well-formed schedules

Everything is about `QM.C20.validateSchedules tables …` / `tomoCtor tables …`, where `tables` and the four
`…Spec`s are assembled from `QGen.C20` (regenerated from quara's source on every run): a source edit that changes a
kind, the minimum length, a limit, a positional test or a list handed to `Experiment` re-opens `tables_eq` /
`specs_eq` and with them every theorem below.
All statements are unbounded in the number of schedules, their lengths and the sizes of the object lists.
The spec predicates `InRange`, `OrderRule`, `WellFormed` are defined in QProofs/C20.lean; the three `…_def`
theorems pin their meaning here.
-/
namespace QM.C20

/-- spec pin: known kind and in-range integer index -/
theorem inRange_def (L : Lists) (p : String × Int) : InRange L p ↔
    ((p.1 = "state" ∧ 0 ≤ p.2 ∧ p.2 < (L.state.length : Int)) ∨
     (p.1 = "povm" ∧ 0 ≤ p.2 ∧ p.2 < (L.povm.length : Int)) ∨
     (p.1 = "gate" ∧ 0 ≤ p.2 ∧ p.2 < (L.gate.length : Int)) ∨
     (p.1 = "mprocess" ∧ 0 ≤ p.2 ∧ p.2 < (L.mprocess.length : Int))) := Iff.rfl

/-- spec pin: at least two items, starts with the only state, at most one POVM, ends with a POVM or a measurement process -/
theorem orderRule_def (names : List String) : OrderRule names ↔
    (2 ≤ names.length ∧ names.head? = some "state" ∧ names.count "state" = 1 ∧ names.count "povm" ≤ 1 ∧
      (names.getLast? = some "povm" ∨ names.getLast? = some "mprocess")) := Iff.rfl

/-- spec pin: a well-formed schedule is a sequence of `(str, int)` 2-tuples, each of known kind with in-range index,
obeying the order rule -/
theorem wellFormed_def (L : Lists) (s : Schedule) : WellFormed L s ↔
    ∃ ps : List (String × Int), s = .items (ps.map fun p => Item.mk p.1 p.2) ∧
      (∀ p ∈ ps, InRange L p) ∧ OrderRule (ps.map (·.1)) := Iff.rfl

/-- (T) the generated tables are the ones the property talks about -/
theorem tables_eq : tables =
    { kinds := ["state", "povm", "gate", "mprocess"], needNonEmpty := ["povm", "mprocess"], minLen := 2,
      firstKind := "state", lastKinds := ["povm", "mprocess"], limits := [("state", 2), ("povm", 2)] } := rfl


/-- **C20.a `accept_iff_wellformed`** — `Experiment._validate_schedules` (constructor, `schedules` setter)
accepts a schedule list exactly when every schedule is well formed. ∀ number of schedules, lengths, list sizes. -/
theorem accept_iff_wellformed (L : Lists) (ss : List Schedule) :
    validateSchedules tables L ss = .ok () ↔ ∀ s ∈ ss, WellFormed L s := by
  exact accept_iff_wellformed' L ss

example : validateSchedules tables ⟨[none], [none, some [2]], [], [some [3]]⟩
    [.items [Item.mk "state" 0, Item.mk "mprocess" 0, Item.mk "povm" 1]] = .ok () := by decide +kernel

/-- **C20.b `reject_item_or_order`** (which of the two exceptions, and where) — for EVERY kind of schedule the model knows:
sequences, objects that cannot be iterated, and iterables that are not sequences (generator, dict, set; rejected with the
order error since fix df6ca25, former defect D18). If a schedule list is rejected, the result is always the schedule-item or
the schedule-order error, decided by the first schedule that is not well formed:
a schedule that cannot be iterated (`None`, an int …) gives the schedule-item error (no item position); an iterable with a
malformed item gives the schedule-item error carrying that schedule's position and the position `j` of its *first* malformed
item (all items before `j` are well-formed pairs); a sequence whose items are fine gives the schedule-order error because its
kinds violate the order rule; an iterable that is not a sequence and whose items are fine gives the schedule-order error. -/
theorem reject_item_or_order (L : Lists) (ss : List Schedule) (e : Err)
    (h : validateSchedules tables L ss = .error e) :
    ∃ pre s post, ss = pre ++ s :: post ∧ (∀ x ∈ pre, WellFormed L x) ∧ ¬ WellFormed L s ∧
      ((s = .nonIterable ∧ e = .itemNoPos pre.length) ∨
       (∃ its j ex pre' it post', s.itemsOf? = some its ∧ e = .item pre.length j ex ∧ its = pre' ++ it :: post' ∧
          j = pre'.length ∧ validateItem tables L it = .error ex ∧
          ∀ x ∈ pre', ∃ p, x = Item.mk p.1 p.2 ∧ InRange L p) ∨
       (∃ (its : List Item) (ps : List (String × Int)) (r : OrderErr), s = .items its ∧ e = .order pre.length r ∧
          its = ps.map (fun p => Item.mk p.1 p.2) ∧ (∀ p ∈ ps, InRange L p) ∧ ¬ OrderRule (ps.map (·.1))) ∨
       (∃ (k : NonSeq) (its : List Item) (ps : List (String × Int)) (r : OrderErr), s = .nonSequence k its ∧
          e = .order pre.length r ∧ its = ps.map (fun p => Item.mk p.1 p.2) ∧ ∀ p ∈ ps, InRange L p)) := by
  obtain ⟨pre, s, post, h1, h2, h3, h4⟩ := validateSchedulesAux_error tables tables_minLen L ss 0 e h
  have hw : ¬ WellFormed L s := fun hw => h3 ((schedOk_iff_wellFormed L s).2 hw)
  refine ⟨pre, s, post, h1, fun x hx => (schedOk_iff_wellFormed L x).1 (h2 x hx), hw, ?_⟩
  cases s with
  | nonIterable => cases h4; exact .inl ⟨rfl, rfl⟩
  | nonSequence k its =>
    simp only [validateSchedulesAux] at h4
    split at h4
    · exact absurd ‹_› (validateItems_ne_keyError tables tables_kindsAreKeys L its 0 _)
    · cases h4
      obtain ⟨pre', it, post', g⟩ := validateItems_error tables L its 0 _ _ ‹_›
      exact .inr (.inl ⟨its, _, _, pre', it, post', rfl, rfl, g⟩)
    · obtain ⟨ps, g1, -, g3⟩ := (validateItems_ok_iff tables L its 0 _).1 ‹_›
      obtain ⟨r, rfl⟩ : ∃ r, e = .order pre.length r := by
        cases k with
        | noLen => cases h4; exact ⟨_, rfl⟩
        | _ => dsimp only at h4; split at h4 <;> cases h4 <;> exact ⟨_, rfl⟩
      exact .inr (.inr (.inr ⟨k, its, ps, r, rfl, rfl, g1, fun p hp => (g3 p hp).2⟩))
  | items its =>
    simp only [validateSchedulesAux] at h4
    split at h4
    · exact absurd ‹_› (validateItems_ne_keyError tables tables_kindsAreKeys L its 0 _)
    · cases h4
      obtain ⟨pre', it, post', g⟩ := validateItems_error tables L its 0 _ _ ‹_›
      exact .inr (.inl ⟨its, _, _, pre', it, post', rfl, rfl, g⟩)
    · obtain ⟨ps, rfl, rfl, g3⟩ := (validateItems_ok_iff tables L its 0 _).1 ‹_›
      have hr : ∀ p ∈ ps, InRange L p := fun p hp => (g3 p hp).2
      split at h4
      · cases h4
        exact .inr (.inr (.inl ⟨_, ps, _, rfl, rfl, rfl, hr, fun ho => hw ⟨ps, rfl, hr, ho⟩⟩))
      · cases h4

/-- **C20.b' `reject_is_schedule_error`** — every rejection, of any schedule list, is one of the two schedule errors
(violated for non-iterables before fix d4e3672 — D13 — and for non-sequence iterables before fix df6ca25 — D18). -/
theorem reject_is_schedule_error (L : Lists) (ss : List Schedule) (e : Err)
    (h : validateSchedules tables L ss = .error e) :
    (∃ i, e = .itemNoPos i) ∨ (∃ i j ex, e = .item i j ex) ∨ (∃ i r, e = .order i r) := by
  obtain ⟨pre, s, post, _, _, _, h4⟩ := reject_item_or_order L ss e h
  rcases h4 with ⟨_, he⟩ | ⟨_, j, ex, _, _, _, _, he, _⟩ | ⟨_, _, r, _, he, _⟩ | ⟨_, _, _, r, _, he, _⟩
  · exact Or.inl ⟨_, he⟩
  · exact Or.inr (Or.inl ⟨_, j, ex, he⟩)
  · exact Or.inr (Or.inr ⟨_, r, he⟩)
  · exact Or.inr (Or.inr ⟨_, r, he⟩)

example : validateSchedules tables ⟨[none], [none], [], []⟩
    [.items [Item.mk "state" 0, Item.mk "povm" 0], .nonIterable] = .error (.itemNoPos 1) := by decide +kernel

/-- `reject_item_or_order` instantiated: the hypothesis holds for a list whose second schedule has an order error -/
example := reject_item_or_order ⟨[none], [none], [], []⟩
  [.items [Item.mk "state" 0, Item.mk "povm" 0], .items [Item.mk "povm" 0, Item.mk "state" 0]] (.order 1 .first) (by decide +kernel)

/-- generator / dict / set schedules (former defect D18): order error when the items are fine, item error otherwise -/
example : validateSchedules tables ⟨[none], [none], [], []⟩ [.nonSequence .noLen [Item.mk "state" 0, Item.mk "povm" 0]] =
    .error (.order 0 .notSequence) := by decide +kernel
example : validateSchedules tables ⟨[none], [none], [], []⟩ [.nonSequence .keyed [Item.mk "state" 0, Item.mk "povm" 0]] =
    .error (.order 0 .notSequence) := by decide +kernel
example : validateSchedules tables ⟨[none], [none], [], []⟩ [.nonSequence .unordered [Item.mk "state" 0]] =
    .error (.order 0 .tooShort) := by decide +kernel
example : validateSchedules tables ⟨[none], [none], [], []⟩ [.nonSequence .noLen [Item.mk "state" 0, Item.mk "povm" 7]] =
    .error (.item 0 1 .indexError) := by decide +kernel

/-- the malformed item shapes and the Python exception `_validate_schedule_item` raises for each
(all three are converted to the schedule-item error) -/
theorem item_exceptions (L : Lists) :
    validateItem tables L .nonTuple = .error .typeError ∧
    (∀ fs, fs.length ≠ 2 → validateItem tables L (.tuple fs) = .error .valueError) ∧
    (∀ a b, (∀ s, a ≠ .str s) → validateItem tables L (.tuple [a, b]) = .error .typeError) ∧
    (∀ s b, (∀ i, b ≠ .int i) → validateItem tables L (.tuple [.str s, b]) = .error .typeError) ∧
    (∀ s i, s ∉ ["state", "povm", "gate", "mprocess"] →
        validateItem tables L (.tuple [.str s, .int i]) = .error .valueError) ∧
    (∀ s i, s ∈ ["state", "povm", "gate", "mprocess"] → ¬ InRange L (s, i) →
        validateItem tables L (.tuple [.str s, .int i]) = .error .indexError) := by
  refine ⟨rfl, ?_, ?_, ?_, ?_, ?_⟩
  · intro fs hfs
    match fs, hfs with
    | [], _ => rfl
    | [_], _ => rfl
    | [_, _], h => simp at h
    | _ :: _ :: _ :: _, _ => rfl
  · intro a b ha
    cases a <;> first | rfl | exact absurd rfl (ha _)
  · intro s b hb
    cases b <;> first | rfl | exact absurd rfl (hb _)
  · intro s i hs
    exact (validateItem_mk tables L s i).trans (if_neg fun h => hs (List.contains_iff_mem.1 h))
  · intro s i hs hr
    have hk : tables.kinds.contains s = true := List.contains_iff_mem.2 hs
    obtain ⟨l, hl⟩ := get?_isSome_of_key L s (tables_kindsAreKeys s hk)
    refine (validateItem_mk tables L s i).trans ?_
    rw [if_pos hk, hl]
    exact if_neg fun hh => hr ((inRange_iff_get L (s, i)).2 ⟨l, hl, hh⟩)

/-- bool indices are not ints: `("povm", True)` is a malformed item although `True == 1` -/
example : validateItem tables ⟨[none], [none, none], [], []⟩ (.tuple [.str "povm", .bool true]) = .error .typeError := rfl

/-- **C20.c `setter_same_rule`** — a list setter succeeds exactly when every current schedule is well formed w.r.t.
the *new* lists, then replaces exactly that list; otherwise it raises and changes nothing (`runOps` keeps `st`). -/
theorem setter_same_rule (st : ExpState) (w : Which) (v : ObjList) :
    (step tables st (.setList w v) = .ok { st with lists := st.lists.set w v } ∧
        ∀ s ∈ st.schedules, WellFormed (st.lists.set w v) s) ∨
    ((∃ e, step tables st (.setList w v) = .error e) ∧
        ¬ ∀ s ∈ st.schedules, WellFormed (st.lists.set w v) s) :=
  step_rule st (.setList w v)

/-- a failing list setter raises exactly the error of validating the current schedules against the would-be lists
(so `reject_item_or_order` classifies it) -/
theorem setter_error_iff (st : ExpState) (w : Which) (v : ObjList) (e : Err) :
    step tables st (.setList w v) = .error e ↔ validateSchedules tables (st.lists.set w v) st.schedules = .error e :=
  step_error_iff st (.setList w v) e

/-- … and the `schedules` setter the error of validating the new schedules against the current lists -/
theorem schedules_setter_error_iff (st : ExpState) (ss : List Schedule) (e : Err) :
    step tables st (.setSchedules ss) = .error e ↔ validateSchedules tables st.lists ss = .error e :=
  step_error_iff st (.setSchedules ss) e

example : step tables ⟨⟨[none], [none], [], []⟩, [.items [Item.mk "state" 0, Item.mk "povm" 0]]⟩ (.setList .povm []) =
    .error (.item 0 1 .indexError) := by decide +kernel

/-- the `schedules` setter: same rule against the current lists -/
theorem schedules_setter_same_rule (st : ExpState) (ss : List Schedule) :
    (step tables st (.setSchedules ss) = .ok { st with schedules := ss } ∧ ∀ s ∈ ss, WellFormed st.lists s) ∨
    ((∃ e, step tables st (.setSchedules ss) = .error e) ∧ ¬ ∀ s ∈ ss, WellFormed st.lists s) :=
  step_rule st (.setSchedules ss)

/-- **C20.d `reachable_wellformed`** — invariant over all histories: after a successful construction and any
sequence of (succeeding or failing) setter calls, every schedule the experiment holds is well formed w.r.t. the
lists it holds. -/
theorem reachable_wellformed (L : Lists) (ss : List Schedule) (st : ExpState)
    (h : construct tables L ss = .ok st) (ops : List Op) :
    ∀ s ∈ (runOps tables st ops).2.schedules, WellFormed (runOps tables st ops).2.lists s := by
  have h0 : ∀ s ∈ st.schedules, WellFormed st.lists s := by
    unfold construct at h
    split at h
    · cases h
    · cases h; exact (accept_iff_wellformed L ss).1 ‹_›
  clear h
  induction ops generalizing st with
  | nil => exact h0
  | cons o os ih =>
    simp only [runOps]
    cases hs : step tables st o with
    | error e => exact ih st h0
    | ok st' =>
      refine ih st' ?_
      rcases step_rule st o with ⟨g1, g2⟩ | ⟨⟨e, g1⟩, -⟩ <;> rw [g1] at hs <;> cases hs
      exact g2

example : (runOps tables ⟨⟨[none], [none], [], []⟩, [.items [Item.mk "state" 0, Item.mk "povm" 0]]⟩
    [.setList .povm [], .setList .povm [none, none], .setSchedules [.items [Item.mk "state" 0, Item.mk "povm" 1]],
     .setList .povm [none]]).1 = [some (.item 0 1 .indexError), none, none, some (.item 0 1 .indexError)] := by decide +kernel


theorem specs_eq :
    qstSpec = ⟨[(0, "state"), (1, "povm")], 0, [1, 2, 0, 0], none⟩ ∧
    povmtSpec = ⟨[(0, "state"), (1, "povm")], 1, [2, 1, 0, 0], none⟩ ∧
    qptSpec = ⟨[(0, "state"), (1, "gate"), (2, "povm")], 1, [2, 2, 1, 0], none⟩ ∧
    qmptSpec = ⟨[(0, "state"), (1, "mprocess"), (2, "povm")], 1, [2, 2, 0, 1], some 3⟩ := ⟨rfl, rfl, rfl, rfl⟩

/-- **C20.e `qst_accept_iff_shape`** — `StandardQst(povms, schedules=ss)` gets through its schedule handling exactly
when every schedule is `[("state", 0), ("povm", j)]` with `j < len(povms)`. -/
theorem qst_accept_iff_shape (nS nP : Nat) (ss : List Schedule) :
    tomoCtor tables .qst nS nP (.list ss) = .ok ss ↔
      ∀ s ∈ ss, ∃ j : Nat, j < nP ∧ s = .items [Item.mk "state" 0, Item.mk "povm" j] :=
  (tomoCtor_ok_iff .qst nS nP ss).trans (forall₂_congr fun s _ => qst_one nS nP s)

/-- **C20.e `povmt_accept_iff_shape`** — `StandardPovmt`: exactly `[("state", i), ("povm", 0)]`, `i < len(states)`. -/
theorem povmt_accept_iff_shape (nS nP : Nat) (ss : List Schedule) :
    tomoCtor tables .povmt nS nP (.list ss) = .ok ss ↔
      ∀ s ∈ ss, ∃ i : Nat, i < nS ∧ s = .items [Item.mk "state" i, Item.mk "povm" 0] :=
  (tomoCtor_ok_iff .povmt nS nP ss).trans (forall₂_congr fun s _ => povmt_one nS nP s)

/-- **C20.e `qpt_accept_iff_shape`** — `StandardQpt`: exactly `[("state", i), ("gate", 0), ("povm", j)]`. -/
theorem qpt_accept_iff_shape (nS nP : Nat) (ss : List Schedule) :
    tomoCtor tables .qpt nS nP (.list ss) = .ok ss ↔
      ∀ s ∈ ss, ∃ i j : Nat, i < nS ∧ j < nP ∧
        s = .items [Item.mk "state" i, Item.mk "gate" 0, Item.mk "povm" j] :=
  (tomoCtor_ok_iff .qpt nS nP ss).trans (forall₂_congr fun s _ => qpt_one nS nP s)

/-- **C20.e `qmpt_accept_iff_shape`** — `StandardQmpt`: exactly `[("state", i), ("mprocess", 0), ("povm", j)]`
(the length test added by fix d963183 excludes the trailing `("mprocess", 0)` items of D14). -/
theorem qmpt_accept_iff_shape (nS nP : Nat) (ss : List Schedule) :
    tomoCtor tables .qmpt nS nP (.list ss) = .ok ss ↔
      ∀ s ∈ ss, ∃ i j : Nat, i < nS ∧ j < nP ∧
        s = .items [Item.mk "state" i, Item.mk "mprocess" 0, Item.mk "povm" j] :=
  (tomoCtor_ok_iff .qmpt nS nP ss).trans (forall₂_congr fun s _ => qmpt_one nS nP s)

/-- the former D14 input is rejected with the class's ValueError; a two-item schedule no longer raises IndexError -/
example : tomoCtor tables .qmpt 1 1 (.list [.items [Item.mk "state" 0, Item.mk "mprocess" 0, Item.mk "povm" 0,
    Item.mk "mprocess" 0]]) = .error (.value 0) := by decide +kernel
example : tomoCtor tables .qmpt 1 1 (.list [.items [Item.mk "state" 0, Item.mk "mprocess" 0]]) = .error (.value 0) := by
  decide +kernel

/-- **C20.e' `tomo_reject_kinds`** (reject side): a tomography constructor rejects a schedule list only with an Experiment schedule
error or its own ValueError - never IndexError (D14), never the `unmodelled` branch -/
theorem tomo_reject_kinds (c : Cls) (nS nP : Nat) (ss : List Schedule) (e : TomoErr)
    (h : tomoCtor tables c nS nP (.list ss) = .error e) :
    (∃ x, e = .exp x ∧ validateSchedules tables (tomoLists c.spec nS nP) ss = .error x) ∨ ∃ j, e = .value j := by
  rcases tomoCtor_list c nS nP ss with ⟨x, hv, h'⟩ | ⟨pss, rfl, hw, h'⟩ <;> rw [h'] at h
  · cases h; exact .inl ⟨x, rfl, hv⟩
  · cases ht : tomoValidate c.spec pss 0 with
    | error e' => rw [ht] at h; cases h; exact .inr (tomoValidate_no_index c pss 0 _ (fun ps hp => (hw ps hp).2) ht)
    | ok => rw [ht] at h; cases h

example : tomoCtor tables .qpt 1 1 (.list [.items [Item.mk "state" 0, Item.mk "povm" 0]]) = .error (.value 0) := by decide +kernel

/-- the `"all"` expansions are accepted by their own class, for every number of states and POVMs -/
theorem all_accepted (c : Cls) (nS nP : Nat) :
    tomoCtor tables c nS nP (.str "all") = .ok (allSchedules c nS nP) := by
  have hstr : (!QGen.C20.supportedStrs.contains "all") = false := by decide +kernel
  simp only [tomoCtor, hstr, Bool.false_eq_true, if_false, if_true]
  refine (tomoCtor_ok_iff c nS nP _).2 fun s hs => ?_
  cases c <;> simp only [allSchedules, List.mem_map, List.mem_flatMap, List.mem_range] at hs
  · obtain ⟨j, hj, rfl⟩ := hs; exact (qst_one nS nP _).2 ⟨j, hj, rfl⟩
  · obtain ⟨i, hi, rfl⟩ := hs; exact (povmt_one nS nP _).2 ⟨i, hi, rfl⟩
  · obtain ⟨i, hi, j, hj, rfl⟩ := hs; exact (qpt_one nS nP _).2 ⟨i, j, hi, hj, rfl⟩
  · obtain ⟨i, hi, j, hj, rfl⟩ := hs; exact (qmpt_one nS nP _).2 ⟨i, j, hi, hj, rfl⟩

/-- unsupported strings are rejected before anything else -/
theorem unsupported_string_rejected (c : Cls) (nS nP : Nat) (s : String) (h : s ≠ "all") :
    tomoCtor tables c nS nP (.str s) = .error .str := by
  have : (!QGen.C20.supportedStrs.contains s) = true := by
    simp [QGen.C20.supportedStrs, h]
  simp only [tomoCtor, this, if_true]



/-- **C20.f `accepted_executable`** — an accepted schedule that ends in its only POVM and refers to no `None`
placeholder is executed by `calc_prob_dist` (index check, look-ups, composition from the state outwards, `.ps`) and
yields a distribution whose outcome shape is exactly: the outcome shapes of its measurement processes in order followed by the
POVM's local outcomes (`nums_local_outcomes`) — and the FLAT `[∏ local outcomes]` when there is no measurement process
(`MultinomialDistribution(prob, prob.shape)` in `Povm ∘ State`). Shapes may be multi-dimensional (tensor-product objects).
What is proved is executability and the *shape* (type-level: the dispatch of `_compose_qoperations`, hand-modelled in
`compose`); that the numbers are non-negative, sum to one and follow the Born rule is established by the oracle on the
real code only (harness c20.py, incl. zero-probability branches and tensor-product objects). -/
theorem accepted_executable (st : ExpState) (i : Nat) (ps : List (String × Int)) (outc : String × Int → List Nat)
    (hi : st.schedules[i]? = some (.items (ps.map fun p => Item.mk p.1 p.2)))
    (hr : ∀ p ∈ ps, InRange st.lists p) (ho : OrderRule (ps.map (·.1)))
    (hlast : (ps.map (·.1)).getLast? = some "povm")
    (hobj : ∀ p ∈ ps, objOf st.lists p = some (some (outc p))) :
    calcProbDist st (.int i) = .ok (shapeOfRun ((ps.filter fun p => p.1 = "mprocess").map outc)
      ((ps.filter fun p => p.1 = "povm").map outc).flatten) := by
  obtain ⟨a, mid, b, rfl, hmid⟩ := shape_of_povm_last ps (fun p hp => inRange_kind (hr p hp)) ho hlast
  have hm : mid.filter (fun p => p.1 = "povm") = [] :=
    List.filter_eq_nil_iff.2 fun q hq => by rcases hmid q hq with h | h <;> simp [h]
  rw [executable_of_shape st i a b mid outc hi hmid hobj]
  simp [List.filter_append, hm]

/-- **C20.f `none_placeholder_rejected`** — `calc_prob_dist` raises the "is None" ValueError at the first item (in
schedule order) that refers to a `None` placeholder. -/
theorem none_placeholder_rejected (st : ExpState) (i : Nat) (outc : String × Int → List Nat)
    (pre : List (String × Int)) (p : String × Int) (post : List (String × Int))
    (hi : st.schedules[i]? = some (.items ((pre ++ p :: post).map fun p => Item.mk p.1 p.2)))
    (hpre : ∀ q ∈ pre, objOf st.lists q = some (some (outc q))) (hp : objOf st.lists p = some none) :
    calcProbDist st (.int i) = .error (.isNone pre.length) :=
  calcProbDist_of_lookup_error st i _ _ hi
    ((lookupTargets_none st.lists outc pre p post 0 hpre hp).trans (by rw [Nat.zero_add]))

example : calcProbDist ⟨⟨[some [1], none], [some [2], some [3]], [some [1]], [some [2], some [3]]⟩,
    [.items [Item.mk "state" 0, Item.mk "mprocess" 0, Item.mk "mprocess" 1, Item.mk "gate" 0, Item.mk "povm" 1]]⟩
    (.int 0) = .ok [2, 3, 3] := by decide +kernel
example : calcProbDist ⟨⟨[some [1], none], [some [2]], [], []⟩, [.items [Item.mk "state" 1, Item.mk "povm" 0]]⟩
    (.int 0) = .error (.isNone 0) := by decide +kernel



/-- **(T) `setters_eq`** — the `objdict` each list setter validates against, and the list it assigns, as generated from
the source: the new value under its own key, the experiment's current lists under the other three keys. A stale
entry (e.g. `povm=self._povms` in the `povms` setter) or a wrong assignment target re-opens this. -/
theorem setters_eq :
    QGen.C20.setterDicts = [[4, 1, 2, 3], [0, 4, 2, 3], [0, 1, 4, 3], [0, 1, 2, 4]] ∧
    QGen.C20.setterAssigns = [0, 1, 2, 3] ∧
    ∀ (L : Lists) (w : Which) (v : ObjList), setterLists L w v = L.set w v ∧ setterAssign L w v = L.set w v :=
  ⟨rfl, rfl, fun L w v => ⟨setterLists_eq L w v, setterAssign_eq L w v⟩⟩

/-- **C20.g `copy_same`** — `Experiment.copy()` re-validates through the constructor: on every reachable
(well-formed) state it succeeds and yields the same lists and schedules. -/
theorem copy_same (st : ExpState) (h : ∀ s ∈ st.schedules, WellFormed st.lists s) :
    copyExp tables st = .ok st := by
  simp only [copyExp, construct, (accept_iff_wellformed st.lists st.schedules).2 h]

example : copyExp tables ⟨⟨[none], [none, none], [], []⟩, [.items [Item.mk "state" 0, Item.mk "povm" 1]]⟩ =
    .ok ⟨⟨[none], [none, none], [], []⟩, [.items [Item.mk "state" 0, Item.mk "povm" 1]]⟩ := by decide +kernel

/-- **C20.h `accepted_indices_in_range`** — acceptance ⇒ index safety, about the generated tables: every item of every
accepted schedule is a `(kind, index)` pair whose kind names one of the four lists and whose index addresses an
existing entry of that list (`0 ≤ index < len`), so the Python look-up `key_map[kind][index]` is defined (and is
not a negative-index wrap-around). -/
theorem accepted_indices_in_range (L : Lists) (ss : List Schedule) (h : validateSchedules tables L ss = .ok ()) :
    ∀ s ∈ ss, ∃ ps : List (String × Int), s = .items (ps.map fun p => Item.mk p.1 p.2) ∧
      ∀ p ∈ ps, ∃ l o, L.get? p.1 = some l ∧ 0 ≤ p.2 ∧ p.2 < (l.length : Int) ∧
        pyIndex l p.2 = some o ∧ l[p.2.toNat]? = some o := by
  intro s hs
  obtain ⟨ps, h1, h2, _⟩ := (accept_iff_wellformed L ss).1 h s hs
  refine ⟨ps, h1, fun p hp => ?_⟩
  obtain ⟨l, hl, h0, hlt⟩ := (inRange_iff_get L p).1 (h2 p hp)
  obtain ⟨o, ho, ho'⟩ := pyIndex_inRange l p.2 h0 hlt
  exact ⟨l, o, hl, h0, hlt, ho, ho'⟩

/-- the same for the four tomography constructors, w.r.t. the lists they hand to `Experiment` -/
theorem tomo_accepted_indices_in_range (c : Cls) (nS nP : Nat) (ss : List Schedule)
    (h : tomoCtor tables c nS nP (.list ss) = .ok ss) :
    ∀ s ∈ ss, ∃ ps : List (String × Int), s = .items (ps.map fun p => Item.mk p.1 p.2) ∧
      ∀ p ∈ ps, ∃ l, (tomoLists c.spec nS nP).get? p.1 = some l ∧ 0 ≤ p.2 ∧ p.2 < (l.length : Int) := by
  intro s hs
  obtain ⟨ps, h1, ⟨h2, _⟩, _⟩ := (tomoCtor_ok_iff c nS nP ss).1 h s hs
  exact ⟨ps, h1, fun p hp => (inRange_iff_get _ p).1 (h2 p hp)⟩

/-- **C20.h' `accepted_lookup_total`** — consequently the object look-ups of `calc_prob_dist` on an accepted schedule
never raise `IndexError` / `KeyError` / `TypeError`: they deliver every object, or stop with the "is None" error at a
`None` placeholder inside the schedule. -/
theorem accepted_lookup_total (L : Lists) (s : Schedule) (h : WellFormed L s) :
    ∃ its, s = .items its ∧
      ((∃ ts, lookupTargets L its 0 = .ok ts ∧ ts.length = its.length) ∨
       (∃ k, lookupTargets L its 0 = .error (.isNone k) ∧ k < its.length)) := by
  obtain ⟨ps, rfl, h2, _⟩ := h
  refine ⟨_, rfl, ?_⟩
  rcases lookupTargets_total L ps 0 h2 with ⟨ts, g1, g2⟩ | ⟨k, g1, g3⟩
  · exact Or.inl ⟨ts, g1, by simp [g2]⟩
  · exact Or.inr ⟨k, g1, by simpa using g3⟩

example : validateSchedules tables ⟨[none, some [1]], [some [2]], [some [1]], []⟩
    [.items [Item.mk "state" 1, Item.mk "gate" 0, Item.mk "povm" 0]] = .ok () := by decide +kernel


/-- tensor-product objects (multi-dimensional outcome shapes): the flat shape without a measurement process, the concatenated
local shapes with one -/
example : calcProbDist ⟨⟨[some []], [some [2, 3]], [], [some [2, 3]]⟩, [.items [Item.mk "state" 0, Item.mk "povm" 0]]⟩ (.int 0) =
    .ok [6] := by decide +kernel
example : calcProbDist ⟨⟨[some []], [some [2, 3]], [some []], [some [2, 3]]⟩,
    [.items [Item.mk "state" 0, Item.mk "mprocess" 0, Item.mk "gate" 0, Item.mk "povm" 0]]⟩ (.int 0) = .ok [2, 3, 2, 3] := by decide +kernel

/-! instantiations of `accepted_executable` / `none_placeholder_rejected`: their hypotheses are jointly satisfiable -/

def L0 : Lists := ⟨[some [1], none], [some [2], some [3]], [some [1]], [some [2], some [3]]⟩
def ps0 : List (String × Int) := [("state", 0), ("mprocess", 0), ("mprocess", 1), ("gate", 0), ("povm", 1)]
def st0 : ExpState := ⟨L0, [.items (ps0.map fun p => Item.mk p.1 p.2)]⟩
def outc0 (p : String × Int) : List Nat := match objOf L0 p with | some (some m) => m | _ => []

-- accepted_executable: all five hypotheses jointly satisfiable, conclusion is informative
example : calcProbDist st0 (.int 0) = .ok [2, 3, 3] :=
  (accepted_executable st0 0 ps0 outc0 rfl (by unfold InRange; decide +kernel) (by unfold OrderRule; decide +kernel)
    (by decide +kernel) (by decide +kernel)).trans (by decide +kernel)

def ps1pre : List (String × Int) := [("state", 0)]
def st1 : ExpState :=
  ⟨L0, [.items ((ps1pre ++ ("state", 1) :: [(("povm", 0) : String × Int)]).map fun (p : String × Int) => Item.mk p.1 p.2)]⟩
example : calcProbDist st1 (.int 0) = .error (.isNone 1) :=
  none_placeholder_rejected st1 0 outc0 ps1pre ("state", 1) [("povm", 0)] rfl (by decide +kernel) (by decide +kernel)


/-- `reachable_wellformed` through `construct` and a setter history (one failing, one succeeding call) -/
example : ∀ s ∈ (runOps tables st0 [.setList .povm [], .setList .gate [some [1], none]]).2.schedules,
    WellFormed (runOps tables st0 [.setList .povm [], .setList .gate [some [1], none]]).2.lists s :=
  reachable_wellformed L0 st0.schedules st0 (by decide +kernel) _


/-- **C20.f' `reachable_executable`** — on every state an experiment can reach (successful construction followed by any
history of succeeding or failing setter calls) every schedule it holds that ends in a POVM and refers to no `None` placeholder
is executed by `calc_prob_dist`, with the exact ordered outcome shape. No well-formedness hypothesis is needed: it is the
invariant `reachable_wellformed`. -/
theorem reachable_executable (L : Lists) (ss : List Schedule) (st : ExpState) (h : construct tables L ss = .ok st)
    (ops : List Op) (i : Nat) (ps : List (String × Int)) (outc : String × Int → List Nat)
    (hi : (runOps tables st ops).2.schedules[i]? = some (.items (ps.map fun p => Item.mk p.1 p.2)))
    (hlast : (ps.map (·.1)).getLast? = some "povm")
    (hobj : ∀ p ∈ ps, objOf (runOps tables st ops).2.lists p = some (some (outc p))) :
    calcProbDist (runOps tables st ops).2 (.int i) =
      .ok (shapeOfRun ((ps.filter fun p => p.1 = "mprocess").map outc) ((ps.filter fun p => p.1 = "povm").map outc).flatten) := by
  obtain ⟨ps', h1, h2, h3⟩ := reachable_wellformed L ss st h ops _ (List.mem_of_getElem? hi)
  cases toSched_inj ps ps' h1
  exact accepted_executable _ i ps outc hi h2 h3 hlast hobj


/-- spec pin: the experiment a tomography object executes -/
theorem substTrue_def (nS nP : Nat) (sh : List Nat) :
    substTrue .qst nS nP sh = ⟨[some []], List.replicate nP (some [2]), [], []⟩ ∧
    substTrue .povmt nS nP sh = ⟨List.replicate nS (some [2]), [some sh], [], []⟩ ∧
    substTrue .qpt nS nP sh = ⟨List.replicate nS (some [2]), List.replicate nP (some [2]), [some []], []⟩ ∧
    substTrue .qmpt nS nP sh = ⟨List.replicate nS (some [2]), List.replicate nP (some [2]), [], [some sh]⟩ := ⟨rfl, rfl, rfl, rfl⟩

/-- **C20.f'' `tomo_accepted_executable`** — every schedule a tomography constructor accepted is executable once the `[None]`
placeholder is replaced by the true object (what `generate_prob_dists_sequence` / the data generation do), for any numbers of
tester states / POVMs and any outcome shape `sh` of the true object; the distribution has shape `[2]` (Qst, Qpt; two-outcome
testers in the model), `[∏ sh]` (Povmt, flat) or `sh ++ [2]` (Qmpt). -/
theorem tomo_accepted_executable (c : Cls) (nS nP : Nat) (ss : List Schedule) (sh : List Nat)
    (h : tomoCtor tables c nS nP (.list ss) = .ok ss) (i : Nat) (hi : i < ss.length) :
    calcProbDist ⟨substTrue c nS nP sh, ss⟩ (.int i) = .ok (tomoShape c sh) := by
  have hmem : ss[i] ∈ ss := List.getElem_mem hi
  have hget : ss[i]? = some ss[i] := List.getElem?_eq_getElem hi
  cases c with
  | qst =>
    obtain ⟨b, hb, hs⟩ := (qst_accept_iff_shape nS nP ss).1 h _ hmem
    refine calcProbDist_of_compose ⟨_, ss⟩ i _ .state [.povm [2]] _ (hget.trans (congrArg some hs)) ?_
      (List.cons_ne_nil _ _) rfl
    simp only [(substTrue_def nS nP sh).1, lookupTargets, Item.mk, get?_state, get?_povm, pyIndex_single,
      pyIndex_replicate nP b _ hb, qtOf_state, qtOf_povm]
  | povmt =>
    obtain ⟨a, ha, hs⟩ := (povmt_accept_iff_shape nS nP ss).1 h _ hmem
    refine calcProbDist_of_compose ⟨_, ss⟩ i _ .state [.povm sh] _ (hget.trans (congrArg some hs)) ?_
      (List.cons_ne_nil _ _) rfl
    simp only [(substTrue_def nS nP sh).2.1, lookupTargets, Item.mk, get?_state, get?_povm, pyIndex_single,
      pyIndex_replicate nS a _ ha, qtOf_state, qtOf_povm]
  | qpt =>
    obtain ⟨a, b, ha, hb, hs⟩ := (qpt_accept_iff_shape nS nP ss).1 h _ hmem
    refine calcProbDist_of_compose ⟨_, ss⟩ i _ .state [.gate, .povm [2]] _ (hget.trans (congrArg some hs)) ?_
      (List.cons_ne_nil _ _) rfl
    simp only [(substTrue_def nS nP sh).2.2.1, lookupTargets, Item.mk, get?_state, get?_gate, get?_povm, pyIndex_single,
      pyIndex_replicate nS a _ ha, pyIndex_replicate nP b _ hb, qtOf_state, qtOf_gate, qtOf_povm]
  | qmpt =>
    obtain ⟨a, b, ha, hb, hs⟩ := (qmpt_accept_iff_shape nS nP ss).1 h _ hmem
    refine calcProbDist_of_compose ⟨_, ss⟩ i _ .state [.mproc sh, .povm [2]] _ (hget.trans (congrArg some hs)) ?_
      (List.cons_ne_nil _ _) rfl
    simp only [(substTrue_def nS nP sh).2.2.2, lookupTargets, Item.mk, get?_state, get?_mprocess, get?_povm,
      pyIndex_single, pyIndex_replicate nS a _ ha, pyIndex_replicate nP b _ hb, qtOf_state, qtOf_mprocess, qtOf_povm]

example : calcProbDist ⟨substTrue .qmpt 2 2 [2, 3], allSchedules .qmpt 2 2⟩ (.int 3) = .ok [2, 3, 2] := by decide +kernel



/-- `reachable_executable` instantiated: a constructed experiment after one failing and one succeeding setter call -/
example : calcProbDist (runOps tables st0 [.setList .povm [], .setList .gate [some [1], none]]).2 (.int 0) = .ok [2, 3, 3] :=
  (reachable_executable L0 st0.schedules st0 (by decide +kernel) [.setList .povm [], .setList .gate [some [1], none]] 0 ps0
    outc0 (by decide +kernel) (by decide +kernel) (by decide +kernel)).trans (by decide +kernel)

end QM.C20
