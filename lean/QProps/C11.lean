import QProofs.C11
import QProps.C10
import QGen.C10
/-!
# C11 — loss minimisation attains the constrained optimum: property theorems

Setting: a real inner-product space `E` (the parameter space `ℝ^n` with the Euclidean pairing the implementation's
`np.dot` computes), a convex set `C` (the physical set), `P` its metric projection given by the variational inequality
(`IsProjOn`, what C04/C05 establish for the implementation's projections), a loss `f` with gradient `g`.  Convexity enters only as
the gradient inequality AT the point considered against the points of `C` (`∀ w ∈ C, f x + ⟪∇f(x), w − x⟫ ≤ f w`), smoothness only
as the quadratic upper bound between points of `C`: both squared-error losses satisfy them globally; the relative-entropy losses
(which clip `p` at `10⁻¹⁰` and are neither convex nor smooth on all of `ℝ^n`) satisfy the convexity hypothesis on the part of the
physical set where the model probabilities of the observed outcomes exceed the clip, and no uniform smoothness bound — the
theorems with the smoothness hypothesis `hsm` (`armijo_accepts_small_steps`, …, `pgdb_projected_gradient_rule_iterations`) cover se / fse only.  All statements are about the model definitions of `QModel/C10.lean`
(`pgdbDir`, `isDoingForAlpha`, `backtrack`, `pgdbStep`, `pgdbLoop`, `pgdbOptimize`, `errorValue`, `windowSum`, `isDoing`) and
`QModel/C11.lean` instantiated at `K = ℝ`, `V = E`, `dot = ⟪·,·⟫`, `sqrt = Real.sqrt`; unbounded in dimension, iteration
count, history window and all thresholds.

Finite stopping with explicit iteration bounds is proved for all four rules with ANY window `n ≥ 1`
(`pgdb_loss_rule_iterations_window`: `1 + n(f₀ − f_low)/eps`; `pgdb_step_size_rule_iterations_window`:
`1 + n²(f₀ − f_low)/(γμ eps²)`; `pgdb_projected_gradient_rule_iterations_window` on `L`-smooth losses, `c` for `γμ`).
Exact-data optimality of the truth for the relative entropy: `relative_entropy_exact_data_minimiser` (Gibbs).
Not proved: that the coded iteration limit (1000) exceeds these bounds — with the default `eps ≈ 10⁻¹⁴` it does not, so a default
run may end on the limit; momentum / FISTA optimality (C10 proves feasibility only); anything about SCS.
Known defect mirrored by a negation witness: `pg_descent_dir_fails_via_stacked` (finding D13).
-/
set_option linter.unusedSectionVars false
namespace QM.C11
open QM.C10
open scoped RealInnerProductSpace

variable {E : Type} [NormedAddCommGroup E] [InnerProductSpace ℝ E]

/-- the Euclidean pairing handed to the model as `dot` -/
def ip (a b : E) : ℝ := ⟪a, b⟫

variable {P : E → E} {C : Set E} {f : E → ℝ} {g : E → E} {sqrt : ℝ → ℝ} {mu gamma eps Lc : ℝ} {mode : StopMode}
  {numHist btFuel maxIter : Nat} {x xStart : E} {it : PgdbIter ℝ E} {hist : List E} {errs : List ℝ}

/-! ## optimality of fixed points, descent direction -/

/-- C11.pg_fixed_iff_opt: for `x ∈ C`, `μ > 0`: the projected-gradient direction vanishes
(`P(x − ∇f(x)/μ) = x`) ⇔ first-order optimality on `C` ⇔ `x` minimises `f` on `C`. -/
theorem pg_fixed_iff_opt [CompleteSpace E] {P : E → E} {C : Set E} (hC : Convex ℝ C) (hP : IsProjOn P C) {f : E → ℝ}
    {g : E → E} {x : E} (hg : HasGradientAt f (g x) x) (hconv : ∀ w ∈ C, f x + ⟪g x, w - x⟫ ≤ f w) {mu : ℝ} (hmu : 0 < mu)
    (hx : x ∈ C) :
    (pgdbDir P g mu x = 0 ↔ ∀ w ∈ C, 0 ≤ ⟪g x, w - x⟫) ∧ ((∀ w ∈ C, 0 ≤ ⟪g x, w - x⟫) ↔ ∀ w ∈ C, f x ≤ f w) :=
  ⟨fixed_iff_first_order hP g hmu hx,
   ⟨fun h w hw => by linarith [hconv w hw, h w hw], first_order_of_min hC hx hg⟩⟩

/-- C11.pg_descent_dir: the direction `y = P(x − ∇f(x)/μ) − x` satisfies `⟪∇f(x), y⟫ ≤ −μ ‖y‖²`. -/
theorem pg_descent_dir {P : E → E} {C : Set E} (hP : IsProjOn P C) (g : E → E) {mu : ℝ} (hmu : 0 < mu) {x : E}
    (hx : x ∈ C) : ⟪g x, pgdbDir P g mu x⟫ ≤ -mu * ‖pgdbDir P g mu x‖ ^ 2 := by
  -- the variational inequality at `w = x`
  have h := pgdbDir_vi hP g hmu x hx
  rw [sub_self, inner_zero_right, inner_zero_right, mul_zero, add_zero] at h
  linarith

/-- the projection onto `[0, ∞) ⊂ ℝ`, for the instantiations below -/
theorem isProjOn_max_zero : IsProjOn (fun z : ℝ => max z 0) (Set.Ici 0) := by
  intro z
  refine ⟨show (0 : ℝ) ≤ max z 0 from le_max_right _ _, fun w hw => ?_⟩
  have hw : (0 : ℝ) ≤ w := hw
  show ⟪z - max z 0, w - max z 0⟫ ≤ 0
  rcases le_total z 0 with h | h
  · rw [max_eq_right h]; simp only [sub_zero, RCLike.inner_apply, conj_trivial]; nlinarith
  · rw [max_eq_left h]; simp

/-- the hypotheses are satisfiable non-trivially: on `ℝ`, `C = [0, ∞)`, `P = max · 0`. -/
example : IsProjOn (fun z : ℝ => max z 0) (Set.Ici 0) := isProjOn_max_zero

/-! ## the sufficient-decrease test as coded ⇒ the loss never increases -/

/-- C11.armijo_monotone: a step size that passes the test coded in `_is_doing_for_alpha` (the `while` loop exits) along a
direction with `⟪y, ∇f(x)⟫ ≤ 0` does not increase the loss; `γ ≥ 0`, `α ≥ 0`. -/
theorem armijo_monotone (f : E → ℝ) (g : E → E) (x y : E) (alpha gamma : ℝ) (ha : 0 ≤ alpha) (hgam : 0 ≤ gamma)
    (hdesc : ⟪y, g x⟫ ≤ 0) (hacc : isDoingForAlpha f g ip x y alpha gamma = false) :
    f (x + alpha • y) ≤ f x + gamma * alpha * ⟪y, g x⟫ ∧ f (x + alpha • y) ≤ f x := by
  have h1 : f (x + alpha • y) ≤ f x + gamma * alpha * ⟪y, g x⟫ := by
    unfold isDoingForAlpha at hacc
    exact not_lt.1 (of_decide_eq_false hacc)
  refine ⟨h1, ?_⟩
  have : gamma * alpha * ⟪y, g x⟫ ≤ 0 := mul_nonpos_of_nonneg_of_nonpos (mul_nonneg hgam ha) hdesc
  linarith

/-! ## one iteration from a feasible point -/

/-- C11.pgdb_step_decrease: one iteration of the backtracking algorithm from a feasible point decreases the loss by at
least `γ α μ ‖y‖²` (sufficient decrease along the projected-gradient direction). -/
theorem pgdb_step_decrease (hC : Convex ℝ C) (hP : IsProjOn P C) (hmu : 0 < mu) (hgam : 0 ≤ gamma) (hx : x ∈ C)
    (h : pgdbStep P f g ip sqrt mu gamma mode btFuel x = some it) :
    f it.xNext ≤ f x - gamma * it.alpha * mu * ‖it.y‖ ^ 2 ∧ f it.xNext ≤ f x ∧ it.xNext ∈ C := by
  obtain ⟨hmem, ha0, _, hy, hxn, hacc⟩ := pgdb_step_feasible hC hP.mem hx h
  have hd : ⟪it.y, g x⟫ ≤ -mu * ‖it.y‖ ^ 2 := by rw [real_inner_comm, hy]; exact pg_descent_dir hP g hmu hx
  have hn := mul_nonneg hmu.le (sq_nonneg ‖it.y‖)
  obtain ⟨h1, h2⟩ := armijo_monotone f g x it.y it.alpha gamma ha0.le hgam (by linarith) hacc
  rw [← hxn] at h1 h2
  have := mul_le_mul_of_nonneg_left hd (mul_nonneg hgam ha0.le)
  exact ⟨by linarith, h2, hmem⟩

/-- the step length is `α ‖y‖`, and the loss decreases by at least `γ μ` times its square (`α² ≤ α` as `α ≤ 1`) -/
theorem pgdb_step_length (hC : Convex ℝ C) (hP : IsProjOn P C) (hmu : 0 < mu) (hgam : 0 ≤ gamma) (hx : x ∈ C)
    (h : pgdbStep P f g ip sqrt mu gamma mode btFuel x = some it) :
    ‖it.xNext - x‖ = it.alpha * ‖it.y‖ ∧ f it.xNext ≤ f x - gamma * mu * (it.alpha * ‖it.y‖) ^ 2 := by
  obtain ⟨_, ha0, ha1, _, hxn, _⟩ := pgdb_step_feasible hC hP.mem hx h
  refine ⟨by rw [hxn, add_sub_cancel_left, norm_smul, Real.norm_eq_abs, abs_of_pos ha0], ?_⟩
  have h1 := mul_le_mul_of_nonneg_right ha1 (mul_nonneg ha0.le (sq_nonneg ‖it.y‖))
  have h2 := mul_le_mul_of_nonneg_left h1 (mul_nonneg hgam hmu.le)
  linarith [(pgdb_step_decrease hC hP hmu hgam hx h).1]

/-! ## what the stopping criteria bound -/

/-- C11.stop_rule_window_one: with `num_history = 1` the loop stops exactly when the last error value is `≤ eps`. -/
theorem stop_rule_window_one (errs : List ℝ) (e eps : ℝ) : isDoing (errs ++ [e]) 1 eps = false ↔ e ≤ eps := by
  rw [isDoing, decide_eq_false_iff_not, not_lt, windowSum_concat errs e 0, List.take_zero, lsum_eq_sum, List.sum_nil, add_zero]

/-- C11.stop_rule_bounds_last: for ANY window `num_history ≥ 1`, if the earlier error values are non-negative (they are: see
`pgdb_error_value_nonneg`), a stop (`value > eps` false) implies that the last error value is `≤ eps`. -/
theorem stop_rule_bounds_last (errs : List ℝ) (e eps : ℝ) (numHist : Nat) (hn : 1 ≤ numHist) (hpos : ∀ v ∈ errs, 0 ≤ v)
    (h : isDoing (errs ++ [e]) numHist eps = false) : e ≤ eps := by
  obtain ⟨m, rfl⟩ : ∃ m, numHist = m + 1 := ⟨numHist - 1, by omega⟩
  rw [isDoing, decide_eq_false_iff_not, not_lt, windowSum_concat] at h
  exact (le_add_of_nonneg_right (lsum_nonneg' _ fun v hv => hpos v (List.mem_reverse.1 (List.mem_of_mem_take hv)))).trans h

example : isDoing ([3, 1 / 4] ++ [1 / 4] : List ℝ) 2 1 = false := by
  unfold isDoing windowSum; norm_num [lsum]

/-- C11.stop_criteria_meaning: the error value of each of the four modes, for an accepted backtracking step
`x_next = x + α y` (`sqrt = Real.sqrt`): loss decrease; its absolute value; `α ‖y‖ = ‖x_next − x‖`; `‖y‖` (the
projected-gradient residual). -/
theorem stop_criteria_meaning (f : E → ℝ) (x y : E) (alpha : ℝ) (ha : 0 ≤ alpha) :
    errorValue .singleDiffLoss f Real.sqrt (fun v => ip v v) x (x + alpha • y) y = f x - f (x + alpha • y) ∧
    errorValue .sumAbsDiffLoss f Real.sqrt (fun v => ip v v) x (x + alpha • y) y = |f x - f (x + alpha • y)| ∧
    errorValue .sumAbsDiffVar f Real.sqrt (fun v => ip v v) x (x + alpha • y) y = alpha * ‖y‖ ∧
    errorValue .sumAbsDiffProjGrad f Real.sqrt (fun v => ip v v) x (x + alpha • y) y = ‖y‖ := by
  refine ⟨rfl, ?_, ?_, ?_⟩
  · simp only [errorValue]
    split_ifs with h
    · rw [abs_of_neg h]
    · rw [abs_of_nonneg (not_lt.1 h)]
  · simp only [errorValue, ip]
    rw [sub_add_cancel_left, inner_neg_neg, real_inner_self_eq_norm_sq, Real.sqrt_sq (norm_nonneg _), norm_smul, Real.norm_eq_abs,
      abs_of_nonneg ha]
  · simp only [errorValue, ip]
    rw [real_inner_self_eq_norm_sq, Real.sqrt_sq (norm_nonneg _)]

/-- the error value of an accepted step from a feasible point, mode by mode (`stop_criteria_meaning` at the step taken) -/
theorem pgdb_step_err (hC : Convex ℝ C) (hP : IsProjOn P C) (hx : x ∈ C)
    (h : pgdbStep P f g ip Real.sqrt mu gamma mode btFuel x = some it) :
    it.err = match mode with
      | .singleDiffLoss => f x - f it.xNext
      | .sumAbsDiffLoss => |f x - f it.xNext|
      | .sumAbsDiffVar => it.alpha * ‖it.y‖
      | .sumAbsDiffProjGrad => ‖it.y‖ := by
  obtain ⟨_, _, hxn, he⟩ := pgdbStep_spec h
  obtain ⟨m1, m2, m3, m4⟩ :=
    stop_criteria_meaning f x it.y it.alpha (pgdb_step_feasible hC hP.mem hx h).2.1.le
  rw [he, hxn]
  cases mode <;> assumption

/-- C11.stop_bounds_projected_gradient_partial: when a run with the default criterion (`single_difference_loss`, window 1)
stops at an iteration from a feasible point, the projected-gradient residual of that iteration is bounded:
`γ α μ ‖y‖² ≤ eps`.  *Partial*: window 1 and the default rule only, and a residual bound rather than a bound on `f(x̂) − min f`;
`stop_mode_guarantees` (all four rules, any window, `f(x̂) − f(z)` bounded) supersedes it. -/
theorem stop_bounds_projected_gradient_partial {P : E → E} {C : Set E} (hC : Convex ℝ C) (hP : IsProjOn P C) (f : E → ℝ)
    (g : E → E) {mu gamma : ℝ} (hmu : 0 < mu) (hgam : 0 ≤ gamma) (btFuel : Nat) {x : E} (hx : x ∈ C)
    (it : PgdbIter ℝ E) (h : pgdbStep P f g ip Real.sqrt mu gamma .singleDiffLoss btFuel x = some it) (errs : List ℝ)
    (eps : ℝ) (hstop : isDoing (errs ++ [it.err]) 1 eps = false) :
    gamma * it.alpha * mu * ‖it.y‖ ^ 2 ≤ eps := by
  have hdec := (pgdb_step_decrease hC hP hmu hgam hx h).1
  have herr : it.err = f x - f it.xNext := pgdb_step_err hC hP hx h
  have := (stop_rule_window_one errs it.err eps).1 hstop
  linarith

/-! ## ε-optimality certificate and what each stopping mode guarantees -/

/-- C11.eps_optimality_certificate: for a convex differentiable loss (gradient inequality), `x ∈ C` and ANY competitor `z ∈ C`:
`f(x) − f(z) ≤ ‖y‖ · (‖∇f(x)‖ + μ ‖z − x‖)` with `y = P(x − ∇f(x)/μ) − x` the projected-gradient residual.  Hence a residual
`‖y‖ ≤ δ` certifies `f(x) ≤ min_C f + δ (‖∇f(x)‖ + μ D)` when every point of `C` is within `D` of `x` (e.g. `D` = diameter of
the physical set: `√2` for states in the normalised basis). -/
theorem eps_optimality_certificate (hP : IsProjOn P C) (hmu : 0 < mu) (x : E) (hconv : ∀ w ∈ C, f x + ⟪g x, w - x⟫ ≤ f w)
    {z : E} (hz : z ∈ C) :
    f x - f z ≤ ‖pgdbDir P g mu x‖ * (‖g x‖ + mu * ‖z - x‖) := by
  -- the variational inequality at `z` bounds the linearised decrease `−⟪∇f(x), z − x⟫` by Cauchy–Schwarz
  have h := pgdbDir_vi hP g hmu x hz
  have hb := (neg_le_abs _).trans (abs_real_inner_le_norm (g x) (pgdbDir P g mu x))
  have hc := mul_le_mul_of_nonneg_left (real_inner_le_norm (pgdbDir P g mu x) (z - x)) hmu.le
  have hn := mul_nonneg hmu.le (sq_nonneg ‖pgdbDir P g mu x‖)
  linarith [hconv z hz]

/-- C11.eps_optimality_of_small_residual: the same with explicit bounds `δ` on the residual and `D` on the distance. -/
theorem eps_optimality_of_small_residual {P : E → E} {C : Set E} (hP : IsProjOn P C) {f : E → ℝ} {g : E → E}
    {mu : ℝ} (hmu : 0 < mu) (x : E) (hconv : ∀ w ∈ C, f x + ⟪g x, w - x⟫ ≤ f w) {z : E} (hz : z ∈ C) {delta D : ℝ}
    (hres : ‖pgdbDir P g mu x‖ ≤ delta) (hD : ‖z - x‖ ≤ D) :
    f x - f z ≤ delta * (‖g x‖ + mu * D) := by
  have h1 : ‖g x‖ + mu * ‖z - x‖ ≤ ‖g x‖ + mu * D := add_le_add le_rfl (mul_le_mul_of_nonneg_left hD hmu.le)
  have h0 : 0 ≤ ‖g x‖ + mu * ‖z - x‖ := add_nonneg (norm_nonneg _) (mul_nonneg hmu.le (norm_nonneg _))
  exact (eps_optimality_certificate hP hmu x hconv hz).trans (mul_le_mul hres h1 h0 ((norm_nonneg _).trans hres))

/-- the certificate instantiated non-trivially: `E = ℝ`, `C = [0, ∞)`, `f u = (u + 1)²` (its constrained minimiser `0` is on the
boundary, with non-zero gradient), `μ = 1`, at `x = 1` against `z = 0`: the local convexity hypothesis holds and the bound
reads `4 − 1 ≤ |P(1 − 4) − 1| · (4 + 1·1) = 5`. -/
example : ((1 : ℝ) + 1) ^ 2 - ((0 : ℝ) + 1) ^ 2
    ≤ ‖pgdbDir (fun z : ℝ => max z 0) (fun u => 2 * (u + 1)) (1 : ℝ) (1 : ℝ)‖ * (‖(2 * ((1 : ℝ) + 1) : ℝ)‖ + 1 * ‖(0 : ℝ) - 1‖) := by
  have h := eps_optimality_certificate (f := fun u : ℝ => (u + 1) ^ 2) (g := fun u => 2 * (u + 1)) isProjOn_max_zero
    (mu := 1) one_pos 1
    (by
      intro w _
      simp only [RCLike.inner_apply, conj_trivial]
      linarith [sq_nonneg (w - 1)])
    (z := 0) (Set.mem_Ici.2 (le_refl (0 : ℝ)))
  simpa using h

/-- C11.pgdb_error_value_nonneg: the error value of an accepted backtracking step from a feasible point is non-negative in all
four modes (the loss decrease by `pgdb_step_decrease`, the others by definition) — the hypothesis `hpos` of
`stop_rule_bounds_last` / `stop_mode_guarantees` holds along every run. -/
theorem pgdb_error_value_nonneg {P : E → E} {C : Set E} (hC : Convex ℝ C) (hP : IsProjOn P C) (f : E → ℝ) (g : E → E)
    {mu gamma : ℝ} (hmu : 0 < mu) (hgam : 0 ≤ gamma) (mode : StopMode) (btFuel : Nat) {x : E} (hx : x ∈ C)
    (it : PgdbIter ℝ E) (h : pgdbStep P f g ip Real.sqrt mu gamma mode btFuel x = some it) : 0 ≤ it.err := by
  have hle := (pgdb_step_decrease hC hP hmu hgam hx h).2.1
  have ha0 := (pgdb_step_feasible hC hP.mem hx h).2.1
  rw [pgdb_step_err hC hP hx h]
  cases mode
  · exact sub_nonneg.2 hle
  · exact abs_nonneg _
  · exact mul_nonneg ha0.le (norm_nonneg _)
  · exact norm_nonneg _

/-- residual bound `δ_mode` implied by the stopping test of each mode (window 1) for accepted step size `α` -/
noncomputable def stopDelta (mode : StopMode) (eps gamma alpha mu : ℝ) : ℝ :=
  match mode with
  | .sumAbsDiffProjGrad => eps
  | .sumAbsDiffVar => eps / alpha
  | .singleDiffLoss => Real.sqrt (eps / (gamma * alpha * mu))
  | .sumAbsDiffLoss => Real.sqrt (eps / (gamma * alpha * mu))

/-- C11.stop_mode_guarantees: a backtracking run (any window `≥ 1`, `sqrt = Real.sqrt`) that stops at an iteration taken from the
feasible point `x` returns `x_next` with, for every competitor `z ∈ C`,
`f(x_next) − f(z) ≤ δ_mode · (‖∇f(x)‖ + μ ‖z − x‖)` where the residual bound `δ_mode = stopDelta …` implied by the stopping test is
* `sum_absolute_difference_projected_gradient`: `eps`;
* `sum_absolute_difference_variable`: `eps / α`;
* `single_difference_loss` and `sum_absolute_difference_loss`: `√(eps / (γ α μ))`
(`α` the accepted step size of that iteration, `γ > 0`).  This is the ε-optimality of the returned estimate in terms of the
stopping threshold — with the run-dependent quantities `α`, `‖∇f(x)‖` that the history records. -/
theorem stop_mode_guarantees {P : E → E} {C : Set E} (hC : Convex ℝ C) (hP : IsProjOn P C) {f : E → ℝ} {g : E → E}
    {mu gamma : ℝ} (hmu : 0 < mu) (hgam : 0 < gamma) (mode : StopMode)
    (btFuel : Nat) {x : E} (hx : x ∈ C) (hconv : ∀ w ∈ C, f x + ⟪g x, w - x⟫ ≤ f w) (it : PgdbIter ℝ E)
    (h : pgdbStep P f g ip Real.sqrt mu gamma mode btFuel x = some it) (errs : List ℝ) (eps : ℝ)
    (numHist : Nat) (hn : 1 ≤ numHist) (hpos : ∀ v ∈ errs, 0 ≤ v)
    (hstop : isDoing (errs ++ [it.err]) numHist eps = false) {z : E} (hz : z ∈ C) :
    f it.xNext - f z ≤
      stopDelta mode eps gamma it.alpha mu * (‖g x‖ + mu * ‖z - x‖) := by
  obtain ⟨_, ha0, _, hy, _, _⟩ := pgdb_step_feasible hC hP.mem hx h
  obtain ⟨hdec, hle, _⟩ := pgdb_step_decrease hC hP hmu hgam.le hx h
  have hstop' := stop_rule_bounds_last errs it.err eps numHist hn hpos hstop
  -- it suffices to bound the residual by the mode's δ
  suffices hres : ‖it.y‖ ≤ stopDelta mode eps gamma it.alpha mu from
    (sub_le_sub_right hle _).trans (eps_optimality_of_small_residual hP hmu x hconv hz (hy ▸ hres) le_rfl)
  have hpos : 0 < gamma * it.alpha * mu := mul_pos (mul_pos hgam ha0) hmu
  have hsq : f x - f it.xNext ≤ eps → ‖it.y‖ ≤ Real.sqrt (eps / (gamma * it.alpha * mu)) := fun hfd =>
    Real.le_sqrt_of_sq_le ((le_div_iff₀ hpos).2 (by linarith))
  rw [pgdb_step_err hC hP hx h] at hstop'
  cases mode with
  | sumAbsDiffProjGrad => exact hstop'
  | sumAbsDiffVar => exact (le_div_iff₀ ha0).2 (by rw [mul_comm]; exact hstop')
  | singleDiffLoss => exact hsq hstop'
  | sumAbsDiffLoss => exact hsq ((le_abs_self _).trans hstop')

/-! ## invariant rule of a whole run; monotone loss -/

/-- Invariant rule for `optimize` from a feasible start: a predicate of the current point and the earlier points that every
accepted step from a feasible point preserves holds of the returned history. -/
theorem pgdb_run_invariant (hC : Convex ℝ C) (hP : IsProjOn P C) (Inv : E → List E → Prop) (h0 : Inv xStart [])
    (hstep : ∀ x rest it, x ∈ C → Inv x rest → pgdbStep P f g ip sqrt mu gamma mode btFuel x = some it →
      Inv it.xNext (x :: rest))
    (hs : xStart ∈ C)
    (h : pgdbOptimize P f g ip sqrt mu gamma eps mode numHist btFuel maxIter xStart = some (x, hist, errs)) :
    ∃ rest, hist = x :: rest ∧ Inv x rest := by
  obtain ⟨xs, rfl, hl⟩ := pgdbOptimize_eq_some h
  obtain ⟨x', _, rest, hxs, hI⟩ := pgdbLoop_invariant (fun x _ xs => x ∈ C ∧ ∃ rest, xs = x :: rest ∧ Inv x rest)
    (fun x _ xs it hI hit => by
      obtain ⟨hx, rest, rfl, hI⟩ := hI
      exact ⟨(pgdb_step_feasible hC hP.mem hx hit).1, _, rfl, hstep x rest it hx hI hit⟩)
    ⟨hs, [], rfl, h0⟩ hl
  obtain ⟨rfl, rfl⟩ := List.cons.inj hxs
  exact ⟨_, rfl, hI⟩

/-- C11.pgdb_loss_nonincreasing: along a whole backtracking run — any iteration limit, stopping mode, window, thresholds —
the recorded history (most recent first) has non-increasing loss: every later iterate has a loss ≤ every earlier one; and
(`pgdb_estimate_feasible`) every iterate is in `C`. -/
theorem pgdb_loss_nonincreasing {P : E → E} {C : Set E} (hC : Convex ℝ C) (hP : IsProjOn P C) (f : E → ℝ) (g : E → E)
    (sqrt : ℝ → ℝ) {mu gamma : ℝ} (eps : ℝ) (hmu : 0 < mu) (hgam : 0 ≤ gamma) (mode : StopMode)
    (numHist btFuel maxIter : Nat) {xStart : E} (hs : xStart ∈ C) (x : E) (hist : List E) (errs : List ℝ)
    (h : pgdbOptimize P f g ip sqrt mu gamma eps mode numHist btFuel maxIter xStart = some (x, hist, errs)) :
    hist.Pairwise (fun a b => f a ≤ f b) ∧ (∀ v ∈ hist, v ∈ C) ∧ f x ≤ f xStart := by
  obtain ⟨rest, rfl, hpw, hle⟩ := pgdb_run_invariant hC hP
    (fun x rest => (x :: rest).Pairwise (fun a b => f a ≤ f b) ∧ f x ≤ f xStart) ⟨List.pairwise_singleton _ _, le_rfl⟩
    (fun x rest it hx hI hit => by
      have hle := (pgdb_step_decrease hC hP hmu hgam hx hit).2.1
      refine ⟨List.pairwise_cons.2 ⟨fun b hb => ?_, hI.1⟩, hle.trans hI.2⟩
      rcases List.mem_cons.1 hb with rfl | hb
      · exact hle
      · exact hle.trans (List.rel_of_pairwise_cons hI.1 hb))
    hs h
  exact ⟨hpw, (pgdb_estimate_feasible hC hP.mem hs h).2, hle⟩

/-! ## summability of the steps, termination of the line search, eventual stopping -/

/-- C11.pgdb_steps_summable: along any backtracking run from a feasible start (any mode, window, thresholds, iteration limit) the
squared step lengths are summable against the loss decrease: `γ μ Σ_k ‖x_{k+1} − x_k‖² ≤ f(x₀) − f(x̂)` — no smoothness
assumption is needed (the accepted `α ≤ 1` and the descent inequality suffice). -/
theorem pgdb_steps_summable (hC : Convex ℝ C) (hP : IsProjOn P C) (hmu : 0 < mu) (hgam : 0 ≤ gamma) (hs : xStart ∈ C)
    (h : pgdbOptimize P f g ip sqrt mu gamma eps mode numHist btFuel maxIter xStart = some (x, hist, errs)) :
    gamma * mu * sumSqSteps hist ≤ f xStart - f x := by
  obtain ⟨rest, rfl, hI⟩ := pgdb_run_invariant hC hP
    (fun x rest => gamma * mu * sumSqSteps (x :: rest) + f x ≤ f xStart) (by simp [sumSqSteps])
    (fun x rest it hx hI hit => by
      obtain ⟨hlen, hdec⟩ := pgdb_step_length hC hP hmu hgam hx hit
      rw [sumSqSteps, hlen, mul_add]
      linarith)
    hs h
  linarith

/-- C11.pgdb_long_steps_bounded: hence a run whose every step is at least `eps` long has at most
`(f(x₀) − f_low) / (γ μ eps²)` steps, for any lower bound `f_low` of the loss at the returned point.  (A counting bound under the
explicit hypothesis `AllStepsGe`; that the loop as coded stops within the iteration limit is not derived here.) -/
theorem pgdb_long_steps_bounded {P : E → E} {C : Set E} (hC : Convex ℝ C) (hP : IsProjOn P C) (f : E → ℝ) (g : E → E)
    (sqrt : ℝ → ℝ) {mu gamma : ℝ} (eps0 : ℝ) (hmu : 0 < mu) (hgam : 0 ≤ gamma) (mode : StopMode)
    (numHist btFuel maxIter : Nat) {xStart : E} (hs : xStart ∈ C) (x : E) (hist : List E) (errs : List ℝ)
    (h : pgdbOptimize P f g ip sqrt mu gamma eps0 mode numHist btFuel maxIter xStart = some (x, hist, errs))
    {eps fLow : ℝ} (heps : 0 ≤ eps) (hlow : fLow ≤ f x) (hlong : AllStepsGe eps hist) :
    ((hist.length - 1 : Nat) : ℝ) * (gamma * mu * eps ^ 2) ≤ f xStart - fLow := by
  have h1 := pgdb_steps_summable hC hP hmu hgam hs h
  have h2 := mul_le_mul_of_nonneg_left (count_le_sumSq heps hist hlong) (mul_nonneg hgam hmu.le)
  linarith

/-- C11.armijo_accepts_small_steps: if the loss has the quadratic upper bound of an `L`-smooth function
(`f(v) ≤ f(u) + ⟪∇f(u), v−u⟫ + L/2 ‖v−u‖²`), then from a feasible point every step size `0 < α ≤ min(1, 2(1−γ)μ/L)` passes the
sufficient-decrease test as coded. -/
theorem armijo_accepts_small_steps (hC : Convex ℝ C) (hP : IsProjOn P C) (hL : 0 < Lc) (hmu : 0 < mu) (hgam1 : gamma < 1)
    (hx : x ∈ C)
    (hsm : ∀ v ∈ C, f v ≤ f x + ⟪g x, v - x⟫ + Lc / 2 * ‖v - x‖ ^ 2)
    (a : ℝ) (ha : 0 < a) (hle : a ≤ 2 * (1 - gamma) * mu / Lc) (ha1 : a ≤ 1) :
    isDoingForAlpha f g ip x (pgdbDir P g mu x) a gamma = false := by
  -- the trial point is in `C`; there the quadratic bound reads `f(x + a y) ≤ f x + a ⟪∇f(x), y⟫ + L/2 · a² ‖y‖²`
  have hq := hsm (x + a • pgdbDir P g mu x) (hC.add_smul_sub_mem hx (hP.mem _) ⟨ha.le, ha1⟩)
  rw [add_sub_cancel_left, real_inner_smul_right, norm_smul, Real.norm_eq_abs, abs_of_pos ha, mul_pow] at hq
  have key := armijo_arith ha hgam1 (sq_nonneg _) (pg_descent_dir hP g hmu hx) ((le_div_iff₀ hL).1 hle)
  rw [isDoingForAlpha, decide_eq_false_iff_not, not_lt, ip, real_inner_comm]
  linarith

/-- C11.backtrack_terminates: under the same assumption the `while` loop of the line search ends after at most
`fuel + 1` tests as soon as `2^{-fuel} ≤ 2(1−γ)μ/L` — the iteration as coded never hangs on a smooth convex loss. -/
theorem backtrack_terminates {P : E → E} {C : Set E} (hC : Convex ℝ C) (hP : IsProjOn P C) {f : E → ℝ} {g : E → E} {Lc : ℝ}
    (hL : 0 < Lc) {mu gamma : ℝ} (hmu : 0 < mu) (hgam1 : gamma < 1) (sqrt : ℝ → ℝ) (mode : StopMode) {x : E} (hx : x ∈ C)
    (hsm : ∀ v ∈ C, f v ≤ f x + ⟪g x, v - x⟫ + Lc / 2 * ‖v - x‖ ^ 2) (fuel : Nat)
    (hfuel : (1 : ℝ) / 2 ^ fuel ≤ 2 * (1 - gamma) * mu / Lc) :
    ∃ it, pgdbStep P f g ip sqrt mu gamma mode (fuel + 1) x = some it := by
  obtain ⟨a, ha⟩ := backtrack_terminates_of_threshold f g ip x (pgdbDir P g mu x) gamma _
    (fun a h0 hle h1 => armijo_accepts_small_steps hC hP hL hmu hgam1 hx hsm a h0 hle h1) fuel 1 one_pos le_rfl hfuel
  simp only [pgdbStep, ha]
  exact ⟨_, rfl⟩

theorem rate_const_nonneg (hL : 0 < Lc) (hmu : 0 < mu) (hgam0 : 0 < gamma) (hgam1 : gamma < 1) :
    0 ≤ gamma * mu * min 1 ((1 - gamma) * mu / Lc) :=
  mul_nonneg (mul_nonneg hgam0.le hmu.le)
    (le_min zero_le_one (div_nonneg (mul_nonneg (sub_nonneg.2 hgam1.le) hmu.le) hL.le))

/-- C11.pgdb_step_alpha_lower_bound: the accepted step size is bounded below uniformly over the run,
`α ≥ min(1, (1−γ)μ/L)`, hence each iteration decreases the loss by at least `γ μ min(1,(1−γ)μ/L) ‖y‖²`: the squared
projected-gradient residuals are summable as well, `Σ_k ‖y_k‖² ≤ (f(x₀) − f*) / (γ μ min(1,(1−γ)μ/L))`, and
`min_{k<n} ‖y_k‖² = O(1/n)`; with `eps_optimality_certificate` this is an `O(1/√n)` bound on `f(x_k) − min_C f`. -/
theorem pgdb_step_alpha_lower_bound (hC : Convex ℝ C) (hP : IsProjOn P C) (hL : 0 < Lc) (hmu : 0 < mu)
    (hgam0 : 0 < gamma) (hgam1 : gamma < 1) (hx : x ∈ C)
    (hsm : ∀ v ∈ C, f v ≤ f x + ⟪g x, v - x⟫ + Lc / 2 * ‖v - x‖ ^ 2)
    (h : pgdbStep P f g ip sqrt mu gamma mode btFuel x = some it) :
    min 1 ((1 - gamma) * mu / Lc) ≤ it.alpha ∧
      f it.xNext ≤ f x - gamma * mu * min 1 ((1 - gamma) * mu / Lc) * ‖it.y‖ ^ 2 := by
  have halpha : min 1 ((1 - gamma) * mu / Lc) ≤ it.alpha := by
    -- the accepted step size is `1`, or twice it was rejected, hence exceeds the threshold below which every step is accepted
    rcases (backtrack_range f g ip x _ gamma btFuel 1 it.alpha one_pos le_rfl (pgdbStep_spec h).1).2.2.2 with h1 | ⟨h1, h1'⟩
    · rw [h1]; exact min_le_left _ _
    · refine (min_le_right _ _).trans (le_of_not_gt fun hcon => ?_)
      have hle : 2 * it.alpha ≤ 2 * (1 - gamma) * mu / Lc := by rw [mul_assoc, mul_div_assoc]; linarith
      have hpos := (pgdb_step_feasible hC hP.mem hx h).2.1
      rw [armijo_accepts_small_steps hC hP hL hmu hgam1 hx hsm (2 * it.alpha) (mul_pos two_pos hpos) hle h1'] at h1
      exact Bool.false_ne_true h1
  have := mul_le_mul_of_nonneg_right (mul_le_mul_of_nonneg_left halpha (mul_nonneg hgam0.le hmu.le)) (sq_nonneg ‖it.y‖)
  exact ⟨halpha, by linarith [(pgdb_step_decrease hC hP hmu hgam0.le hx h).1]⟩

/-- C11.pgdb_residuals_summable (convex `L`-smooth case): along any backtracking run from a feasible start the squared
projected-gradient residuals at the visited points are summable,
`γ μ min(1,(1−γ)μ/L) · Σ_k ‖P(x_k − ∇f(x_k)/μ) − x_k‖² ≤ f(x₀) − f(x̂)`. -/
theorem pgdb_residuals_summable (hC : Convex ℝ C) (hP : IsProjOn P C) (hL : 0 < Lc)
    (hsm : ∀ u ∈ C, ∀ v ∈ C, f v ≤ f u + ⟪g u, v - u⟫ + Lc / 2 * ‖v - u‖ ^ 2)
    (hmu : 0 < mu) (hgam0 : 0 < gamma) (hgam1 : gamma < 1) (hs : xStart ∈ C)
    (h : pgdbOptimize P f g ip sqrt mu gamma eps mode numHist btFuel maxIter xStart = some (x, hist, errs)) :
    gamma * mu * min 1 ((1 - gamma) * mu / Lc) * sumSqResiduals P g mu hist ≤ f xStart - f x := by
  obtain ⟨rest, rfl, hI⟩ := pgdb_run_invariant hC hP
    (fun x rest => gamma * mu * min 1 ((1 - gamma) * mu / Lc) * sumSqResiduals P g mu (x :: rest) + f x ≤ f xStart)
    (by simp [sumSqResiduals])
    (fun x rest it hx hI hit => by
      have hdec := (pgdb_step_alpha_lower_bound hC hP hL hmu hgam0 hgam1 hx (hsm x hx) hit).2
      rw [(pgdb_step_feasible hC hP.mem hx hit).2.2.2.1] at hdec
      rw [sumSqResiduals, mul_add]
      linarith)
    hs h
  linarith

/-- C11.pgdb_rate: consequently a run in which every step was taken from a point with residual `≥ eps` has at most
`(f(x₀) − f_low) / (γ μ min(1,(1−γ)μ/L) eps²)` steps; equivalently, among `n` steps some VISITED point (not necessarily the
returned one) has squared residual `≤ (f(x₀) − f_low)/(c n)`.  A counting bound under the explicit hypothesis `AllResidualsGe`;
`pgdb_projected_gradient_rule_iterations` bounds the iterations of the projected-gradient rule without that hypothesis. -/
theorem pgdb_rate {P : E → E} {C : Set E} (hC : Convex ℝ C) (hP : IsProjOn P C) {f : E → ℝ} {g : E → E}
    {Lc : ℝ} (hL : 0 < Lc) (hsm : ∀ u ∈ C, ∀ v ∈ C, f v ≤ f u + ⟪g u, v - u⟫ + Lc / 2 * ‖v - u‖ ^ 2) (sqrt : ℝ → ℝ) {mu gamma : ℝ} (eps0 : ℝ)
    (hmu : 0 < mu) (hgam0 : 0 < gamma) (hgam1 : gamma < 1) (mode : StopMode) (numHist btFuel maxIter : Nat) {xStart : E}
    (hs : xStart ∈ C) (x : E) (hist : List E) (errs : List ℝ)
    (h : pgdbOptimize P f g ip sqrt mu gamma eps0 mode numHist btFuel maxIter xStart = some (x, hist, errs))
    {eps fLow : ℝ} (heps : 0 ≤ eps) (hlow : fLow ≤ f x) (hbig : AllResidualsGe P g mu eps hist) :
    ((hist.length - 1 : Nat) : ℝ) * (gamma * mu * min 1 ((1 - gamma) * mu / Lc) * eps ^ 2) ≤ f xStart - fLow := by
  have h1 := pgdb_residuals_summable hC hP hL hsm hmu hgam0 hgam1 hs h
  have h2 := mul_le_mul_of_nonneg_left (count_le_sumSqResiduals P g mu heps hist hbig)
    (rate_const_nonneg hL hmu hgam0 hgam1)
  linarith

/-! ## every stopping rule is met after finitely many iterations, for any window -/

/-- The potential argument behind all iteration bounds.  Suppose every accepted step from a feasible point earns a credit
`cr err ≥ 0`, a function of its error value, by which the loss drops, and that a window of `n` error values summing to more than
`eps` (the loop continues) holds credits summing to at least `q`.  Then `(iterations − 1) · q ≤ n (f(x₀) − f_low)`, `f_low ≤ f(x̂)`.
Invariant: `(#continued)·q + n·f(x) + pot (n−1) credits ≤ n·f(x₀)` — by `pot_cons_le` an iteration lowers `n·f + pot` by the
credits in the window. -/
theorem pgdb_window_iterations (cr : ℝ → ℝ) {q : ℝ} (hq : 0 ≤ q) {n : Nat} (hn : 1 ≤ n)
    (hdec : ∀ x ∈ C, ∀ it, pgdbStep P f g ip Real.sqrt mu gamma mode btFuel x = some it →
      it.xNext ∈ C ∧ 0 ≤ cr it.err ∧ f it.xNext ≤ f x - cr it.err)
    (hwin : ∀ l : List ℝ, eps < lsum (l.take n) → q ≤ lsum ((l.map cr).take n))
    (hs : xStart ∈ C) (h : pgdbOptimize P f g ip Real.sqrt mu gamma eps mode n btFuel maxIter xStart = some (x, hist, errs))
    {fLow : ℝ} (hlow : fLow ≤ f x) :
    ((hist.length - 2 : Nat) : ℝ) * q ≤ (n : ℝ) * (f xStart - fLow) := by
  obtain ⟨m, rfl⟩ : ∃ m, n = m + 1 := ⟨n - 1, by omega⟩
  obtain ⟨xs, rfl, hl⟩ := pgdbOptimize_eq_some h
  obtain ⟨x', errs', _, ⟨hx', rest, rfl, hnn, hI⟩, hres⟩ := pgdbLoop_rule
    (fun x errs xs => x ∈ C ∧ ∃ rest, xs = x :: rest ∧ (∀ v ∈ errs.reverse.map cr, 0 ≤ v) ∧
      (rest.length : ℝ) * q + ((m : ℝ) + 1) * f x + pot m (errs.reverse.map cr) ≤ ((m : ℝ) + 1) * f xStart)
    (fun x errs xs it hI hit hd => by
      obtain ⟨hx, rest, rfl, hnn, hI⟩ := hI
      obtain ⟨hmem, hc0, hdecr⟩ := hdec x hx it hit
      have hW := hwin _ ((isDoing_iff _ _ _).1 hd)
      have hrev : (errs ++ [it.err]).reverse.map cr = cr it.err :: errs.reverse.map cr := by simp
      rw [hrev] at hW ⊢
      refine ⟨hmem, _, rfl, List.forall_mem_cons.2 ⟨hc0, hnn⟩, ?_⟩
      have := pot_cons_le m (errs.reverse.map cr) hdecr
      rw [List.length_cons, Nat.cast_add_one]
      linarith)
    maxIter xStart [] [xStart] _ ⟨hs, [], rfl, by simp, by simp [pot_nil]⟩ hl
  -- the returned history is the last loop head, or one more step from it
  have key : (x :: xs).length - 2 ≤ rest.length ∧ fLow ≤ f x' := by
    rcases hres with hres | ⟨it, hit, hres⟩
    · obtain ⟨rfl, rfl⟩ := List.cons.inj (Prod.mk.inj hres).1
      exact ⟨by simp only [List.length_cons]; omega, hlow⟩
    · obtain ⟨rfl, rfl⟩ := List.cons.inj (Prod.mk.inj hres).1
      obtain ⟨_, hc0, hdecr⟩ := hdec x' hx' it hit
      exact ⟨by simp only [List.length_cons]; omega, hlow.trans (hdecr.trans (sub_le_self _ hc0))⟩
  have h1 := mul_le_mul_of_nonneg_right (Nat.cast_le (α := ℝ).2 key.1) hq
  have h2 := mul_le_mul_of_nonneg_left key.2 (add_nonneg m.cast_nonneg zero_le_one)
  have h3 := pot_nonneg m _ hnn
  rw [Nat.cast_add_one]
  linarith

/-- C11.pgdb_loss_rule_iterations_window: for ANY window `num_history = n ≥ 1`, a run under `single_difference_loss` or
`sum_absolute_difference_loss` with threshold `eps ≥ 0` satisfies `(iterations − 1)·eps ≤ n·(f(x₀) − f_low)`: it performs at most
`1 + n (f(x₀) − f_low)/eps` iterations. -/
theorem pgdb_loss_rule_iterations_window {P : E → E} {C : Set E} (hC : Convex ℝ C) (hP : IsProjOn P C) (f : E → ℝ) (g : E → E)
    {mu gamma : ℝ} (eps : ℝ) (heps : 0 ≤ eps) (hmu : 0 < mu) (hgam : 0 ≤ gamma) (mode : StopMode)
    (hmode : mode = .singleDiffLoss ∨ mode = .sumAbsDiffLoss) (numHist : Nat) (hn : 1 ≤ numHist) (btFuel maxIter : Nat)
    {xStart : E} (hs : xStart ∈ C) (x : E) (hist : List E) (errs : List ℝ)
    (h : pgdbOptimize P f g ip Real.sqrt mu gamma eps mode numHist btFuel maxIter xStart = some (x, hist, errs))
    {fLow : ℝ} (hlow : fLow ≤ f x) :
    ((hist.length - 2 : Nat) : ℝ) * eps ≤ (numHist : ℝ) * (f xStart - fLow) := by
  refine pgdb_window_iterations id heps hn (fun x hx it hit => ?_) (fun l hl => by rw [List.map_id]; exact hl.le) hs h hlow
  obtain ⟨_, hle, hmem⟩ := pgdb_step_decrease hC hP hmu hgam hx hit
  have herr : it.err = f x - f it.xNext := by
    rw [pgdb_step_err hC hP hx hit]
    rcases hmode with rfl | rfl
    · rfl
    · exact abs_of_nonneg (sub_nonneg.2 hle)
  have h0 : 0 ≤ it.err := by rw [herr]; exact sub_nonneg.2 hle
  exact ⟨hmem, h0, by show f it.xNext ≤ f x - it.err; rw [herr, sub_sub_cancel]⟩

/-- C11.pgdb_loss_rule_iterations: a run under `single_difference_loss` (the default) or `sum_absolute_difference_loss` with window 1
and threshold `eps ≥ 0` performs at most `1 + (f(x₀) − f_low) / eps` iterations (for `eps > 0`): every iteration but the last
decreased the loss by more than `eps`.  With the default `eps ≈ 10⁻¹⁴` this bound is astronomically larger than the coded
iteration limit 1000 — the rule is met in finitely many steps, but the limit may well be reached first. -/
theorem pgdb_loss_rule_iterations {P : E → E} {C : Set E} (hC : Convex ℝ C) (hP : IsProjOn P C) (f : E → ℝ) (g : E → E)
    {mu gamma : ℝ} (eps : ℝ) (heps : 0 ≤ eps) (hmu : 0 < mu) (hgam : 0 ≤ gamma) (mode : StopMode)
    (hmode : mode = .singleDiffLoss ∨ mode = .sumAbsDiffLoss) (btFuel maxIter : Nat) {xStart : E}
    (hs : xStart ∈ C) (x : E) (hist : List E) (errs : List ℝ)
    (h : pgdbOptimize P f g ip Real.sqrt mu gamma eps mode 1 btFuel maxIter xStart = some (x, hist, errs))
    {fLow : ℝ} (hlow : fLow ≤ f x) :
    ((hist.length - 2 : Nat) : ℝ) * eps ≤ f xStart - fLow := by
  have := pgdb_loss_rule_iterations_window hC hP f g eps heps hmu hgam mode hmode 1 le_rfl btFuel maxIter hs x hist errs h hlow
  rwa [Nat.cast_one, one_mul] at this

/-- C11.pgdb_step_size_rule_iterations_window: the step-size rule `sum_absolute_difference_variable` with ANY window `n ≥ 1` and
threshold `eps ≥ 0`: `(iterations − 1) · γ μ eps² / n ≤ n (f(x₀) − f_low)`, i.e. at most `1 + n² (f(x₀) − f_low)/(γ μ eps²)`
iterations.  No smoothness assumption. -/
theorem pgdb_step_size_rule_iterations_window {P : E → E} {C : Set E} (hC : Convex ℝ C) (hP : IsProjOn P C) (f : E → ℝ)
    (g : E → E) {mu gamma : ℝ} (eps : ℝ) (heps : 0 ≤ eps) (hmu : 0 < mu) (hgam : 0 ≤ gamma) (numHist : Nat) (hn : 1 ≤ numHist)
    (btFuel maxIter : Nat) {xStart : E} (hs : xStart ∈ C) (x : E) (hist : List E) (errs : List ℝ)
    (h : pgdbOptimize P f g ip Real.sqrt mu gamma eps .sumAbsDiffVar numHist btFuel maxIter xStart = some (x, hist, errs))
    {fLow : ℝ} (hlow : fLow ≤ f x) :
    ((hist.length - 2 : Nat) : ℝ) * (gamma * mu * eps ^ 2 / (numHist : ℝ)) ≤ (numHist : ℝ) * (f xStart - fLow) := by
  have hc := mul_nonneg hgam hmu.le
  refine pgdb_window_iterations (fun e => gamma * mu * e ^ 2)
    (div_nonneg (mul_nonneg hc (sq_nonneg eps)) (Nat.cast_nonneg _)) hn (fun x hx it hit => ?_)
    (fun l hl => window_sq_le hc heps hn l hl) hs h hlow
  -- the error value is the step length `α ‖y‖`
  have herr : it.err = it.alpha * ‖it.y‖ := pgdb_step_err hC hP hx hit
  rw [herr]
  exact ⟨(pgdb_step_decrease hC hP hmu hgam hx hit).2.2, mul_nonneg hc (sq_nonneg _),
    (pgdb_step_length hC hP hmu hgam hx hit).2⟩

/-- C11.pgdb_step_size_rule_iterations: a run under the rule `sum_absolute_difference_variable` (window 1, threshold `eps ≥ 0`)
performs at most `1 + (f(x₀) − f_low) / (γ μ eps²)` iterations — no smoothness assumption: every iteration but the last moved by
more than `eps` (otherwise the loop would have stopped) and the squared steps are summable against the loss decrease. -/
theorem pgdb_step_size_rule_iterations {P : E → E} {C : Set E} (hC : Convex ℝ C) (hP : IsProjOn P C) (f : E → ℝ) (g : E → E)
    {mu gamma : ℝ} (eps : ℝ) (heps : 0 ≤ eps) (hmu : 0 < mu) (hgam : 0 ≤ gamma) (btFuel maxIter : Nat) {xStart : E}
    (hs : xStart ∈ C) (x : E) (hist : List E) (errs : List ℝ)
    (h : pgdbOptimize P f g ip Real.sqrt mu gamma eps .sumAbsDiffVar 1 btFuel maxIter xStart = some (x, hist, errs))
    {fLow : ℝ} (hlow : fLow ≤ f x) :
    ((hist.length - 2 : Nat) : ℝ) * (gamma * mu * eps ^ 2) ≤ f xStart - fLow := by
  have := pgdb_step_size_rule_iterations_window hC hP f g eps heps hmu hgam 1 le_rfl btFuel maxIter hs x hist errs h hlow
  rwa [Nat.cast_one, div_one, one_mul] at this

/-- C11.pgdb_projected_gradient_rule_iterations_window (convex `L`-smooth case on `C`): the projected-gradient rule with ANY window
`n ≥ 1`: `(iterations − 1) · c eps² / n ≤ n (f(x₀) − f_low)` with `c = γ μ min(1,(1−γ)μ/L)`. -/
theorem pgdb_projected_gradient_rule_iterations_window {P : E → E} {C : Set E} (hC : Convex ℝ C) (hP : IsProjOn P C)
    {f : E → ℝ} {g : E → E} {Lc : ℝ} (hL : 0 < Lc)
    (hsm : ∀ u ∈ C, ∀ v ∈ C, f v ≤ f u + ⟪g u, v - u⟫ + Lc / 2 * ‖v - u‖ ^ 2) {mu gamma : ℝ} (eps : ℝ) (heps : 0 ≤ eps)
    (hmu : 0 < mu) (hgam0 : 0 < gamma) (hgam1 : gamma < 1) (numHist : Nat) (hn : 1 ≤ numHist) (btFuel maxIter : Nat)
    {xStart : E} (hs : xStart ∈ C) (x : E) (hist : List E) (errs : List ℝ)
    (h : pgdbOptimize P f g ip Real.sqrt mu gamma eps .sumAbsDiffProjGrad numHist btFuel maxIter xStart = some (x, hist, errs))
    {fLow : ℝ} (hlow : fLow ≤ f x) :
    ((hist.length - 2 : Nat) : ℝ) * (gamma * mu * min 1 ((1 - gamma) * mu / Lc) * eps ^ 2 / (numHist : ℝ))
      ≤ (numHist : ℝ) * (f xStart - fLow) := by
  have hc := rate_const_nonneg hL hmu hgam0 hgam1
  refine pgdb_window_iterations (fun e => gamma * mu * min 1 ((1 - gamma) * mu / Lc) * e ^ 2)
    (div_nonneg (mul_nonneg hc (sq_nonneg eps)) (Nat.cast_nonneg _)) hn (fun x hx it hit => ?_)
    (fun l hl => window_sq_le hc heps hn l hl) hs h hlow
  have herr : it.err = ‖it.y‖ := pgdb_step_err hC hP hx hit
  rw [herr]
  exact ⟨(pgdb_step_decrease hC hP hmu hgam0.le hx hit).2.2, mul_nonneg hc (sq_nonneg _),
    (pgdb_step_alpha_lower_bound hC hP hL hmu hgam0 hgam1 hx (hsm x hx) hit).2⟩

/-- C11.pgdb_projected_gradient_rule_iterations (convex `L`-smooth case on `C`): a run under the rule
`sum_absolute_difference_projected_gradient` (window 1, threshold `eps ≥ 0`) performs at most
`1 + (f(x₀) − f_low) / (γ μ min(1,(1−γ)μ/L) eps²)` iterations: every iteration but the last was taken from a point with residual
`> eps` (otherwise the loop would have stopped), and those residuals are summable.  With an iteration limit above this bound
the run therefore ends on its stopping rule, and by `stop_mode_guarantees` the returned estimate is `eps(‖∇f‖ + μD)`-optimal. -/
theorem pgdb_projected_gradient_rule_iterations {P : E → E} {C : Set E} (hC : Convex ℝ C) (hP : IsProjOn P C) {f : E → ℝ}
    {g : E → E} {Lc : ℝ} (hL : 0 < Lc) (hsm : ∀ u ∈ C, ∀ v ∈ C, f v ≤ f u + ⟪g u, v - u⟫ + Lc / 2 * ‖v - u‖ ^ 2)
    {mu gamma : ℝ} (eps : ℝ) (heps : 0 ≤ eps) (hmu : 0 < mu) (hgam0 : 0 < gamma) (hgam1 : gamma < 1) (btFuel maxIter : Nat)
    {xStart : E} (hs : xStart ∈ C) (x : E) (hist : List E) (errs : List ℝ)
    (h : pgdbOptimize P f g ip Real.sqrt mu gamma eps .sumAbsDiffProjGrad 1 btFuel maxIter xStart = some (x, hist, errs))
    {fLow : ℝ} (hlow : fLow ≤ f x) :
    ((hist.length - 2 : Nat) : ℝ) * (gamma * mu * min 1 ((1 - gamma) * mu / Lc) * eps ^ 2) ≤ f xStart - fLow := by
  have := pgdb_projected_gradient_rule_iterations_window hC hP hL hsm eps heps hmu hgam0 hgam1 1 le_rfl btFuel maxIter hs x
    hist errs h hlow
  rwa [Nat.cast_one, div_one, one_mul] at this

/-- the potential of a two-entry window over squared errors, and the Cauchy–Schwarz step it rests on -/
example : pot 1 ([4, 9] : List ℝ) = 4 ∧ (lsum ([2, 3] : List ℝ)) ^ 2 ≤ (2 : ℝ) * lsum (([2, 3] : List ℝ).map (· ^ 2)) := by
  constructor
  · simp [pot]
  · norm_num [lsum]

example : sumSqResiduals (fun z : ℝ => max z 0) (fun u => 2 * u) 1 ([0, 1] : List ℝ) = 1 := by
  simp [sumSqResiduals, pgdbDir]

/-- non-vacuity of the smoothness / convexity / projection hypotheses together: `E = ℝ`, `f u = u²`, `g u = 2u`, `L = 2`,
`C = [0, ∞)`. -/
example : (∀ u v : ℝ, v ^ 2 ≤ u ^ 2 + ⟪(2 * u : ℝ), v - u⟫ + 2 / 2 * ‖v - u‖ ^ 2) ∧
    (∀ u w : ℝ, u ^ 2 + ⟪(2 * u : ℝ), w - u⟫ ≤ w ^ 2) := by
  constructor
  · intro u v
    simp only [RCLike.inner_apply, conj_trivial, Real.norm_eq_abs, sq_abs]
    linarith [sq_nonneg (v - u)]
  · intro u w
    simp only [RCLike.inner_apply, conj_trivial]
    linarith [sq_nonneg (w - u)]

example : sumSqSteps ([3, 1, 0] : List ℝ) = 5 := by
  simp [sumSqSteps]; norm_num

example : AllStepsGe 1 ([3, 1, 0] : List ℝ) := by
  simp [AllStepsGe]; norm_num

/-! ## the stopping rules with the thresholds and defaults read from the source -/

/-- C11.gen_stopping_rules: with the constants regenerated from the source (`QGen/C10.lean`):
the default threshold is `Settings` atol / 10 (the float `1e-13` / `10.0`, within `10⁻²⁹` of `10⁻¹⁴`) and positive, it is what
`resolveEps` returns for `eps=None`; the default option object (γ = 0.3, μ unset, that threshold) passes
`is_option_sufficient`; the default rule is `single_difference_loss` with window 1, so by `stop_rule_window_one` a default run
stops exactly when the last loss decrease is `≤ eps`, the comparison being `value > eps` as coded; the backtracking algorithm's
`error_value` chain lists the four rules in the model's order. -/
theorem gen_stopping_rules :
    QGen.C10.defaultEps = QGen.C10.defaultAtol / 10 ∧ 0 < QGen.C10.defaultEps ∧
    (QGen.C10.defaultEps - 1 / 10 ^ 14 < 1 / 10 ^ 29 ∧ 1 / 10 ^ 14 - QGen.C10.defaultEps < 1 / 10 ^ 29) ∧
    resolveEps none QGen.C10.defaultAtol QGen.C10.epsDivisor = QGen.C10.defaultEps ∧
    pgdbOptionSufficient true none (some QGen.C10.defaultGamma) (some QGen.C10.defaultEps) = true ∧
    (StopMode.ofString? QGen.C10.defaultStopMode, QGen.C10.defaultNumHistory) = (some .singleDiffLoss, 1) ∧
    (QGen.C10.stopOp, QGen.C10.stopLeft, QGen.C10.stopRight, QGen.C10.stopThen, QGen.C10.stopElse)
      = ("Gt", "value", "eps", true, false) ∧
    QGen.C10.errExprPgdb = StopMode.all.map (StopMode.errExpr "y_prev") := by
  decide +kernel

/-- the generated default threshold, used in the executable stopping rule: a decrease of `10⁻¹⁵` stops, `10⁻¹³` does not -/
example : isDoing ([1, 1 / 10 ^ 15] : List Rat) QGen.C10.defaultNumHistory QGen.C10.defaultEps = false ∧
    isDoing ([1, 1 / 10 ^ 13] : List Rat) QGen.C10.defaultNumHistory QGen.C10.defaultEps = true := by
  decide +kernel

/-! ## D13 — the projection wrapper breaks the descent property (negation witness) -/

/-- stacked representation of the two-variable toy POVM parametrisation: the third entry is the dependent one -/
def toS (v : ℚ × ℚ) : ℚ × ℚ × ℚ := (v.1, v.2, 1 - v.1 - v.2)
/-- Euclidean nearest point of `{s : s₁ ≥ 0, s₁ + s₂ + s₃ = 1}` for points of the plane -/
def projS (s : ℚ × ℚ × ℚ) : ℚ × ℚ × ℚ := if s.1 < 0 then (0, s.2.1 + s.1 / 2, s.2.2 + s.1 / 2) else s
def toV (s : ℚ × ℚ × ℚ) : ℚ × ℚ := (s.1, s.2.1)
def dot2 (a b : ℚ × ℚ) : ℚ := a.1 * b.1 + a.2 * b.2

/-- `projS` really is the Euclidean projection onto the stacked feasible set (variational inequality in `ℚ³`), so the
witness below is an instance of "project exactly in stacked space, then drop the dependent entry". -/
theorem projS_is_euclidean_projection (s w : ℚ × ℚ × ℚ) (hs : s.1 + s.2.1 + s.2.2 = 1)
    (hw : w.1 + w.2.1 + w.2.2 = 1) (hw1 : 0 ≤ w.1) :
    0 ≤ (projS s).1 ∧ (projS s).1 + (projS s).2.1 + (projS s).2.2 = 1 ∧
    (s.1 - (projS s).1) * (w.1 - (projS s).1) + (s.2.1 - (projS s).2.1) * (w.2.1 - (projS s).2.1)
      + (s.2.2 - (projS s).2.2) * (w.2.2 - (projS s).2.2) ≤ 0 := by
  unfold projS
  split_ifs with h
  · refine ⟨le_refl _, by simp only; linarith, ?_⟩
    -- on the plane `Σ = 1` the pairing equals `3/2 · s₁ w₁`
    have hsw := mul_nonpos_of_nonpos_of_nonneg h.le hw1
    linear_combination (3 / 2 : ℚ) * hsw + (-(s.1 / 2)) * hw + (s.1 / 2) * hs
  · exact ⟨not_lt.1 h, hs, by simp⟩

/-- C11.pg_descent_dir_fails_via_stacked (finding D13): with the projection computed as
`calc_proj_physical_with_var` does for POVMs / measurement processes under `on_para_eq_constraint=True` — convert to the
stacked vector (dependent last element), project there, drop the dependent element — the projected-gradient direction need
not be a descent direction for the gradient taken in the variable coordinates: at the feasible point `x = (0,0)` with gradient
`(4,−1)`, `μ = 1`, the direction is `(0,−1)` and `⟪∇f, y⟫ = 1 > 0`.  Hence `pg_descent_dir`, `pgdb_step_decrease` and
`pg_fixed_iff_opt` do not apply to that configuration. -/
theorem pg_descent_dir_fails_via_stacked :
    ¬ ∀ (x g : ℚ × ℚ), 0 ≤ x.1 →
      dot2 g (pgdbDir (projViaStacked toS projS toV) (fun _ => g) (1 : ℚ) x) ≤ 0 := by
  intro h
  exact absurd (h (0, 0) (4, -1) (le_refl _)) (by decide +kernel)

/-! ## the CVXPY-backed estimator minimises the same function when all schedules have the same number of shots -/
section cvx
variable {K : Type} [Field K] [LinearOrder K] [IsStrictOrderedRing K]

/-- C11.cvx_se_equal_shots: with the same shot count `n ≠ 0` for each of the `S` schedules, the objective that
`CvxpyUniformSquaredError.value_cvxpy` hands to the solver is `1/S` times the identity-weight squared error minimised by the
projected-gradient estimators (same model distributions `ps`, same data `qs`). -/
theorem cvx_se_equal_shots (n : K) (hn : n ≠ 0) (S : Nat) (ps qs : List (List K)) (hp : ps.length = S)
    (hq : qs.length = S) :
    cvxSquaredError (numRatios (List.replicate S n)) ps qs = (1 / (S : K)) * plainSquaredError ps qs :=
  equal_shots_weighted (fun pq => sqErr pq.1 pq.2) n hn S ps qs hp hq

/-- C11.cvx_se_same_minimisers: hence the two estimators rank any two parameter points identically — they have the same
constrained minimisers (the agreement claim of the property is well posed). -/
theorem cvx_se_same_minimisers (n : K) (hn : n ≠ 0) (S : Nat) (hS : 0 < S) (ps ps' qs : List (List K)) (hp : ps.length = S)
    (hp' : ps'.length = S) (hq : qs.length = S) :
    cvxSquaredError (numRatios (List.replicate S n)) ps qs ≤ cvxSquaredError (numRatios (List.replicate S n)) ps' qs ↔
      plainSquaredError ps qs ≤ plainSquaredError ps' qs := by
  rw [cvx_se_equal_shots n hn S ps qs hp hq, cvx_se_equal_shots n hn S ps' qs hp' hq]
  exact mul_le_mul_iff_of_pos_left (one_div_pos.2 (Nat.cast_pos.2 hS))

/-- C11.cvx_re_equal_shots: the same for the relative entropy — with equal shot counts the objective of
`CvxpyRelativeEntropy.value_cvxpy` is `1/S` times the identity-weight relative entropy `Σ_i Σ_{j: q_ij > eps} q_ij (log q_ij − log p_ij)`
(`log` and the zero threshold `eps` arbitrary), hence has the same minimisers. -/
theorem cvx_re_equal_shots (log : K → K) (eps n : K) (hn : n ≠ 0) (S : Nat) (ps qs : List (List K))
    (hp : ps.length = S) (hq : qs.length = S) :
    cvxRelativeEntropy log eps (numRatios (List.replicate S n)) ps qs = (1 / (S : K)) * plainRelativeEntropy log eps ps qs :=
  equal_shots_weighted (fun pq => relEnt log eps pq.1 pq.2) n hn S ps qs hp hq

theorem cvx_re_same_minimisers (log : K → K) (eps n : K) (hn : n ≠ 0) (S : Nat) (hS : 0 < S) (ps ps' qs : List (List K))
    (hp : ps.length = S) (hp' : ps'.length = S) (hq : qs.length = S) :
    cvxRelativeEntropy log eps (numRatios (List.replicate S n)) ps qs ≤
        cvxRelativeEntropy log eps (numRatios (List.replicate S n)) ps' qs ↔
      plainRelativeEntropy log eps ps qs ≤ plainRelativeEntropy log eps ps' qs := by
  rw [cvx_re_equal_shots log eps n hn S ps qs hp hq, cvx_re_equal_shots log eps n hn S ps' qs hp' hq]
  exact mul_le_mul_iff_of_pos_left (one_div_pos.2 (Nat.cast_pos.2 hS))

end cvx

/-- C11.relative_entropy_exact_data_minimiser: Gibbs' inequality for the relative-entropy objective as modelled (`relEnt`,
`plainRelativeEntropy`, natural logarithm, zero threshold `0`): for one schedule with data `q` and model distribution `p`
(non-negative, `p_j > 0` wherever `q_j > 0`, `Σ p ≤ Σ q` — e.g. both normalised), `relEnt ≥ Σ q − Σ p ≥ 0`, with value `0` at
`p = q`.  Hence under exact data the true object (whose model distributions ARE the data) attains the global minimum `0` of the
identity-weight relative entropy over all points with non-negative normalised model distributions — in particular over the
physical set. -/
theorem relative_entropy_exact_data_minimiser (p q : List ℝ) (hlen : p.length = q.length)
    (hall : ∀ ab ∈ p.zip q, 0 ≤ ab.1 ∧ 0 ≤ ab.2 ∧ ((0 : ℝ) < ab.2 → 0 < ab.1)) (hsum : lsum p ≤ lsum q) :
    relEnt Real.log 0 q q = 0 ∧ relEnt Real.log 0 q q ≤ relEnt Real.log 0 p q := by
  have h0 := relEnt_self q
  have h1 := relEnt_ge p q hlen hall
  exact ⟨h0, by rw [h0]; linarith⟩

/-- the whole objective: a sum over schedules of such terms is minimised (value `0`) by the data themselves -/
theorem plain_relative_entropy_exact_data (ps qs : List (List ℝ))
    (hrow : ∀ pq ∈ ps.zip qs, pq.1.length = pq.2.length ∧
      (∀ ab ∈ pq.1.zip pq.2, 0 ≤ ab.1 ∧ 0 ≤ ab.2 ∧ ((0 : ℝ) < ab.2 → 0 < ab.1)) ∧ lsum pq.1 ≤ lsum pq.2) :
    plainRelativeEntropy Real.log 0 qs qs = 0 ∧ 0 ≤ plainRelativeEntropy Real.log 0 ps qs := by
  constructor
  · have hself : ∀ l : List (List ℝ), lsum ((l.zip l).map fun pq => relEnt Real.log 0 pq.1 pq.2) = 0 := by
      intro l
      induction l with
      | nil => simp [lsum]
      | cons b t ih => simp only [List.zip_cons_cons, List.map_cons, lsum_cons', relEnt_self, zero_add]; exact ih
    exact hself qs
  · unfold plainRelativeEntropy
    apply lsum_nonneg'
    intro v hv
    obtain ⟨pq, hpq, rfl⟩ := List.mem_map.1 hv
    obtain ⟨h1, h2, h3⟩ := hrow pq hpq
    have := relEnt_ge pq.1 pq.2 h1 h2
    linarith

example : relEnt Real.log 0 [1 / 2, 1 / 2] [1, 0] = Real.log 2 := by
  simp [relEnt, lsum, Real.log_inv]

/-- relative entropy with a rational stand-in for `log` (`log v := v − 1`), two schedules, one zero entry in the data -/
example : cvxRelativeEntropy (fun v : ℚ => v - 1) 0 (numRatios [10, 10]) [[1/2, 1/2], [1/4, 3/4]] [[1, 0], [1/2, 1/2]] = 1 / 4 := by
  decide +kernel

example : cvxSquaredError (numRatios [(10 : ℚ), 10]) [[1/2, 1/2], [1/4, 3/4]] [[1, 0], [0, 1]] = 5 / 16 := by
  decide +kernel

end QM.C11
