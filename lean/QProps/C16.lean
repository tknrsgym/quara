import QProofs.C16
import QProofs.C16Sum
import QProofs.C16Gen
import Mathlib.Tactic.FieldSimp
/-!
# C16 — property theorems (index maps, constructor normalisation, marginals and conditionals, layouts, the regenerated index maps)

All statements are unbounded in the number of variables and their sizes.
-/
namespace QM.C16

theorem all_pos_iff (lens : List Nat) : lens.all (0 < ·) = true ↔ ∀ l ∈ lens, 0 < l := by
  simp [List.all_eq_true]

/-- `index_multi_dimensional_from_index_serial` succeeds exactly on positive lengths, with the digits of the loop -/
theorem multiFromSerial_eq_some {lens : List Nat} {s : Nat} {mi : List Nat} :
    multiFromSerial lens s = some mi ↔ (∀ l ∈ lens, 0 < l) ∧ (multiRevLoop lens.reverse s).reverse = mi := by
  rw [← all_pos_iff, multiFromSerial]
  split <;> simp [*]

/-- C16.a `multi_in_range`: the multi-index has one entry per variable and each entry is in range. -/
theorem multi_in_range (lens : List Nat) (s : Nat) (mi : List Nat)
    (h : multiFromSerial lens s = some mi) :
    mi.length = lens.length ∧ ∀ p ∈ lens.zip mi, p.2 < p.1 := by
  obtain ⟨hpos, rfl⟩ := multiFromSerial_eq_some.1 h
  have hl : lens.reverse.length = (multiRevLoop lens.reverse s).length := (multiRevLoop_length _ _).symm
  refine ⟨by simpa using hl.symm, ?_⟩
  have := zip_reverse_lt hl (multiRevLoop_lt lens.reverse s (by simpa using hpos))
  rwa [List.reverse_reverse] at this

/-- the model rejects exactly the inputs on which Python divides by zero -/
theorem multi_none_iff (lens : List Nat) (s : Nat) :
    multiFromSerial lens s = none ↔ ∃ l ∈ lens, l = 0 := by
  simp [multiFromSerial, Nat.pos_iff_ne_zero]

/-- C16.b `serial_of_multi_of_serial`: serial → multi → serial is the identity on `[0, ∏ lens)`
(in general it reduces modulo `∏ lens`). -/
theorem serial_of_multi_of_serial (lens : List Nat) (s : Nat) (mi : List Nat)
    (h : multiFromSerial lens s = some mi) :
    serialFromMulti lens mi = some (s % prod lens) := by
  obtain ⟨_, rfl⟩ := multiFromSerial_eq_some.1 h
  rw [serial_some _ _ (by simp [multiRevLoop_length]), List.reverse_reverse, val_digits, prod_reverse]

theorem serial_of_multi_of_serial_lt (lens : List Nat) (s : Nat) (mi : List Nat)
    (h : multiFromSerial lens s = some mi) (hs : s < prod lens) :
    serialFromMulti lens mi = some s := by
  rw [serial_of_multi_of_serial lens s mi h, Nat.mod_eq_of_lt hs]

/-- C16.c `multi_of_serial_of_multi`: multi → serial → multi is the identity on in-range multi-indices,
and the serial index is in range. -/
theorem multi_of_serial_of_multi (lens idx : List Nat) (hlen : lens.length = idx.length)
    (hr : ∀ p ∈ lens.zip idx, p.2 < p.1) :
    ∃ s, serialFromMulti lens idx = some s ∧ s < prod lens ∧
      multiFromSerial lens s = some idx := by
  have hv := val_lt' lens idx hlen hr
  refine ⟨_, serial_some lens idx hlen, hv, multiFromSerial_eq_some.2
    ⟨List.prod_pos_iff_forall_pos_nat.1 (Nat.zero_lt_of_lt hv), ?_⟩⟩
  have := digits_val _ (zip_reverse_lt hlen hr)
  rw [List.map_fst_zip (by simp [hlen]), List.map_snd_zip (by simp [hlen])] at this
  rw [this, List.reverse_reverse]

/-- C16.d `serial_row_major`: the first variable is the slowest one. -/
theorem serial_row_major (l i : Nat) (ls is : List Nat) (hlen : ls.length = is.length) :
    ∃ s, serialFromMulti ls is = some s ∧
      serialFromMulti (l :: ls) (i :: is) = some (i * prod ls + s) :=
  ⟨_, serial_some ls is hlen, by rw [serial_some _ _ (by simp [hlen]), serial_cons _ _ _ _ hlen]⟩

/-! ## constructor -/

/-- a guard `if c: raise e` in front of the rest `r` of a function: the whole succeeds exactly when `c` fails and `r` succeeds -/
theorem guard_eq_ok {ε α β : Type} (c : Prop) [Decidable c] (e : ε) (f : β → Except ε α) (r : Except ε α) (a : α) :
    (if c then (throw e : Except ε β) >>= f else r) = .ok a ↔ ¬ c ∧ r = .ok a := by
  split_ifs with h <;> simp [h, bind, Except.bind, throw, throwThe, MonadExceptOf.throw]

theorem unit_bind_eq_ok {ε α : Type} (x : Except ε Unit) (r : Except ε α) (a : α) :
    (x >>= fun _ => r) = .ok a ↔ x = .ok () ∧ r = .ok a := by
  cases x <;> simp [bind, Except.bind]

/-- what the constructor stores: the thresholded entries, divided by their sum when some but not all of the
inputs were below the threshold -/
def storedOf (ps : List Rat) (eps : Rat) : List Rat :=
  if (!(ps.all fun p => p < eps) && ps.any fun p => p < eps)
    then (zeroedOf ps eps).map (· / rsum (zeroedOf ps eps)) else zeroedOf ps eps

theorem storedOf_length (ps : List Rat) (eps : Rat) : (storedOf ps eps).length = ps.length := by
  unfold storedOf zeroedOf; split <;> simp

theorem storedOf_of_all {ps : List Rat} {eps : Rat} (h : ∀ p ∈ ps, p < eps) : ∀ q ∈ storedOf ps eps, q = 0 := by
  have hall : (ps.all fun p => decide (p < eps)) = true := by simpa using h
  simp only [storedOf, hall, Bool.not_true, Bool.false_and, Bool.false_eq_true, if_false, zeroedOf, List.mem_map]
  rintro q ⟨p, hp, rfl⟩
  exact if_pos (h p hp)

theorem storedOf_of_none {ps : List Rat} {eps : Rat} (h : ∀ p ∈ ps, eps ≤ p) : storedOf ps eps = ps := by
  have hany : (ps.any fun p => decide (p < eps)) = false := by simpa using h
  simp only [storedOf, hany, Bool.and_false, Bool.false_eq_true, if_false, zeroedOf]
  conv => rhs; rw [← List.map_id ps]
  exact List.map_congr_left fun p hp => if_neg (not_lt.mpr (h p hp))

/-- `MultinomialDistribution.__init__` succeeds exactly when the entries pass the sign check, the shape is non-empty
and matches the number of entries and, unless every entry is below the threshold, the stored entries pass the sum
check; what it stores is `storedOf`, with the zero flag set when every entry was below the threshold. -/
theorem ctor_eq_ok_iff (ps : List Rat) (shape : List Nat) (eps : Rat) (d : Dist) :
    ctor ps shape eps = .ok d ↔
      validate ps false = .ok () ∧ shape ≠ [] ∧ ps.length = prod shape ∧
      ((ps.all fun p => p < eps) = true ∨ validate (storedOf ps eps) true = .ok ()) ∧
      d = ⟨storedOf ps eps, shape, ps.all fun p => p < eps⟩ := by
  simp only [ctor, storedOf, zeroedOf, unit_bind_eq_ok, guard_eq_ok, List.isEmpty_iff, ne_eq, not_not, pure, Except.pure]
  cases ps.all fun p => decide (p < eps) <;> simp [unit_bind_eq_ok, @eq_comm _ d]

/-- C16.e (DESIGN §4 `normalised_after_ctor`): a successfully constructed distribution is either flagged as the
zero distribution or passes `validate_prob_dist` with sum check (|Σ − 1| ≤ 1e-8, no entry below −1e-8);
its shape is the requested one and the number of entries matches it. -/
theorem ctor_ok (ps : List Rat) (shape : List Nat) (eps : Rat) (d : Dist)
    (h : ctor ps shape eps = .ok d) :
    d.shape = shape ∧ d.ps.length = prod shape ∧
      (d.isZero = true ∨ validate d.ps true = .ok ()) := by
  obtain ⟨_, _, hl, hv, rfl⟩ := (ctor_eq_ok_iff ps shape eps d).1 h
  exact ⟨rfl, (storedOf_length ps eps).trans hl, hv⟩
/-- the zero-distribution flag means every input entry was below the threshold, and then every
stored entry is 0 -/
theorem ctor_zero (ps : List Rat) (shape : List Nat) (eps : Rat) (d : Dist)
    (h : ctor ps shape eps = .ok d) (hz : d.isZero = true) :
    (∀ p ∈ ps, p < eps) ∧ ∀ q ∈ d.ps, q = 0 := by
  obtain ⟨_, _, _, _, rfl⟩ := (ctor_eq_ok_iff ps shape eps d).1 h
  have hall : ∀ p ∈ ps, p < eps := by simpa using hz
  exact ⟨hall, storedOf_of_all hall⟩
/-! ## marginals -/

/-- C16.f `marginal_total`: summing out variables preserves the total mass, for every shape, every
tensor of matching size and every set of retained variables (the raw `np.sum(..., axis=removed)`
step of `marginalize`, before the constructor's thresholding). -/
theorem marginal_total (ps : List Rat) (shape keep : List Nat) (hlen : ps.length = prod shape) :
    rsum (marginalRaw ps shape keep).2 = rsum ps := by
  unfold marginalRaw
  simp only []
  have h := rsum_partition ((allMulti shape).zip ps) (fun x => project x.1 keep) Prod.snd
    (allMulti (project shape keep)) (allMulti_nodup _)
    (by
      intro x hx
      exact project_mem_allMulti (List.of_mem_zip hx).1 keep)
  rw [List.map_snd_zip (by rw [allMulti_length, hlen])] at h
  rw [← h]

/-- the marginal has one entry per multi-index of the retained variables, whose sizes are the
retained entries of the shape in ascending position order -/
theorem marginal_shape (ps : List Rat) (shape keep : List Nat) :
    (marginalRaw ps shape keep).1 = project shape keep ∧
    (marginalRaw ps shape keep).2.length = prod (project shape keep) := by
  simp [marginalRaw, allMulti_length]

/-- C16.g (DESIGN §4 `joint_eq_marginal_mul_conditional`, one conditioning variable): the mass of the slice
`x_i = v` that `conditionalize([i],[v])` renormalises by is exactly entry `v` of the marginal of
variable `i`.  Hence every entry of the joint equals marginal × conditional whenever that mass is
non-zero (`conditional_entry` below).  Unbounded in the number and sizes of the variables. -/
theorem conditional_mass_eq_marginal (ps : List Rat) (shape : List Nat) (i v : Nat)
    (hlen : ps.length = prod shape) (hi : i < shape.length) (hv : v < shape[i]) :
    (marginalRaw ps shape [i]).2[v]? = some (rsum (conditionalRaw ps shape [i] [v]).2) := by
  unfold marginalRaw
  simp only []
  rw [project_single i shape hi, allMulti_single, List.map_map, List.getElem?_map, List.getElem?_range hv,
    conditionalRaw_eq_filter ps shape [i] [v] (List.pairwise_singleton _ _) (by simpa using hi) rfl]
  rfl

/-- joint = marginal × conditional, entrywise: dividing a slice entry by the slice mass `s` and
multiplying by the marginal entry (= `s`) gives the joint entry back. -/
theorem conditional_entry (p s : Rat) (hs : s ≠ 0) : s * (p / s) = p := by
  field_simp

/-- C16.i `ProbDist` tuple access is row-major: the model does what the code does — reshape, then index the leading axis, then the
next one, … (`sliceGet`: index `i` selects the block `ps[i·∏rest : (i+1)·∏rest]`) — and for an in-range multi-index that iterated
slicing returns the entry at the serial index `i₀·(n₁⋯n_k) + …`, i.e. the entry the index maps of C16.a–d address (so
`dist[(i,j,…)]`, `dist[serial]` and `ps.reshape(shape)[idx]` agree). -/
theorem probDistGet_row_major (ps : List Rat) (shape idx : List Nat) (hps : ps.length = prod shape)
    (hlen : shape.length = idx.length) (hr : ∀ p ∈ shape.zip idx, p.2 < p.1) :
    ∃ s, serialFromMulti shape idx = some s ∧ s < ps.length ∧ probDistGet ps shape idx = ps[s]? := by
  refine ⟨_, serial_some shape idx hlen, by rw [hps]; exact val_lt' shape idx hlen hr, ?_⟩
  unfold probDistGet
  rw [if_neg (by omega), if_neg (by omega)]
  exact sliceGet_eq_serial ps shape idx hlen hr

/-- out-of-range or wrong-length tuples are rejected (IndexError), never wrapped into another entry -/
theorem probDistGet_rejects (ps : List Rat) (l i : Nat) (ls is : List Nat) (hi : l ≤ i) :
    probDistGet ps (l :: ls) (i :: is) = none := by
  unfold probDistGet
  split
  · rfl
  · split
    · rfl
    · simp [sliceGet, Nat.not_lt.mpr hi]

example : probDistGet [1/6, 1/6, 1/6, 1/12, 1/12, 1/3] [2, 3] [1, 2] = some (1/3) := by decide +kernel
example : marginalRaw [1/8, 1/8, 1/4, 1/2] [2, 2] [1] = ([2], [3/8, 5/8]) := by decide +kernel
example : multiFromSerial [2, 3, 4] 17 = some [1, 1, 1] := by decide
example : serialFromMulti [2, 3, 4] [1, 1, 1] = some 17 := by decide
example : (ctor [1/2, 0, 1/2] [3] epsValidate).toOption = some ⟨[1/2, 0, 1/2], [3], false⟩ := by
  decide +kernel

/-- C16.h (DESIGN §4 `joint_eq_marginal_mul_conditional`, any set of conditioning variables): for a strictly
ascending, in-range list `idxs` of conditioning variables and an in-range assignment `vals` of
them, the mass of the slice `x_{idxs} = vals` that `conditionalize(idxs, vals)` renormalises by is
exactly the entry of the marginal of the variables `idxs` that belongs to the multi-index `vals`
(the marginal's entries are listed in the order of `allMulti (project shape idxs)`).  Hence every
entry of the joint equals marginal × conditional whenever that mass is non-zero
(`conditional_entry`).  Unbounded in the number and sizes of the variables and in the number of
conditioning variables.  (`_hlen` is the constructor's size guard; the identity itself does not
depend on it.)  NOT covered by this theorem: conditioning lists given in another order (`[2, 0]`), which the code accepts and
which `marginalize` would list in ascending variable order — those are compared with the implementation by the correspondence
check (every permutation of every subset) and the oracle only. -/
theorem conditional_mass_eq_marginal_multi (ps : List Rat) (shape idxs vals : List Nat)
    (_hlen : ps.length = prod shape) (hasc : idxs.Pairwise (· < ·))
    (hr : ∀ i ∈ idxs, i < shape.length) (hv : vals ∈ allMulti (project shape idxs)) :
    (vals, rsum (conditionalRaw ps shape idxs vals).2) ∈
      (allMulti (project shape idxs)).zip (marginalRaw ps shape idxs).2 := by
  have hvl : vals.length = idxs.length := by
    rw [length_of_mem_allMulti hv, project_length shape idxs hasc hr]
  rw [conditionalRaw_eq_filter ps shape idxs vals hasc hr hvl]
  exact List.map_prod_left_eq_zip ▸ List.mem_map_of_mem hv

-- non-vacuity of C16.h: 2×2×2 tensor, conditioning on variables 0 and 2 (x0 = 1, x2 = 0)
example : ([1, 0], rsum (conditionalRaw [1/16, 1/16, 1/8, 1/4, 1/16, 3/16, 1/8, 1/8] [2, 2, 2]
      [0, 2] [1, 0]).2) ∈
    (allMulti (project [2, 2, 2] [0, 2])).zip
      (marginalRaw [1/16, 1/16, 1/8, 1/4, 1/16, 3/16, 1/8, 1/8] [2, 2, 2] [0, 2]).2 :=
  conditional_mass_eq_marginal_multi _ [2, 2, 2] [0, 2] [1, 0] (by decide +kernel)
    (by decide +kernel) (by decide +kernel) (by decide +kernel)
example : marginalRaw [1/16, 1/16, 1/8, 1/4, 1/16, 3/16, 1/8, 1/8] [2, 2, 2] [0, 2]
    = ([2, 2], [3/16, 5/16, 3/16, 5/16]) := by decide +kernel
example : conditionalRaw [1/16, 1/16, 1/8, 1/4, 1/16, 3/16, 1/8, 1/8] [2, 2, 2] [0, 2] [1, 0]
    = ([2], [1/16, 1/8]) := by decide +kernel

/-! ## the enumeration behind marginals and conditionals IS the serial layout of C16.a–d -/

/-- C16.m `marginalRaw` / `conditionalRaw` pair the probability vector with `allMulti shape`; that enumeration is the row-major
layout: its `k`-th element is the multi-index of serial index `k` (so the sums and slices of C16.f–h are taken over the very
positions the index maps address), for every shape. -/
theorem allMulti_is_serial_layout (shape : List Nat) (k : Nat) (hk : k < prod shape) :
    (allMulti shape)[k]? = multiFromSerial shape k ∧ (allMulti shape).length = prod shape := by
  obtain ⟨mi, h1, h2, h3, h4⟩ := allMulti_serial shape k hk
  obtain ⟨s, hs, _, hm⟩ := multi_of_serial_of_multi shape mi h2 h3
  have : s = k := Option.some.inj (hs.symm.trans h4)
  subst this
  exact ⟨h1.trans hm.symm, allMulti_length shape⟩

example : (allMulti [2, 3])[4]? = some [1, 1] ∧ multiFromSerial [2, 3] 4 = some [1, 1] := by decide

/-- a `filterMap` over the joint entries paired with their multi-indices, rewritten over serial positions -/
theorem filterMap_zip_allMulti {β : Type} (ps : List Rat) (shape : List Nat) (hlen : ps.length = prod shape)
    (g : List Nat → Rat → Option β) :
    ((allMulti shape).zip ps).filterMap (fun x => g x.1 x.2) =
      (List.range (prod shape)).filterMap fun s => (multiFromSerial shape s).bind fun mi => ps[s]?.bind (g mi) := by
  rw [zip_eq_range_map _ _ (by rw [allMulti_length, hlen]), List.filterMap_filterMap, allMulti_length]
  apply List.filterMap_congr
  intro s hs
  rw [(allMulti_is_serial_layout shape s (by simpa using hs)).1]
  cases multiFromSerial shape s <;> cases ps[s]? <;> rfl

/-- C16.f (entries) entry `t` of the raw marginal, in terms of SERIAL indices of the joint tensor: it is the sum of the joint entries `ps[s]`
over those serial positions `s` whose multi-index (index map of C16.a) projects onto the `t`-th multi-index of the retained variables -/
theorem marginalRaw_entry_serial (ps : List Rat) (shape keep : List Nat) (hlen : ps.length = prod shape) (t : Nat) :
    (marginalRaw ps shape keep).2[t]? = ((allMulti (project shape keep))[t]?).map fun o =>
      rsum ((List.range (prod shape)).filterMap fun s =>
        match multiFromSerial shape s, ps[s]? with
        | some mi, some p => if project mi keep = o then some p else none
        | _, _ => none) := by
  unfold marginalRaw
  simp only [List.getElem?_map]
  congr 1
  funext o
  refine congrArg rsum ((filterMap_zip_allMulti ps shape hlen fun mi p =>
    if project mi keep = o then some p else none).trans (List.filterMap_congr fun s _ => ?_))
  cases multiFromSerial shape s <;> cases ps[s]? <;> rfl

example : (marginalRaw [1/8, 1/8, 1/4, 1/2] [2, 2] [1]).2[1]? = some (1/8 + 1/2) := by decide +kernel

/-- C16.g (entries) the raw conditional slice in terms of SERIAL positions of the joint tensor: it lists, in ascending serial order,
the joint entries `ps[s]` whose multi-index (index map of C16.a) agrees with the conditioning assignment -/
theorem conditionalRaw_entries_serial (ps : List Rat) (shape idxs vals : List Nat) (hlen : ps.length = prod shape) :
    (conditionalRaw ps shape idxs vals).2 =
      (List.range (prod shape)).filterMap fun s =>
        match multiFromSerial shape s, ps[s]? with
        | some mi, some p => if matchesCond mi idxs vals then some p else none
        | _, _ => none :=
  (filterMap_zip_allMulti ps shape hlen fun mi p => if matchesCond mi idxs vals then some p else none).trans
    (List.filterMap_congr fun s _ => by cases multiFromSerial shape s <;> cases ps[s]? <;> rfl)
example : (conditionalRaw [1/8, 1/8, 1/4, 1/2] [2, 2] [0] [1]).2 = [1/4, 1/2] := by decide +kernel

/-! ## what the constructor stores -/

/-- C16.e (entries) a successfully constructed distribution stores the thresholded entries — unchanged when nothing was below the
threshold or everything was, otherwise divided by their sum — in the input order; nothing else. -/
theorem ctor_entries (ps : List Rat) (shape : List Nat) (eps : Rat) (d : Dist)
    (h : ctor ps shape eps = .ok d) :
    d.ps = (if (!(ps.all fun p => p < eps) && ps.any fun p => p < eps)
              then (zeroedOf ps eps).map (· / rsum (zeroedOf ps eps)) else zeroedOf ps eps) ∧
    d.isZero = ps.all fun p => p < eps := by
  obtain ⟨_, _, _, _, rfl⟩ := (ctor_eq_ok_iff ps shape eps d).1 h
  exact ⟨rfl, rfl⟩
/-- liveness, identity case: non-negative entries none of which is below the threshold, matching the shape and summing to 1
(within 1e-8) are accepted and stored unchanged. -/
theorem ctor_identity (ps : List Rat) (shape : List Nat) (eps : Rat)
    (hshape : shape ≠ []) (hlen : ps.length = prod shape)
    (hge : ∀ p ∈ ps, eps ≤ p) (hnn : ∀ p ∈ ps, 0 ≤ p) (hne : ps ≠ [])
    (hsum : rabs (rsum ps - 1) ≤ epsValidate) :
    ctor ps shape eps = .ok ⟨ps, shape, false⟩ := by
  have hall : (ps.all fun p => decide (p < eps)) = false := by
    obtain ⟨p, hp⟩ := List.exists_mem_of_ne_nil ps hne
    exact List.all_eq_false.2 ⟨p, hp, by simpa using hge p hp⟩
  have hneg : (ps.any fun p => decide (p < 0) && !decide (rabs p ≤ epsValidate)) = false :=
    List.any_eq_false.2 fun p hp => by simp [not_lt.mpr (hnn p hp)]
  rw [ctor_eq_ok_iff, storedOf_of_none hge, hall]
  exact ⟨by simp [validate, hneg], hshape, hlen, .inr (by simp [validate, hneg, hsum]), rfl⟩
example : ctor [1/2, 1/4, 1/4] [3] epsValidate = .ok ⟨[1/2, 1/4, 1/4], [3], false⟩ :=
  ctor_identity _ _ _ (by decide) (by decide) (by decide +kernel) (by decide +kernel) (by decide) (by decide +kernel)

/-- the validation loop of `marginalize` raises only its two errors -/
theorem margValidate_error {n : Nat} {l seen : List Nat} {e : Err} (h : margValidate n l seen = .error e) :
    e = .outOfRange ∨ e = .duplicate := by
  induction l generalizing seen with
  | nil => cases h
  | cons i rest ih =>
    unfold margValidate at h
    split at h
    · cases h; exact .inl rfl
    · split at h
      · cases h; exact .inr rfl
      · exact ih h

/-- C16.f/l `marginalize` returns exactly the constructor's result on the raw sums over the removed variables, arranged by
ascending retained variable; its only other outcomes are the two validation errors. -/
theorem marginalize_is_ctor_of_raw (d : Dist) (remain : List Nat) :
    marginalize d remain = .error .outOfRange ∨ marginalize d remain = .error .duplicate ∨
    marginalize d remain = ctor (marginalRaw d.ps d.shape remain).2 (marginalRaw d.ps d.shape remain).1 epsValidate := by
  unfold marginalize
  cases hv : margValidate d.shape.length remain [] with
  | ok u => exact .inr (.inr rfl)
  | error e =>
    rcases margValidate_error hv with rfl | rfl
    · exact .inl rfl
    · exact .inr (.inl rfl)

/-- C16.g/l `conditionalize`, once its arguments pass validation and the slice has non-zero mass `s`, returns exactly the
constructor's result on the slice divided by `s`. -/
theorem conditionalize_is_ctor_of_scaled_raw (d : Dist) (idxs vals : List Nat) (d' : Dist)
    (h : conditionalize d idxs vals = .ok d') :
    rsum (conditionalRaw d.ps d.shape idxs vals).2 ≠ 0 ∧
    ctor ((conditionalRaw d.ps d.shape idxs vals).2.map (· / rsum (conditionalRaw d.ps d.shape idxs vals).2))
      (conditionalRaw d.ps d.shape idxs vals).1 epsValidate = .ok d' := by
  simp only [conditionalize, guard_eq_ok] at h
  exact ⟨h.2.2.2.1, h.2.2.2.2⟩

/-- joint = marginal × conditional, entrywise: multiplying the renormalised slice by the slice mass `s` (which is the marginal
probability of the conditioning event, `conditional_mass_eq_marginal(_multi)`) gives back the joint entries of the slice, in order. -/
theorem conditional_times_marginal (raw : List Rat) (s : Rat) (hs : s ≠ 0) :
    (raw.map (· / s)).map (s * ·) = raw := by
  rw [List.map_map]
  exact (List.map_congr_left fun p _ => conditional_entry p s hs).trans (List.map_id raw)

example : ∃ d, ctor [1/1000000000, 0] [2] epsValidate = .ok d ∧ d.isZero = true :=
  ⟨⟨[0, 0], [2], true⟩, by decide +kernel, rfl⟩
example : (marginalRaw [1/6, 1/6, 1/6, 1/12, 1/12, 1/3] [2, 3] [1]).2[2]?
    = some (rsum (conditionalRaw [1/6, 1/6, 1/6, 1/12, 1/12, 1/3] [2, 3] [1] [2]).2) :=
  conditional_mass_eq_marginal _ [2, 3] 1 2 (by decide +kernel) (by decide) (by decide)

/-! ## marginals and conditionals "stay normalised with the documented zero threshold" -/

/-- C16.l whatever `marginalize` returns went through the constructor with the documented default threshold: it is either the flagged
zero distribution or passes the sum check (|Σ − 1| ≤ 1e-8), its shape is the projection of the shape onto the retained variables
(ascending), and it has one entry per multi-index of that shape. -/
theorem marginalize_normalised (d : Dist) (remain : List Nat) (d' : Dist)
    (h : marginalize d remain = .ok d') :
    d'.shape = project d.shape remain ∧ d'.ps.length = prod d'.shape ∧
      (d'.isZero = true ∨ validate d'.ps true = .ok ()) := by
  obtain ⟨h1, h2, h3⟩ := ctor_ok _ _ _ _ ((unit_bind_eq_ok _ _ _).1 h).2
  exact ⟨h1, by rw [h2, h1], h3⟩

/-- C16.l the same for `conditionalize`: a returned conditional is the flagged zero distribution or passes the sum check, over the
variables that were not conditioned on. -/
theorem conditionalize_normalised (d : Dist) (idxs vals : List Nat) (d' : Dist)
    (h : conditionalize d idxs vals = .ok d') :
    d'.shape = (conditionalRaw d.ps d.shape idxs vals).1 ∧ d'.ps.length = prod d'.shape ∧
      (d'.isZero = true ∨ validate d'.ps true = .ok ()) := by
  obtain ⟨h1, h2, h3⟩ := ctor_ok _ _ _ _ (conditionalize_is_ctor_of_scaled_raw d idxs vals d' h).2
  exact ⟨h1, by rw [h2, h1], h3⟩

example : (marginalize ⟨[1/8, 1/8, 1/4, 1/2], [2, 2], false⟩ [1]).toOption = some ⟨[3/8, 5/8], [2], false⟩ := by decide +kernel
example : (conditionalize ⟨[1/8, 1/8, 1/4, 1/2], [2, 2], false⟩ [0] [1]).toOption = some ⟨[1/3, 2/3], [2], false⟩ := by
  decide +kernel

/-! ## the definitions regenerated from /repo's source on this run (`QGen/C16.lean`)

`harness/c16_translate.py` rewrites `QGen.C16.multiBody`, `serialBody`, their initial states, iteration / result directions,
the length guard and the numeric defaults from quara/utils/index_util.py, quara/math/probability.py and
quara/objects/multinomial_distribution.py on every run.  The theorems below are about those generated definitions: a source edit
that changes the arithmetic, a direction, the guard, a default or a tolerance makes one of them fail to check. -/

/-- C16.j the generated `index_multi_dimensional_from_index_serial` computes the model's multi-index, for every shape and serial
index the real function accepts (Python raises ZeroDivisionError exactly where the model returns `none`: `multi_none_iff`). -/
theorem generated_multi_agrees (lens : List Nat) (s : Nat) (mi : List Nat)
    (h : multiFromSerial lens s = some mi) :
    QGen.C16.multiFromSerial (lens.map Int.ofNat) (Int.ofNat s) = mi.map Int.ofNat := by
  obtain ⟨_, rfl⟩ := multiFromSerial_eq_some.1 h
  exact gen_multiFromSerial lens s

/-- C16.j the generated `index_serial_from_index_multi_dimensional` is the model's, including the ValueError branch. -/
theorem generated_serial_agrees (lens idx : List Nat) :
    QGen.C16.serialFromMulti (lens.map Int.ofNat) (idx.map Int.ofNat)
      = (serialFromMulti lens idx).map Int.ofNat :=
  gen_serialFromMulti lens idx

/-- C16.b on the generated code: serial → multi → serial is the identity on `[0, ∏ lens)`, every shape with positive sizes. -/
theorem generated_serial_of_multi (lens : List Nat) (hpos : ∀ l ∈ lens, 0 < l) (s : Nat) (hs : s < prod lens) :
    QGen.C16.serialFromMulti (lens.map Int.ofNat)
        (QGen.C16.multiFromSerial (lens.map Int.ofNat) (Int.ofNat s)) = some (Int.ofNat s) := by
  have hm : multiFromSerial lens s = some (multiRevLoop lens.reverse s).reverse := multiFromSerial_eq_some.2 ⟨hpos, rfl⟩
  rw [generated_multi_agrees lens s _ hm, generated_serial_agrees,
    serial_of_multi_of_serial_lt lens s _ hm hs]
  rfl

/-- C16.c on the generated code: multi → serial → multi is the identity on in-range multi-indices and the serial index is in range. -/
theorem generated_multi_of_serial (lens idx : List Nat) (hlen : lens.length = idx.length)
    (hr : ∀ p ∈ lens.zip idx, p.2 < p.1) :
    ∃ s : Nat, QGen.C16.serialFromMulti (lens.map Int.ofNat) (idx.map Int.ofNat) = some (Int.ofNat s) ∧ s < prod lens ∧
      QGen.C16.multiFromSerial (lens.map Int.ofNat) (Int.ofNat s) = idx.map Int.ofNat := by
  obtain ⟨s, h1, h2, h3⟩ := multi_of_serial_of_multi lens idx hlen hr
  exact ⟨s, by rw [generated_serial_agrees, h1]; rfl, h2, generated_multi_agrees lens s idx h3⟩

/-- the generated defaults and tolerances are the ones the model (and the statement of the property: "the documented zero threshold")
uses: validate_prob_dist's default eps 1e-8 compared absolutely (rtol 0) at both sites, the constructor's default zero threshold 1e-8,
first validation without the sum test, second with it. -/
theorem generated_constants :
    QGen.C16.validateEpsDefault = epsValidate ∧ QGen.C16.validateNegRtol = 0 ∧ QGen.C16.validateSumRtol = 0 ∧
    QGen.C16.epsZeroDefault = mkRat 1 100000000 ∧
    QGen.C16.ctorValidateSumFirst = false ∧ QGen.C16.ctorValidateSumSecond = true := by
  decide +kernel

/-- the threshold the constructor uses: the caller's value when it is given and non-zero, otherwise (omitted, `None`, `0`, `0.0`) the
documented default 1e-8 — about the generated default. -/
theorem resolveEpsZero_spec (e : Option Rat) :
    resolveEpsZero e = (match e with
      | none => mkRat 1 100000000
      | some x => if x = 0 then mkRat 1 100000000 else x) := by
  have h : QGen.C16.epsZeroDefault = mkRat 1 100000000 := generated_constants.2.2.2.1
  unfold resolveEpsZero
  cases e with
  | none => simp [h]
  | some x => simp [h]

example : resolveEpsZero (some (mkRat 1 1000)) = mkRat 1 1000 := by decide +kernel
example : QGen.C16.multiFromSerial [2, 3, 4] 17 = [1, 1, 1] := by decide
example : QGen.C16.serialFromMulti [2, 3, 4] [1, 1, 1] = some 17 := by decide
example : QGen.C16.serialFromMulti [2, 3, 4] [1, 1] = none := by decide
example : (∀ l ∈ [2, 3, 4], 0 < l) ∧ 17 < prod [2, 3, 4] := by decide

/-! ## state ensembles produced by measurements index states and probabilities with the same layout -/

/-- C16.k `StateEnsemble.state(outcome)` with a tuple outcome of an ensemble whose shape is `shape2 ++ shape1` (old ensemble's
shape followed by the instrument's shape, as `_compose_qoperations_MProcess_StateEnsemble` sets it) and whose members were
appended block by block (`states.extend(states_local)`, one block of `∏ shape1` members per old member): the member at
`mi2 ++ mi1` is member `mi1` of the block produced from old member `mi2`.  Any number of earlier measurements, any shapes. -/
theorem ensemble_after_measurement_layout {α β : Type} (old : List α) (f : α → List β)
    (shape2 shape1 mi2 mi1 : List Nat)
    (h2 : shape2.length = mi2.length) (h1 : shape1.length = mi1.length)
    (hr2 : ∀ p ∈ shape2.zip mi2, p.2 < p.1) (hr1 : ∀ p ∈ shape1.zip mi1, p.2 < p.1)
    (hold : old.length = prod shape2) (hblock : ∀ x ∈ old, (f x).length = prod shape1) :
    ∃ (i j : Nat) (hi : i < old.length), serialFromMulti shape2 mi2 = some i ∧ serialFromMulti shape1 mi1 = some j ∧
      ensGet (extendLoop old f) (shape2 ++ shape1) (mi2 ++ mi1) = (f old[i])[j]? := by
  have hi : val (shape2.reverse.zip mi2.reverse) < old.length := hold ▸ val_lt' shape2 mi2 h2 hr2
  have hj := val_lt' shape1 mi1 h1 hr1
  refine ⟨_, _, hi, serial_some shape2 mi2 h2, serial_some shape1 mi1 h1, ?_⟩
  unfold ensGet extendLoop
  rw [serial_some _ _ (by simp [h1, h2]), serial_append shape2 shape1 mi2 mi1 h2 h1]
  exact flatMap_block old f (prod shape1) hblock _ _ hi hj

/-- C16.k states and probabilities of such an ensemble are extended in lock step (`states.extend(states_local)`,
`ps.extend(ps_local)` with blocks of equal length), so the tuple outcome `mi2 ++ mi1` addresses in BOTH lists the entry that
local outcome `mi1` contributed for old member `mi2`: same layout. -/
theorem ensemble_states_probs_same_layout {α β γ : Type} (old : List α) (fs : α → List β) (fp : α → List γ)
    (shape2 shape1 mi2 mi1 : List Nat)
    (h2 : shape2.length = mi2.length) (h1 : shape1.length = mi1.length)
    (hr2 : ∀ p ∈ shape2.zip mi2, p.2 < p.1) (hr1 : ∀ p ∈ shape1.zip mi1, p.2 < p.1)
    (hold : old.length = prod shape2)
    (hs : ∀ x ∈ old, (fs x).length = prod shape1) (hp : ∀ x ∈ old, (fp x).length = prod shape1) :
    ∃ (i j : Nat) (hi : i < old.length),
      ensGet (extendLoop old fs) (shape2 ++ shape1) (mi2 ++ mi1) = (fs old[i])[j]? ∧
      ensGet (extendLoop old fp) (shape2 ++ shape1) (mi2 ++ mi1) = (fp old[i])[j]? := by
  obtain ⟨i, j, hi, e2, e1, hS⟩ := ensemble_after_measurement_layout old fs shape2 shape1 mi2 mi1 h2 h1 hr2 hr1 hold hs
  obtain ⟨i', j', hi', e2', e1', hP⟩ := ensemble_after_measurement_layout old fp shape2 shape1 mi2 mi1 h2 h1 hr2 hr1 hold hp
  have hii : i = i' := Option.some.inj (e2.symm.trans e2')
  have hjj : j = j' := Option.some.inj (e1.symm.trans e1')
  subst hii; subst hjj
  exact ⟨i, j, hi, hS, hP⟩

/-- C16.k product of two ensembles (`_tensor_product_StateEnsemble_StateEnsemble`: nested loops, shape = shape1 ++ shape2):
the member at `mi1 ++ mi2` is built from member `mi1` of the first and member `mi2` of the second ensemble. -/
theorem ensemble_product_layout {α β γ : Type} (xs : List α) (ys : List β) (g : α → β → γ)
    (shape1 shape2 mi1 mi2 : List Nat)
    (h1 : shape1.length = mi1.length) (h2 : shape2.length = mi2.length)
    (hr1 : ∀ p ∈ shape1.zip mi1, p.2 < p.1) (hr2 : ∀ p ∈ shape2.zip mi2, p.2 < p.1)
    (hx : xs.length = prod shape1) (hy : ys.length = prod shape2) :
    ∃ (i j : Nat) (hi : i < xs.length) (hj : j < ys.length),
      serialFromMulti shape1 mi1 = some i ∧ serialFromMulti shape2 mi2 = some j ∧
      ensGet (nestedLoop xs ys g) (shape1 ++ shape2) (mi1 ++ mi2) = some (g xs[i] ys[j]) := by
  obtain ⟨i, j, hi, e1, e2, h⟩ := ensemble_after_measurement_layout xs (fun x => ys.map (g x)) shape1 shape2 mi1 mi2
    h1 h2 hr1 hr2 hx (by intro x _; simp [hy])
  have hj : j < ys.length :=
    hy ▸ Option.some.inj ((serial_some shape2 mi2 h2).symm.trans e2) ▸ val_lt' shape2 mi2 h2 hr2
  refine ⟨i, j, hi, hj, e1, e2, ?_⟩
  unfold nestedLoop; unfold extendLoop at h
  rw [h]; simp [hj]

example : ensGet (extendLoop [10, 20] fun x => [x, x + 1, x + 2]) ([2] ++ [3]) ([1] ++ [2]) = some 22 := by decide
example : ensGet (nestedLoop [1, 2, 3] [10, 20] fun a b => a + b) ([3] ++ [2]) ([2] ++ [1]) = some 23 := by decide
example : (∀ p ∈ [2].zip [1], p.2 < p.1) ∧ (∀ p ∈ [3].zip [2], p.2 < p.1) ∧ [10, 20].length = prod [2] := by decide

end QM.C16
