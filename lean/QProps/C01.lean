import QProofs.C01
/-!
# C01 — physicality verdicts match the mathematical definitions at the given tolerance: property theorems

The relative tolerances `QGen.C01.*_rtol` and `settings_atol` are GENERATED from the Python source on every run.
Sites generated with `rtol = 0` (gate.is_tp both branches, matrix_util.is_hermitian / is_positive_semidefinite) carry
exact `verdict ↔ defect ≤ atol` theorems that only type-check while the source keeps `rtol=0.0`.
`State.is_trace_one` and `Povm.is_identity_sum` are generated with numpy's default `1e-5` on the current tree
(defect D1): for them the exact statement is proved to be EQUIVALENT to `rtol = 0`, the verdict is characterised with
the slack, and the default slack is refuted (`rtol ≠ 0`; a trace 1 + 5·10⁻⁶ accepted at atol 10⁻¹³ is the last example).
All statements are for arbitrary sizes and values (ℚ, the executed instance). The PSD link to Mathlib's `PosSemidef` is stated as a
sandwich under an `ε`-accuracy contract for `np.linalg.eigvalsh` (`EigApprox`), since a rational eigenvalue list cannot equal an
irrational spectrum; POVM and measurement-process verdicts, monotonicity and the constructor clause are stated on the executed composite
functions (`povmPhysical`, `mpPhysical`, …).
-/
open QGen.C01
namespace QM.C01

/-! ## clause "the absolute tolerance given by the caller is the only slack" -/

/-- C01.1 numpy closeness is `|a − b| ≤ atol + rtol·|b|`; with `rtol = 0` it is exactly `defect ≤ atol`. -/
theorem isClose_exact (a b atol : Rat) : isClose a b atol 0 = true ↔ |a - b| ≤ atol :=
  isClose_zero_rtol a b atol

/-- C01.1 State.is_trace_one for a density matrix with (real) trace `x`: the verdict as it is on the current tree —
true exactly when `|x − 1| ≤ atol + (generated rtol)·|1|`. -/
theorem traceOne_verdict_iff (rho : CMat) (x atol : Rat) (h : rho.trace = some (x, 0)) :
    stateTraceOne rho atol = some true ↔ |x - 1| ≤ atol + state_is_trace_one_rtol := by
  rw [stateTraceOne_eq _ _ _ h, Option.some.injEq, isCloseCR_real, isClose_iff, abs_one, mul_one]

/-- C01.1 State.is_trace_one is the exact test `|tr ρ − 1| ≤ atol` for every trace and tolerance IF AND ONLY IF the
generated relative tolerance is 0. (On the current tree it is 1e-5: defect D1.) -/
theorem traceOne_exact_iff_rtol_zero :
    (∀ x atol : Rat, 0 ≤ atol → (isCloseCR (x, 0) 1 atol state_is_trace_one_rtol = true ↔ |x - 1| ≤ atol)) ↔
      state_is_trace_one_rtol = 0 :=
  isCloseCR_exact_iff_rtol_zero _ (by decide)

/-- C01.1 Povm.is_identity_sum, diagonal entries (reference value 1): exact iff the generated rtol is 0. -/
theorem identitySum_exact_iff_rtol_zero :
    (∀ x atol : Rat, 0 ≤ atol → (isCloseCR (x, 0) 1 atol povm_is_identity_sum_rtol = true ↔ |x - 1| ≤ atol)) ↔
      povm_is_identity_sum_rtol = 0 :=
  isCloseCR_exact_iff_rtol_zero _ (by decide)

/-- D1 negation, independent of the source: numpy's default `rtol = 1e-5` is not 0, so the test is not the exact one
(a trace of `1 + 5·10⁻⁶` accepted at `atol = 10⁻¹³` is the last example of this file). -/
theorem numpy_default_rtol_fails :
    ¬ (∀ x atol : Rat, 0 ≤ atol → (isCloseCR (x, 0) 1 atol (mkRat 1 100000) = true ↔ |x - 1| ≤ atol)) :=
  mt (isCloseCR_exact_iff_rtol_zero _ (by decide)).1 (by decide)

/-- D1 on the generated constants: whenever the source leaves the default relative tolerance in
State.is_trace_one, the exact statement fails (holds vacuously once the source passes `rtol=0.0`). -/
theorem traceOne_exact_fails_of_default_rtol (h : state_is_trace_one_rtol = mkRat 1 100000) :
    ¬ (∀ x atol : Rat, 0 ≤ atol → (isCloseCR (x, 0) 1 atol state_is_trace_one_rtol = true ↔ |x - 1| ≤ atol)) := by
  rw [h]; exact numpy_default_rtol_fails

theorem identitySum_exact_fails_of_default_rtol (h : povm_is_identity_sum_rtol = mkRat 1 100000) :
    ¬ (∀ x atol : Rat, 0 ≤ atol → (isCloseCR (x, 0) 1 atol povm_is_identity_sum_rtol = true ↔ |x - 1| ≤ atol)) := by
  rw [h]; exact numpy_default_rtol_fails

/-- C01.1 gate.is_tp, first-row branch (generated `rtol = 0`): the verdict is exactly
"every entry of the first HS row is within `atol` of `e₀`". -/
theorem tp_row_iff (n : Nat) (hs : List Rat) (atol : Rat) (v : Bool) (h : tpRow n hs atol = some v) :
    v = true ↔ ∀ p ∈ (hs.take n).zipIdx, |p.1 - (if p.2 = 0 then 1 else 0)| ≤ atol := by
  have hr : gate_is_tp_row_rtol = 0 := by decide
  unfold tpRow at h
  split at h
  · cases h
  · injection h with h
    subst h
    rw [List.all_eq_true]
    simp only [hr, isClose_zero_rtol]

/-- C01.4 eigenvalue part of matrix_util.is_positive_semidefinite (generated `rtol = 0`): "eigenvalues within `atol`
of 0 are ignored, the rest must be ≥ 0" is exactly "every eigenvalue ≥ −atol". -/
theorem psdVerdict_eigs_iff (eigs : List Rat) (atol : Rat) (h : 0 ≤ atol) :
    psdEig eigs atol = true ↔ ∀ l ∈ eigs, -atol ≤ l := by
  have hr : mutil_is_psd_eig_rtol = 0 := rfl
  simp only [psdEig, List.all_eq_true, Bool.or_eq_true, decide_eq_true_eq, hr, isClose_zero_rtol, sub_zero, abs_le]
  exact forall₂_congr fun l _ => ⟨fun h1 => h1.elim (·.1) (le_trans (neg_nonpos.2 h)), fun h1 =>
    (le_total 0 l).elim Or.inr fun h2 => Or.inl ⟨h1, h2.trans h⟩⟩

/-- C01.4 the PSD verdict is "Hermitian within atol" and the eigenvalue test. -/
theorem psdVerdict_iff (M : CMat) (eigs : List Rat) (atol : Rat) (hl : eigs.length = M.d)
    (hM : isHermitian M atol = some true) (h : 0 ≤ atol) :
    psdVerdict M eigs atol = some true ↔ ∀ l ∈ eigs, -atol ≤ l := by
  rw [psdVerdict_true_iff, ← psdVerdict_eigs_iff eigs atol h]
  simp [hl, hM]

section spectral
open Matrix
open scoped ComplexOrder
variable {n : Type*} [Fintype n] [DecidableEq n]
/-- C01.4, idealised special case (`_partial`: it needs the RATIONAL list `eigs` to be exactly the real spectrum, which holds only for
matrices with rational eigenvalues; the general statement with an `ε`-accurate list is `psdVerdict_eigs_sandwich`):
the eigenvalue test of `is_positive_semidefinite` decides positive semidefiniteness of `M + atol•1`:
for a Hermitian complex matrix `M` whose (Mathlib) eigenvalues are exactly the values of the model's parameter list
`eigs` (the contract of `np.linalg.eigvalsh`), `psdEig eigs atol ⇔ PosSemidef (M + atol•1)`. -/
theorem psdVerdict_eigs_iff_posSemidef_exact_partial (M : Matrix n n ℂ) (hM : M.IsHermitian) (eigs : List ℚ) (atol : ℚ)
    (ha : 0 ≤ atol)
    (heig : ∀ x : ℝ, (∃ l ∈ eigs, ((l : ℚ) : ℝ) = x) ↔ ∃ i, hM.eigenvalues i = x) :
    psdEig eigs atol = true ↔ (M + (((atol : ℚ) : ℝ) : ℂ) • (1 : Matrix n n ℂ)).PosSemidef := by
  rw [psdVerdict_eigs_iff eigs atol ha]
  rw [← eigenvalues_ge_neg_iff_posSemidef hM]
  constructor
  · intro h i
    obtain ⟨l, hl, hlx⟩ := (heig (hM.eigenvalues i)).2 ⟨i, rfl⟩
    have := h l hl
    rw [← hlx]; exact_mod_cast this
  · intro h l hl
    obtain ⟨i, hi⟩ := (heig l).1 ⟨l, hl, rfl⟩
    have := h i
    rw [hi] at this; exact_mod_cast this

example : psdEig [0, 0] (1 / 10) = true ↔
    ((0 : Matrix (Fin 2) (Fin 2) ℂ) + ((((1 / 10 : ℚ)) : ℝ) : ℂ) • (1 : Matrix (Fin 2) (Fin 2) ℂ)).PosSemidef := by
  have hM : (0 : Matrix (Fin 2) (Fin 2) ℂ).IsHermitian := isHermitian_zero
  have h0 : hM.eigenvalues = 0 := hM.eigenvalues_eq_zero_iff.2 rfl
  refine psdVerdict_eigs_iff_posSemidef_exact_partial 0 hM [0, 0] (1 / 10) (by norm_num) ?_
  intro x
  simp [h0, eq_comm]
end spectral

/-! ## clause "loosening the tolerance never turns a true verdict false" (any generated rtol) -/

/-- C01.2 -/
theorem isClose_atol_mono (a b atol atol' rtol : Rat) (h : atol ≤ atol') (hc : isClose a b atol rtol = true) :
    isClose a b atol' rtol = true := isClose_mono a b atol atol' rtol h hc

theorem traceOne_mono (rho : CMat) (atol atol' : Rat) (h : atol ≤ atol')
    (hc : stateTraceOne rho atol = some true) : stateTraceOne rho atol' = some true := by
  obtain ⟨z, ht, hz⟩ := Option.bind_eq_some_iff.1 hc
  rw [stateTraceOne_eq _ _ _ ht]
  exact congrArg some (isCloseCR_mono _ _ _ _ _ h (Option.some.inj hz))

theorem identitySum_mono (S : CMat) (atol atol' : Rat) (h : atol ≤ atol')
    (hc : povmIdentitySum S atol = some true) : povmIdentitySum S atol' = some true := by
  refine ite_none_mono (fun h' => ?_) hc
  exact congrArg some (all_mono (fun p _ => isCloseCR_mono _ _ _ _ _ h) (Option.some.inj h'))

theorem tp_row_mono (n : Nat) (hs : List Rat) (atol atol' : Rat) (h : atol ≤ atol')
    (hc : tpRow n hs atol = some true) : tpRow n hs atol' = some true :=
  tpRow_mono n hs atol atol' h hc

theorem psdEig_atol_mono (eigs : List Rat) (atol atol' : Rat) (h : atol ≤ atol')
    (hc : psdEig eigs atol = true) : psdEig eigs atol' = true := psdEig_mono eigs atol atol' h hc

/-- entries of the Hermiticity / generic-basis TP tests (complex against complex, generated `rtol = 0`) -/
theorem closeCC_mono (a b : C) (atol atol' rtol : Rat) (h : atol ≤ atol')
    (hc : isCloseCC a b atol rtol = some true) : isCloseCC a b atol' rtol = some true :=
  isCloseCC_mono a b atol atol' rtol h hc

/-! ## clause "physical = equality verdict ∧ inequality verdict", "constructor raises iff not physical" -/

/-- C01.5 -/
theorem physical_eq_and (a b : Bool) : physical a b = true ↔ a = true ∧ b = true := by
  simp [physical]

/-- C01.5 with exactly one tolerance given, the other sub-verdict is taken at the global setting — independently:
`is_physical(atol_eq_const=a)` is `eq(a) ∧ ineq(global)`, `is_physical(atol_ineq_const=a)` is `eq(global) ∧ ineq(a)`. -/
theorem physical_one_tolerance (eq ineq : Rat → Bool) (a g : Rat) :
    (physicalArgs eq ineq (some a) none g = true ↔ eq a = true ∧ ineq g = true) ∧
    (physicalArgs eq ineq none (some a) g = true ↔ eq g = true ∧ ineq a = true) ∧
    (physicalArgs eq ineq none none g = true ↔ eq g = true ∧ ineq g = true) := by
  simp [physicalArgs, is_physical, resolveTol]

theorem statePhysical_iff (rho : CMat) (eigs : List Rat) (ae ai : Rat) :
    statePhysical rho eigs ae ai = some true ↔
      stateTraceOne rho ae = some true ∧ psdVerdict rho eigs ai = some true :=
  physical_do_iff _ _

theorem gatePhysical_iff (onh0 : Bool) (n : Nat) (t : List C) (hs : List Rat) (choi : CMat)
    (eigs : List Rat) (ae ai : Rat) :
    gatePhysical onh0 n t hs choi eigs ae ai = some true ↔
      isTp onh0 n t hs ae = some true ∧ psdVerdict choi eigs ai = some true :=
  physical_do_iff _ _

/-- C01.5 the constructor succeeds exactly when physicality is not required or the object is physical. -/
theorem mk_ok_iff_physical (req phys : Bool) : mk req phys = Ctor.ok ↔ (req = true → phys = true) := by
  cases req <;> cases phys <;> simp [mk, mkWith, state_ctor_raises]

theorem mk_raises_iff (req phys : Bool) : mk req phys = Ctor.notPhysical ↔ (req = true ∧ phys = false) := by
  cases req <;> cases phys <;> simp [mk, mkWith, state_ctor_raises]

/-! ## POVM and measurement process: the executed verdict functions -/

/-- C01 POVM equality verdict (`Povm.is_identity_sum`) on the executed function: true exactly when EVERY entry `S_k` of the summed
matrix is within `atol + rtol·|δ_k|` of the identity entry `δ_k` (modulus compared squared). Off-diagonal entries (`δ_k = 0`) are
tested exactly at `atol`; only the diagonal ones get the generated relative slack (D1). -/
theorem povmIdentitySum_iff (S : CMat) (atol : Rat) (hok : S.ok = true) (hd : S.d ≠ 0) :
    povmIdentitySum S atol = some true ↔
      ∀ p ∈ S.e.zipIdx, isCloseCR p.1 (delta S.d p.2) atol povm_is_identity_sum_rtol = true := by
  unfold povmIdentitySum
  simp only [hok, Bool.not_true, Bool.false_or, decide_eq_true_eq, hd, ↓reduceIte, Option.some.injEq, List.all_eq_true]

/-- off-diagonal entries of the summed matrix are tested exactly: `|S_k| ≤ atol` (no relative slack there) -/
theorem povmIdentitySum_offdiag_exact (z : C) (atol : Rat) (ha : 0 ≤ atol) :
    isCloseCR z 0 atol povm_is_identity_sum_rtol = true ↔ z.1 * z.1 + z.2 * z.2 ≤ atol * atol := by
  rw [isCloseCR_zero_iff]; exact and_iff_right ha

/-- C01 POVM inequality verdict on the executed function: every element passes `is_positive_semidefinite`. -/
theorem povmPsd_iff (Ms : List CMat) (eigss : List (List Rat)) (atol : Rat) :
    povmPsd Ms eigss atol = some true ↔
      Ms.length = eigss.length ∧ ∀ p ∈ Ms.zip eigss, psdVerdict p.1 p.2 atol = some true :=
  povmPsd_true_iff Ms eigss atol

/-- C01 POVM: physical = identity-sum verdict ∧ every element PSD verdict. -/
theorem povmPhysical_iff (S : CMat) (Ms : List CMat) (eigss : List (List Rat)) (ae ai : Rat) :
    povmPhysical S Ms eigss ae ai = some true ↔
      povmIdentitySum S ae = some true ∧ povmPsd Ms eigss ai = some true := by
  unfold povmPhysical; exact physical_do_iff _ _

/-- C01 measurement process equality verdict: `is_sum_tp` is `gate.is_tp` of the entrywise sum of the HS matrices. -/
theorem mpSumTp_eq (onh0 : Bool) (n : Nat) (t : List C) (hss : List (List Rat)) (atol : Rat)
    (h : ∀ hs ∈ hss, hs.length = n * n) : mpSumTp onh0 n t hss atol = isTp onh0 n t (sumHss n hss) atol := by
  unfold mpSumTp
  rw [if_neg]
  simp only [List.any_eq_true, decide_eq_true_eq, not_exists, not_and, not_not]
  exact h

/-- C01 measurement process inequality verdict: every outcome's Choi matrix passes `is_positive_semidefinite` (`is_cp` per outcome). -/
theorem mpCp_iff (chois : List CMat) (eigss : List (List Rat)) (atol : Rat) :
    mpCp chois eigss atol = some true ↔
      chois.length = eigss.length ∧ ∀ p ∈ chois.zip eigss, psdVerdict p.1 p.2 atol = some true :=
  povmPsd_true_iff chois eigss atol

/-- C01 measurement process: physical = sum-TP verdict ∧ every outcome CP verdict. -/
theorem mpPhysical_iff (onh0 : Bool) (n : Nat) (t : List C) (hss : List (List Rat)) (chois : List CMat)
    (eigss : List (List Rat)) (ae ai : Rat) :
    mpPhysical onh0 n t hss chois eigss ae ai = some true ↔
      mpSumTp onh0 n t hss ae = some true ∧ mpCp chois eigss ai = some true := by
  unfold mpPhysical; exact physical_do_iff _ _

/-! ## monotonicity of the composite verdicts (the ones the driver compares) -/

/-- C01.2 `is_hermitian`, `is_positive_semidefinite`, `gate.is_tp` (both branches), `is_sum_tp`, per-element PSD / per-outcome CP. -/
theorem subverdicts_mono (a a' : Rat) (h : a ≤ a') :
    (∀ M, isHermitian M a = some true → isHermitian M a' = some true) ∧
    (∀ M eigs, psdVerdict M eigs a = some true → psdVerdict M eigs a' = some true) ∧
    (∀ onh0 n t hs, isTp onh0 n t hs a = some true → isTp onh0 n t hs a' = some true) ∧
    (∀ onh0 n t hss, mpSumTp onh0 n t hss a = some true → mpSumTp onh0 n t hss a' = some true) ∧
    (∀ Ms eigss, povmPsd Ms eigss a = some true → povmPsd Ms eigss a' = some true) :=
  ⟨fun M => isHermitian_mono M a a' h, fun M e => psdVerdict_mono M e a a' h,
   fun o n t hs => isTp_mono o n t hs a a' h, fun o n t hss => mpSumTp_mono o n t hss a a' h,
   fun Ms e => povmPsd_mono Ms e a a' h⟩

/-- C01.2 the physicality verdict of all four types: loosening either tolerance never turns a true verdict false. -/
theorem physical_mono (ae ae' ai ai' : Rat) (he : ae ≤ ae') (hi : ai ≤ ai') :
    (∀ rho eigs, statePhysical rho eigs ae ai = some true → statePhysical rho eigs ae' ai' = some true) ∧
    (∀ S Ms eigss, povmPhysical S Ms eigss ae ai = some true → povmPhysical S Ms eigss ae' ai' = some true) ∧
    (∀ onh0 n t hs choi eigs, gatePhysical onh0 n t hs choi eigs ae ai = some true →
      gatePhysical onh0 n t hs choi eigs ae' ai' = some true) ∧
    (∀ onh0 n t hss chois eigss, mpPhysical onh0 n t hss chois eigss ae ai = some true →
      mpPhysical onh0 n t hss chois eigss ae' ai' = some true) :=
  ⟨fun rho eigs => physical_do_mono (traceOne_mono rho ae ae' he) (psdVerdict_mono rho eigs ai ai' hi),
   fun S Ms eigss => physical_do_mono (identitySum_mono S ae ae' he) (povmPsd_mono Ms eigss ai ai' hi),
   fun onh0 n t hs choi eigs =>
     physical_do_mono (isTp_mono onh0 n t hs ae ae' he) (psdVerdict_mono choi eigs ai ai' hi),
   fun onh0 n t hss chois eigss =>
     physical_do_mono (mpSumTp_mono onh0 n t hss ae ae' he) (povmPsd_mono chois eigss ai ai' hi)⟩

/-! ## constructor tied to the verdict at the global tolerance -/

/-- a constructor whose guard is `required ∧ ¬physical`, read against the verdict `X = some v` it was handed -/
theorem mkWith_iff (raises : Bool → Bool → Bool) (hr : ∀ r p, raises r p = (r && !p)) (req v : Bool)
    (X : Option Bool) (hv : X = some v) :
    (mkWith raises req v = Ctor.ok ↔ (req = true → X = some true)) ∧
    (mkWith raises req v = Ctor.notPhysical ↔ (req = true ∧ X = some false)) := by
  subst hv
  cases req <;> cases v <;> simp [mkWith, hr]

/-- C01.5 the constructor outcome as a function of the ACTUAL verdict `is_physical()` (both tolerances the generated global
`settings_atol`): for a state with density matrix `rho` the constructor succeeds exactly when physicality is not required or the
verdict at `settings_atol` is true; it raises exactly when required and the verdict is false (same for the other three types with
their verdict functions and generated guards). -/
theorem state_ctor_iff (req : Bool) (rho : CMat) (eigs : List Rat) (v : Bool)
    (hv : statePhysical rho eigs settings_atol settings_atol = some v) :
    (mk req v = Ctor.ok ↔ (req = true → statePhysical rho eigs settings_atol settings_atol = some true)) ∧
    (mk req v = Ctor.notPhysical ↔ (req = true ∧ statePhysical rho eigs settings_atol settings_atol = some false)) :=
  mkWith_iff _ (fun _ _ => rfl) req v _ hv

theorem gate_ctor_iff (req onh0 : Bool) (n : Nat) (t : List C) (hs : List Rat) (choi : CMat) (eigs : List Rat) (v : Bool)
    (hv : gatePhysical onh0 n t hs choi eigs settings_atol settings_atol = some v) :
    (mkGate req v = Ctor.ok ↔ (req = true → gatePhysical onh0 n t hs choi eigs settings_atol settings_atol = some true)) ∧
    (mkGate req v = Ctor.notPhysical ↔
      (req = true ∧ gatePhysical onh0 n t hs choi eigs settings_atol settings_atol = some false)) :=
  mkWith_iff _ (fun _ _ => rfl) req v _ hv

theorem povm_ctor_iff (req : Bool) (S : CMat) (Ms : List CMat) (eigss : List (List Rat)) (v : Bool)
    (hv : povmPhysical S Ms eigss settings_atol settings_atol = some v) :
    (mkPovm req v = Ctor.ok ↔ (req = true → povmPhysical S Ms eigss settings_atol settings_atol = some true)) ∧
    (mkPovm req v = Ctor.notPhysical ↔ (req = true ∧ povmPhysical S Ms eigss settings_atol settings_atol = some false)) :=
  mkWith_iff _ (fun _ _ => rfl) req v _ hv

theorem mprocess_ctor_iff (req onh0 : Bool) (n : Nat) (t : List C) (hss : List (List Rat)) (chois : List CMat)
    (eigss : List (List Rat)) (v : Bool)
    (hv : mpPhysical onh0 n t hss chois eigss settings_atol settings_atol = some v) :
    (mkMProcess req v = Ctor.ok ↔
      (req = true → mpPhysical onh0 n t hss chois eigss settings_atol settings_atol = some true)) ∧
    (mkMProcess req v = Ctor.notPhysical ↔
      (req = true ∧ mpPhysical onh0 n t hss chois eigss settings_atol settings_atol = some false)) :=
  mkWith_iff _ (fun _ _ => rfl) req v _ hv

/-! ## D1 on the current tree, closed form -/

/-- D1 (open known finding) as a closed negation witness on the constants generated from the CURRENT source:
`State.is_trace_one` is not the exact test `|tr ρ − 1| ≤ atol`. This theorem stops type-checking when the source passes `rtol=0.0`. -/
theorem traceOne_exact_fails :
    ¬ (∀ x atol : Rat, 0 ≤ atol → (isCloseCR (x, 0) 1 atol state_is_trace_one_rtol = true ↔ |x - 1| ≤ atol)) :=
  traceOne_exact_fails_of_default_rtol (by decide +kernel)

/-- D1, POVM twin: `Povm.is_identity_sum` is not the exact test on the diagonal entries of the summed matrix. -/
theorem identitySum_exact_fails :
    ¬ (∀ x atol : Rat, 0 ≤ atol → (isCloseCR (x, 0) 1 atol povm_is_identity_sum_rtol = true ↔ |x - 1| ≤ atol)) :=
  identitySum_exact_fails_of_default_rtol (by decide +kernel)

example : povmIdentitySum ⟨2, [(1, 0), (0, 1/100), (0, -1/100), (1, 0)]⟩ (1/10) = some true := by decide +kernel
example : povmPhysical ⟨2, [(1, 0), (0, 0), (0, 0), (1, 0)]⟩
    [⟨2, [(1/2, 0), (0, 0), (0, 0), (1/2, 0)]⟩, ⟨2, [(1/2, 0), (0, 0), (0, 0), (1/2, 0)]⟩] [[1/2, 1/2], [1/2, 1/2]] 0 0 = some true := by
  decide +kernel
example : mpSumTp true 2 [] [[1/2, 0, 0, 1/4], [1/2, 0, 0, 1/4]] 0 = some true := by decide +kernel

section bridge
open Matrix
open scoped ComplexOrder
/-! ## PSD verdict on the matrix, under the ε-contract of `eigvalsh` (sandwich) -/

/-- C01.4 eigenvalue test vs positive semidefiniteness with an eigenvalue list that is only `ε`-accurate (rational floats against
a possibly irrational spectrum): test true ⇒ `M + (atol+ε)•1` PSD, and `M + (atol−ε)•1` PSD ⇒ test true. -/
theorem psdVerdict_eigs_sandwich {n : Type*} [Fintype n] [DecidableEq n] (M : Matrix n n ℂ) (hM : M.IsHermitian)
    (eigs : List ℚ) (atol : ℚ) (ε : ℝ) (ha : 0 ≤ atol) (hap : EigApprox hM eigs ε) :
    (psdEig eigs atol = true → (M + ((((atol : ℚ) : ℝ) + ε : ℝ) : ℂ) • (1 : Matrix n n ℂ)).PosSemidef) ∧
    ((M + ((((atol : ℚ) : ℝ) - ε : ℝ) : ℂ) • (1 : Matrix n n ℂ)).PosSemidef → psdEig eigs atol = true) := by
  rw [psdVerdict_eigs_iff eigs atol ha, ← eigenvalues_ge_neg_iff_posSemidef hM, ← eigenvalues_ge_neg_iff_posSemidef hM]
  constructor
  · intro h i
    obtain ⟨l, hl, hli⟩ := hap.1 i
    have h1 : -((atol : ℚ) : ℝ) ≤ ((l : ℚ) : ℝ) := by exact_mod_cast h l hl
    linarith [(abs_le.1 hli).2]
  · intro h l hl
    obtain ⟨i, hli⟩ := hap.2 l hl
    have h1 : -((atol : ℚ) : ℝ) ≤ ((l : ℚ) : ℝ) := by linarith [(abs_le.1 hli).1, h i]
    exact_mod_cast h1

/-- C01.4 `is_positive_semidefinite` on the model matrix (exactly Hermitian `M`, one eigenvalue per row, `ε`-accurate `eigvalsh`). -/
theorem psdVerdict_sandwich_matrix (M : CMat) (eigs : List ℚ) (atol : ℚ) (ε : ℝ) (hok : M.ok = true)
    (hl : eigs.length = M.d) (ha : 0 ≤ atol) (hH : M.toMatrix.IsHermitian) (hap : EigApprox hH eigs ε) :
    (psdVerdict M eigs atol = some true →
        (M.toMatrix + ((((atol : ℚ) : ℝ) + ε : ℝ) : ℂ) • (1 : Matrix (Fin M.d) (Fin M.d) ℂ)).PosSemidef) ∧
    ((M.toMatrix + ((((atol : ℚ) : ℝ) - ε : ℝ) : ℂ) • (1 : Matrix (Fin M.d) (Fin M.d) ℂ)).PosSemidef →
        psdVerdict M eigs atol = some true) := by
  have hs := psdVerdict_eigs_sandwich M.toMatrix hH eigs atol ε ha hap
  rw [psdVerdict_true_iff]
  exact ⟨fun hv => hs.1 hv.2.2, fun hp => ⟨hl, isHermitian_of_toMatrix M atol hok ha hH, hs.2 hp⟩⟩

/-- C01 state, on the matrix: physical ⇒ unit trace within the (generated) slack ∧ `ρ + (atol+ε)•1` PSD; and conversely with `atol−ε`. -/
theorem statePhysical_sandwich_matrix (rho : CMat) (eigs : List ℚ) (x ae ai : ℚ) (ε : ℝ) (hok : rho.ok = true)
    (hl : eigs.length = rho.d) (ha : 0 ≤ ai) (htr : rho.trace = some (x, 0)) (hH : rho.toMatrix.IsHermitian)
    (hap : EigApprox hH eigs ε) :
    (statePhysical rho eigs ae ai = some true →
      |x - 1| ≤ ae + state_is_trace_one_rtol ∧
      (rho.toMatrix + ((((ai : ℚ) : ℝ) + ε : ℝ) : ℂ) • (1 : Matrix (Fin rho.d) (Fin rho.d) ℂ)).PosSemidef) ∧
    (|x - 1| ≤ ae + state_is_trace_one_rtol ∧
      (rho.toMatrix + ((((ai : ℚ) : ℝ) - ε : ℝ) : ℂ) • (1 : Matrix (Fin rho.d) (Fin rho.d) ℂ)).PosSemidef →
      statePhysical rho eigs ae ai = some true) := by
  have hs := psdVerdict_sandwich_matrix rho eigs ai ε hok hl ha hH hap
  rw [statePhysical_iff, traceOne_verdict_iff rho x ae htr]
  exact ⟨fun h => ⟨h.1, hs.1 h.2⟩, fun h => ⟨h.1, hs.2 h.2⟩⟩

/-- C01 gate, on the Choi matrix: physical ⇒ TP verdict ∧ `Choi + (atol+ε)•1` PSD; and conversely with `atol−ε`. -/
theorem gatePhysical_sandwich_matrix (onh0 : Bool) (n : Nat) (t : List C) (hs : List Rat) (choi : CMat) (eigs : List ℚ)
    (ae ai : ℚ) (ε : ℝ) (hok : choi.ok = true) (hl : eigs.length = choi.d) (ha : 0 ≤ ai)
    (hH : choi.toMatrix.IsHermitian) (hap : EigApprox hH eigs ε) :
    (gatePhysical onh0 n t hs choi eigs ae ai = some true →
      isTp onh0 n t hs ae = some true ∧
      (choi.toMatrix + ((((ai : ℚ) : ℝ) + ε : ℝ) : ℂ) • (1 : Matrix (Fin choi.d) (Fin choi.d) ℂ)).PosSemidef) ∧
    (isTp onh0 n t hs ae = some true ∧
      (choi.toMatrix + ((((ai : ℚ) : ℝ) - ε : ℝ) : ℂ) • (1 : Matrix (Fin choi.d) (Fin choi.d) ℂ)).PosSemidef →
      gatePhysical onh0 n t hs choi eigs ae ai = some true) := by
  have hs' := psdVerdict_sandwich_matrix choi eigs ai ε hok hl ha hH hap
  rw [gatePhysical_iff]
  exact ⟨fun h => ⟨h.1, hs'.1 h.2⟩, fun h => ⟨h.1, hs'.2 h.2⟩⟩

/-! non-vacuity: the mixed qubit state `diag(2/3, 1/3)` with a float-like eigenvalue list `[0.333, 0.667]` (ε = 10⁻³) -/

/-- the sandwich theorem instantiated: this state is judged physical at atol 10⁻² and `ρ + (10⁻² + 10⁻³)•1` is PSD -/
example : statePhysical exRho [333/1000, 667/1000] (1/100) (1/100) = some true ∧
    (exRho.toMatrix + ((((1/100 : ℚ) : ℝ) + 1/1000 : ℝ) : ℂ) • (1 : Matrix (Fin 2) (Fin 2) ℂ)).PosSemidef := by
  have hv : statePhysical exRho [333/1000, 667/1000] (1/100) (1/100) = some true := by decide +kernel
  have := (statePhysical_sandwich_matrix exRho [333/1000, 667/1000] 1 (1/100) (1/100) (1/1000) (by decide) (by decide)
    (by norm_num) (by decide +kernel) exRho_hermitian exRho_eigApprox).1 hv
  exact ⟨hv, this.2⟩
end bridge

/-! ## decision wiring regenerated from the source (`QGen.C01`): a source edit of these expressions re-opens the proofs -/

/-- C01.5 on the GENERATED `QOperation.is_physical`: it is the conjunction of the equality verdict at the (optional)
equality tolerance and the inequality verdict at the (optional) inequality tolerance — each handed on unchanged. -/
theorem generated_is_physical_iff (eq ineq : Option Rat → Bool) (ae ai : Option Rat) :
    is_physical eq ineq ae ai = true ↔ eq ae = true ∧ ineq ai = true := by
  simp [is_physical]

/-- C01.5 on the GENERATED constructor guards of all four types: raise ⇔ physicality required ∧ not physical
(`is_physical()` with the default tolerances). -/
theorem generated_ctor_raises_iff (req phys : Bool) :
    (state_ctor_raises req phys = true ↔ (req = true ∧ phys = false)) ∧
    (povm_ctor_raises req phys = true ↔ (req = true ∧ phys = false)) ∧
    (gate_ctor_raises req phys = true ↔ (req = true ∧ phys = false)) ∧
    (mprocess_ctor_raises req phys = true ↔ (req = true ∧ phys = false)) := by
  cases req <;> cases phys <;> simp [state_ctor_raises, povm_ctor_raises, gate_ctor_raises, mprocess_ctor_raises]

theorem mk_all_types_iff (req phys : Bool) :
    (mkPovm req phys = Ctor.ok ↔ (req = true → phys = true)) ∧
    (mkGate req phys = Ctor.ok ↔ (req = true → phys = true)) ∧
    (mkMProcess req phys = Ctor.ok ↔ (req = true → phys = true)) := by
  cases req <;> cases phys <;>
    simp [mkPovm, mkGate, mkMProcess, mkWith, povm_ctor_raises, gate_ctor_raises, mprocess_ctor_raises]

/-- C01.3 on the GENERATED basis-flag aggregation: the composite system is "orthonormal, Hermitian, identity-first"
exactly when EVERY subsystem's basis passes all four basis verdicts; and gate.is_tp uses the first-row test exactly then. -/
theorem generated_basis_flag_iff (subs : List (Bool × Bool × Bool × Bool)) :
    onh0Flag subs = true ↔ ∀ s ∈ subs, s.1 = true ∧ s.2.1 = true ∧ s.2.2.1 = true ∧ s.2.2.2 = true := by
  simp only [onh0Flag, composite_flag, elemental_flag, List.all_map, List.all_eq_true, Function.comp_apply, id,
    Bool.and_eq_true, and_assoc]

theorem isTp_branch (onh0 : Bool) (n : Nat) (t : List C) (hs : List Rat) (atol : Rat) :
    isTp onh0 n t hs atol = if onh0 = true then tpRow n hs atol else tpTrace n t hs atol := by
  cases onh0 <;> simp [isTp, is_tp_first_row_branch]

example : onh0Flag [(true, true, true, true), (true, true, true, false)] = false := by decide
example : is_physical (fun a => a == some (1/2)) (fun a => a == none) (some (1/2)) none = true := by decide +kernel
example : gate_ctor_raises true false = true := by decide

/-! ## clause "the origin object is physical" (state, POVM: whole verdict; gate, measurement process: equality part and the PSD verdict
of a scalar matrix; the zero object; ∀ d, ∀ m ≥ 1, every atol ≥ 0) -/

/-- C01.6 gate origin (`hs = E₀₀`, the completely depolarising map) is trace preserving for every dimension — for identity-first
orthonormal bases (first-row branch). For other Hermitian bases the library's origin object is NOT physical (finding C01-F2:
`generate_origin_obj` writes `E₀₀` / `e₀` whatever the basis); no theorem is claimed there. -/
theorem origin_gate_tp (n : Nat) (atol : Rat) (hn : 0 < n) (ha : 0 ≤ atol) :
    tpRow n (originGate n) atol = some true := by
  have hnn := Nat.mul_pos hn hn
  have hlen : (originGate n).length = n * n := unit0_length 1 hnn
  have hrt : gate_is_tp_row_rtol = 0 := rfl
  rw [tpRow_eq n _ atol hlen hn.ne', hrt]
  congr 1
  rw [List.all_eq_true]
  intro c _
  rw [originGate, unit0_getD]
  exact isClose_self _ _ _ (by rw [zero_mul, add_zero]; exact ha)

/-- C01.6 mprocess origin (`m` copies of `E₀₀/m`): the sum is trace preserving for every `d`, `m ≥ 1`. -/
theorem origin_mprocess_sum_tp (n m : Nat) (t : List C) (atol : Rat) (hn : 0 < n) (hm : 0 < m)
    (ha : 0 ≤ atol) : mpSumTp true n t (originMp n m) atol = some true := by
  have hnn := Nat.mul_pos hn hn
  rw [mpSumTp_eq true n t _ atol fun hs hh => by rw [(List.mem_replicate.1 hh).2]; exact unit0_length _ hnn,
    sumHss_origin n m hn hm]
  exact origin_gate_tp n atol hn ha

/-- C01.6 state / POVM origin: an operator with trace exactly 1 passes the trace test at every `atol ≥ 0`
(`tr(I/d) = 1`; the float `1/np.sqrt(d)` enters only through the trace parameter). -/
theorem traceOne_of_trace_one (rho : CMat) (atol : Rat) (h : rho.trace = some (1, 0)) (ha : 0 ≤ atol) :
    stateTraceOne rho atol = some true := by
  have hr : (0 : Rat) ≤ state_is_trace_one_rtol := by decide
  rw [traceOne_verdict_iff rho 1 atol h, sub_self, abs_zero]
  exact add_nonneg ha hr

/-- C01.6 PSD part of every origin object: non-negative eigenvalues pass at every `atol ≥ 0`. -/
theorem psdEig_of_nonneg (eigs : List Rat) (atol : Rat) (ha : 0 ≤ atol) (h : ∀ l ∈ eigs, 0 ≤ l) :
    psdEig eigs atol = true :=
  (psdVerdict_eigs_iff eigs atol ha).2 fun l hl => by have := h l hl; linarith

/-- C01.6 PSD part of the origin objects: the scalar matrix `c·1` (`c ≥ 0`) with ITS eigenvalue list `(c, …, c)` passes
`is_positive_semidefinite` at every `atol ≥ 0` (state `I/d`, POVM elements `I/m`, gate / mprocess Choi `1/d`, `1/(m d)`). -/
theorem psdVerdict_scalar (d : Nat) (c atol : Rat) (ha : 0 ≤ atol) (hc : 0 ≤ c) :
    psdVerdict (scalarMat d c) (List.replicate d c) atol = some true := by
  rw [psdVerdict_true_iff]
  exact ⟨List.length_replicate, isHermitian_scalar d c atol ha,
    psdEig_of_nonneg _ atol ha fun l hl => (List.mem_replicate.1 hl).2 ▸ hc⟩

/-- C01.6 state origin: the maximally mixed operator `(1/d)·1` with its eigenvalue list is physical at every pair of tolerances ≥ 0
(trace `d·(1/d) = 1` exactly; the float `1/np.sqrt(d)` enters only through the density-matrix parameter). -/
theorem origin_state_physical (d : Nat) (ae ai : Rat) (hd : 0 < d) (hae : 0 ≤ ae) (hai : 0 ≤ ai) :
    statePhysical (scalarMat d (1 / (d : Rat))) (List.replicate d (1 / (d : Rat))) ae ai = some true := by
  have hdq : (d : Rat) ≠ 0 := by exact_mod_cast (Nat.pos_iff_ne_zero.mp hd)
  have hc : (0 : Rat) ≤ 1 / (d : Rat) := by positivity
  rw [statePhysical_iff]
  refine ⟨?_, psdVerdict_scalar d _ ai hai hc⟩
  apply traceOne_of_trace_one _ _ _ hae
  rw [scalarMat_trace, mul_one_div, div_self hdq]

/-- identity matrix passes the identity-sum test at every `atol ≥ 0` (POVM origin: `m` elements `(1/m)·1` sum to `1`) -/
theorem identitySum_identity (d : Nat) (atol : Rat) (hd : 0 < d) (ha : 0 ≤ atol) :
    povmIdentitySum (scalarMat d 1) atol = some true := by
  have hr : (0 : Rat) ≤ povm_is_identity_sum_rtol := by decide
  rw [povmIdentitySum_iff _ _ (scalarMat_ok d 1) hd.ne']
  intro p hp
  rw [List.mem_zipIdx_iff_getElem?, scalarMat, List.getElem?_map, Option.map_eq_some_iff] at hp
  obtain ⟨k, hk, hp⟩ := hp
  obtain ⟨_, hk⟩ := List.getElem?_eq_some_iff.1 hk
  rw [List.getElem_range] at hk
  subst hk
  -- entry `k` of the identity is `(δ_k, 0)`, compared with `δ_k`
  have h1 : p.1 = (delta d p.2, 0) := by rw [← hp, delta]; split <;> rfl
  rw [h1, isCloseCR_real]
  exact isClose_self _ _ _ (add_nonneg ha (mul_nonneg hr (abs_nonneg _)))

/-- C01.6 POVM origin: `m` copies of `(1/m)·1`, whose sum is the identity, are physical at every pair of tolerances ≥ 0. -/
theorem origin_povm_physical (d m : Nat) (ae ai : Rat) (hd : 0 < d) (hae : 0 ≤ ae) (hai : 0 ≤ ai) :
    povmPhysical (scalarMat d 1) (List.replicate m (scalarMat d (1 / (m : Rat))))
      (List.replicate m (List.replicate d (1 / (m : Rat)))) ae ai = some true := by
  have hc : (0 : Rat) ≤ 1 / (m : Rat) := by positivity
  rw [povmPhysical_iff, povmPsd_iff]
  refine ⟨identitySum_identity d ae hd hae, by simp, ?_⟩
  intro p hp
  rw [List.zip_replicate', List.mem_replicate] at hp
  rw [hp.2]
  exact psdVerdict_scalar d _ ai hai hc

/-- C01.6 the zero object: `generate_zero_obj` is the all-zero parameter array … -/
theorem zero_object_is_zero (n : Nat) : ∀ x ∈ zeroVec n, x = 0 := by
  intro x hx; unfold zeroVec at hx; rw [List.mem_replicate] at hx; exact hx.2

/-- … whose operator (the zero matrix) is PSD at every `atol ≥ 0` but not unit trace (`atol + rtol < 1`): not physical. -/
theorem zero_state_verdicts (d : Nat) (ae ai : Rat) (hd : 0 < d) (hai : 0 ≤ ai) (hae : ae + state_is_trace_one_rtol < 1) :
    psdVerdict (scalarMat d 0) (List.replicate d 0) ai = some true ∧ stateTraceOne (scalarMat d 0) ae ≠ some true := by
  refine ⟨psdVerdict_scalar d 0 ai hai le_rfl, ?_⟩
  rw [Ne, traceOne_verdict_iff _ 0 ae (by rw [scalarMat_trace, mul_zero]), zero_sub, abs_neg, abs_one]
  exact not_le.2 hae

example : statePhysical (scalarMat 3 (1/3)) [1/3, 1/3, 1/3] 0 0 = some true :=
  origin_state_physical 3 0 0 (by decide) le_rfl le_rfl

/-! ## the two branches of gate.is_tp; the Mathlib matrix behind `is_hermitian` and the state verdict -/

/-- C01.3 the two branches of `gate.is_tp` under the ONH0 hypothesis (traces `(τ,0,…,0)`, `τ = Tr B₀ > 0`):
the per-basis trace test at tolerance `τ·a` is the first-row test at tolerance `a` — the trace defect is `τ = √d`
times the first-row defect; in particular both are the exact TP condition at tolerance 0 (with `tpTrace_zero_iff`). -/
theorem tp_branches_relation (n : Nat) (hs : List Rat) (τ a : Rat) (hτ : 0 < τ) :
    tpTrace n (onh0Traces τ n) hs (τ * a) = tpRow n hs a := by
  have hrt : gate_is_tp_trace_rtol = 0 := rfl
  have hrr : gate_is_tp_row_rtol = 0 := rfl
  by_cases hn : n = 0
  · subst hn; simp [tpTrace, tpRow, onh0Traces]
  by_cases hl : hs.length = n * n
  swap
  · simp [tpTrace, tpRow, hl]
  have htl : (onh0Traces τ n).length = n := by simp [onh0Traces]; omega
  rw [tpTrace_eq, tpRow_eq n hs a hl hn, if_neg (by simp [hl, htl]), hrt, hrr, ← allSome_map_some]
  -- every column test is the corresponding first-row entry test
  refine congrArg allSome (List.map_congr_left fun c hc => ?_)
  rw [traceAfter_onh0 τ hs hl (List.mem_range.1 hc), getElem?_onh0Traces τ (List.mem_range.1 hc), Option.bind_some,
    Option.bind_some, isCloseCC_real_ref, isCloseCR_real, isClose_scaled _ _ _ _ hτ]

/-- C01.3 the basis-generic branch of `gate.is_tp` on the executed function: true exactly when, for every basis index `a`,
the trace after the map is within `atol` (modulus, compared squared) of the trace before: `|Σ_b hs[b][a]·Tr B_b − Tr B_a| ≤ atol`. -/
theorem tpTrace_iff (n : Nat) (t : List C) (hs : List Rat) (atol : Rat) :
    tpTrace n t hs atol = some true ↔
      hs.length = n * n ∧ t.length = n ∧ ∀ a, a < n → ∃ after before, traceAfter n t hs a = some after ∧
        t[a]? = some before ∧ 0 ≤ atol ∧
        (after.1 - before.1) * (after.1 - before.1) + (after.2 - before.2) * (after.2 - before.2) ≤ atol * atol := by
  have hr : gate_is_tp_trace_rtol = 0 := rfl
  simp only [tpTrace_true_iff, hr, isCloseCC_iff]

/-- a matrix that fails `is_hermitian` never passes `is_positive_semidefinite` -/
theorem psdVerdict_rejects_nonhermitian (M : CMat) (eigs : List Rat) (atol : Rat) (h : isHermitian M atol = some false) :
    psdVerdict M eigs atol ≠ some true := by
  rw [Ne, psdVerdict_true_iff]; rintro ⟨_, h2, _⟩; rw [h] at h2; cases h2

example : tpTrace 2 [(1, 0), (1, 0)] [1/2, 1/2, 1/2, 1/2] 0 = some true := by decide +kernel

section bridge3
open Matrix
open scoped ComplexOrder
/-- C01.4 `is_hermitian` at tolerance 0 on a well-sized model matrix decides exact Hermiticity of the matrix it denotes. -/
theorem isHermitian_zero_iff (M : CMat) (hok : M.ok = true) :
    isHermitian M 0 = some true ↔ M.toMatrix.IsHermitian := by
  rw [isHermitian_iff _ _ hok, toMatrix_isHermitian_iff]
  simp only [closeCC_zero_iff]

/-- the trace the model computes (`np.trace` of the density matrix) is the trace of the matrix the model matrix denotes -/
theorem trace_toMatrix (M : CMat) (hok : M.ok = true) (z : C) (h : M.trace = some z) : toC z = M.toMatrix.trace := by
  rw [CMat.trace_eq M hok, Option.some.injEq] at h
  rw [← h]
  have := toC_sum ((List.range M.d).map fun i => M.entry i i)
  simp only [List.map_map, Function.comp_def] at this
  rw [this]
  exact (Fin.sum_univ_eq_sum_range (fun i => toC (M.entry i i)) M.d).symm

/-- C01.1 exactness stated on the executed `State.is_trace_one`: it is the exact test `|tr ρ − 1| ≤ atol` for every density matrix
with a real trace and every tolerance if and only if the generated relative tolerance is 0 (it is 1e-5 on the current tree: D1). -/
theorem stateTraceOne_exact_iff_rtol_zero :
    (∀ (rho : CMat) (x atol : Rat), rho.trace = some (x, 0) → 0 ≤ atol →
        (stateTraceOne rho atol = some true ↔ |x - 1| ≤ atol)) ↔ state_is_trace_one_rtol = 0 := by
  rw [← traceOne_exact_iff_rtol_zero]
  constructor
  · intro h x atol ha
    have ht : (scalarMat 1 x).trace = some (x, 0) := by rw [scalarMat_trace, Nat.cast_one, one_mul]
    rw [← h _ x atol ht ha, stateTraceOne_eq _ _ _ ht, Option.some.injEq]
  · intro h rho x atol ht ha
    rw [← h x atol ha, stateTraceOne_eq _ _ _ ht, Option.some.injEq]

example : isHermitian ⟨2, [(1/2, 0), (1/4, 1/8), (1/4, -1/8), (1/2, 0)]⟩ 0 = some true := by decide +kernel

/-- C01 state, on the matrix, WITHOUT a separate trace hypothesis: for an exactly Hermitian density matrix the model trace is the
(real) matrix trace `x`, and physical ⇒ `|x − 1| ≤ atol_eq + rtol` ∧ `ρ + (atol_ineq+ε)•1` PSD; conversely with `atol_ineq − ε`. -/
theorem statePhysical_sandwich_matrix_trace (rho : CMat) (eigs : List ℚ) (ae ai : ℚ) (ε : ℝ) (hok : rho.ok = true)
    (hl : eigs.length = rho.d) (ha : 0 ≤ ai) (hH : rho.toMatrix.IsHermitian) (hap : EigApprox hH eigs ε) :
    ∃ x : ℚ, (((x : ℚ) : ℝ) : ℂ) = rho.toMatrix.trace ∧
      (statePhysical rho eigs ae ai = some true →
        |x - 1| ≤ ae + state_is_trace_one_rtol ∧
        (rho.toMatrix + ((((ai : ℚ) : ℝ) + ε : ℝ) : ℂ) • (1 : Matrix (Fin rho.d) (Fin rho.d) ℂ)).PosSemidef) ∧
      (|x - 1| ≤ ae + state_is_trace_one_rtol ∧
        (rho.toMatrix + ((((ai : ℚ) : ℝ) - ε : ℝ) : ℂ) • (1 : Matrix (Fin rho.d) (Fin rho.d) ℂ)).PosSemidef →
        statePhysical rho eigs ae ai = some true) := by
  obtain ⟨x, hx⟩ := trace_real_of_hermitian rho hok hH
  refine ⟨x, ?_, statePhysical_sandwich_matrix rho eigs x ae ai ε hok hl ha hx hH hap⟩
  rw [← trace_toMatrix rho hok (x, 0) hx]
  simp [toC]

-- instantiated at the mixed qubit state diag(2/3, 1/3) with the float-like eigenvalue list (ε = 10⁻³)
example := statePhysical_sandwich_matrix_trace exRho [333/1000, 667/1000] (1/100) (1/100) (1/1000) (by decide) (by decide)
    (by norm_num) exRho_hermitian exRho_eigApprox

end bridge3

/-- C01.3 exact trace preservation: at tolerance 0 the basis-generic branch of `gate.is_tp` is true exactly when the map preserves the
trace of EVERY basis element, `Σ_b hs[b][a]·Tr B_b = Tr B_a` (the extension to the span of the basis by linearity is not stated). -/
theorem tpTrace_zero_iff (n : Nat) (t : List C) (hs : List Rat) :
    tpTrace n t hs 0 = some true ↔
      hs.length = n * n ∧ t.length = n ∧ ∀ a, a < n → ∃ z, traceAfter n t hs a = some z ∧ t[a]? = some z := by
  have hr : gate_is_tp_trace_rtol = 0 := rfl
  -- closeness at tolerance 0 is equality, so `before` is `after`
  simp only [tpTrace_true_iff, hr, closeCC_zero_iff, exists_and_left, exists_eq_right']

example : tpTrace 2 [(1, 0), (1, 0)] [1/2, 1/2, 1/2, 1/2] 0 = some true := by decide +kernel

/-! ## the basis verdicts that feed the identity-first flag -/

/-- C01.3 `MatrixBasis.is_orthogonal` on the executed function: true exactly when every pair of distinct elements (earlier, later) has
`|⟨left, right⟩| ≤ atol` — exact, whatever the generated relative tolerance, because the reference value is 0. -/
theorem basisIsOrthogonal_iff (B : List CMat) (g rtol : Rat) (hg : 0 ≤ g) :
    basisIsOrthogonal B g rtol = true ↔
      ∀ p ∈ pairsBefore B, (vdot p.1.e p.2.e).1 * (vdot p.1.e p.2.e).1 + (vdot p.1.e p.2.e).2 * (vdot p.1.e p.2.e).2 ≤ g * g := by
  simp only [basisIsOrthogonal, List.all_eq_true, isCloseCR_zero_iff, hg, true_and]

/-- C01.3 `is_normal` on the executed function: every element has `|⟨B_α, B_α⟩ − 1| ≤ atol + rtol` with the GENERATED relative
tolerance of that call site (numpy's default 1e-5 on the current tree: the normalisation test has the same relative slack as D1). -/
theorem basisIsNormal_iff (B : List CMat) (g rtol : Rat) :
    basisIsNormal B g rtol = true ↔
      ∀ M ∈ B, 0 ≤ g + rtol ∧
        ((vdot M.e M.e).1 - 1) * ((vdot M.e M.e).1 - 1) + (vdot M.e M.e).2 * (vdot M.e M.e).2 ≤ (g + rtol) * (g + rtol) := by
  simp only [basisIsNormal, List.all_eq_true, isCloseCR_one_iff]

/-- C01.3 `is_hermitian` of a basis: every element passes `mutil.is_hermitian` at the global tolerance. -/
theorem basisIsHermitian_iff (B : List CMat) (g : Rat) :
    basisIsHermitian B g = some true ↔ ∀ M ∈ B, isHermitian M g = some true := by
  unfold basisIsHermitian
  exact allSome_map_true_iff _ _

/-- C01.3 the flag of one subsystem from the modelled basis verdicts through the GENERATED conjunction. -/
theorem elemental_flag_of_basis (B : List CMat) (g ro rn : Rat) (z : Bool) :
    elemental_flag (basisIsNormal B g rn) (basisIsOrthogonal B g ro) (basisIsHermitian B g == some true) z = true ↔
      basisIsNormal B g rn = true ∧ basisIsOrthogonal B g ro = true ∧ basisIsHermitian B g = some true ∧ z = true := by
  simp [elemental_flag, and_assoc]

-- the normalised 1-qubit Pauli basis restricted to (I, Z)/√2 is not available over ℚ; a rational orthonormal pair instead:
example : basisIsOrthogonal [⟨2, [(1,0),(0,0),(0,0),(0,0)]⟩, ⟨2, [(0,0),(0,0),(0,0),(1,0)]⟩] 0 (mkRat 1 100000) = true ∧
    basisIsNormal [⟨2, [(1,0),(0,0),(0,0),(0,0)]⟩, ⟨2, [(0,0),(0,0),(0,0),(1,0)]⟩] 0 (mkRat 1 100000) = true ∧
    basisIsHermitian [⟨2, [(1,0),(0,0),(0,0),(0,0)]⟩, ⟨2, [(0,1),(0,0),(0,0),(1,0)]⟩] 0 = some false := by decide +kernel

/-! ## the hypotheses are satisfiable / concrete instances -/

example : tpTrace 2 (onh0Traces 2 2) [1, 0, 0, 1/2] 0 = some true := by decide +kernel
example : psdVerdict (scalarMat 2 (1/2)) [1/2, 1/2] 0 = some true := by decide +kernel
example : physicalArgs (fun t => decide (1/1000 ≤ t)) (fun t => decide (1/1000 ≤ t)) (some (1/100)) none (1/10000000000000) = false := by decide +kernel

example : stateTraceOne ⟨2, [(1/2, 0), (0, 0), (0, 0), (1/2, 0)]⟩ (1 / 10000000000000) = some true := by decide +kernel
example : (⟨2, [(1/2, 0), (0, 0), (0, 0), (1/2, 0)]⟩ : CMat).trace = some (1, 0) := by decide +kernel
example : isHermitian ⟨2, [(1/2, 0), (1/4, 1/8), (1/4, -1/8), (1/2, 0)]⟩ 0 = some true := by decide +kernel
example : psdEig [-1/100000000000000, 0, 1/2] (1 / 10000000000000) = true := by decide +kernel
example : psdEig [-1/1000000000000, 1/2] (1 / 10000000000000) = false := by decide +kernel
example : tpRow 2 [1, 0, 0, 1/2] 0 = some true := by decide +kernel
example : tpRow 2 [1, 1/1000000, 0, 1/2] (1 / 10000000000000) = some false := by decide +kernel
example : mk true false = Ctor.notPhysical := by decide
/-- the current tree: a trace of 1 + 5·10⁻⁶ is "trace one" at atol 10⁻¹³ with the default relative tolerance -/
example : isCloseCR (1 + 5 / 1000000, 0) 1 (1 / 10000000000000) (mkRat 1 100000) = true := by decide +kernel

end QM.C01
