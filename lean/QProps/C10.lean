import QProofs.C10
import QGen.C10
import Mathlib.Analysis.Normed.Module.Convex
import Mathlib.Analysis.InnerProductSpace.Basic
/-!
# C10 — constrained estimators return physical, consistent estimates: property theorems

All statements are about the definitions of `QModel/C10.lean` (the driver executes the same definitions at `Rat`), are
unbounded in dimensions, iteration counts, history lengths and data, and hold over every ordered field `K` and every
`K`-vector space `V` (in particular `K = ℝ`, `V = ℝ^n` with the physical set of a state / POVM / gate / measurement process
as `C`).  The loss value `f`, its gradient, `dot`, `sqrt`, the stopping mode and all thresholds are arbitrary: feasibility
does not depend on them.

Not proved here (honest gap, see `…_partial` names): that the loops terminate before the iteration limit and that the
stopped iterate is ε-close to the constrained minimiser; that the implementation's projections map into the sets
(that is C04/C05 — here it is the hypothesis `hproj`); that the Dykstra loop reaches a stationary state (at one, the result IS
the nearest physical point: `dyk_stationary_is_nearest`, `dyk_zero_value_is_stationary`, `dyk_sum_invariant`).  Exact-data
optimality of the truth is proved for every PSD-weighted squared error (`exact_data_minimiser`,
`weighted_exact_data_minimiser`) and, in QProps/C11, for the relative entropy (`relative_entropy_exact_data_minimiser`).
`selection_table`, `selection_keeps_installed`, `ple_eq_proj_of_lin` and the flag clauses of
`lme_estimates_from_selected_projection` are the model's decision tables (true by unfolding); their content is the
correspondence (`select`, `ple`, `lme` ops) and, for the first, `gen_selection_table`.  The `pgdb_*` theorems assume the line
search returned (`= some it`, i.e. a step size `> 0` was accepted in exact arithmetic); when the direction is not a descent
direction (inexact projection) the float code ends the search by underflow with `x_next = x_prev`, which is feasible as well.
-/
set_option linter.unusedSectionVars false
namespace QM.C10

/-! ## D — which projection is installed (`set_constraint_from_standard_qt_and_option`) -/

/-- C10.selection_table: with no projection installed yet, the flag pair `(on_algo_eq_constraint, on_algo_ineq_constraint)`
selects: `(T,T)` the physical projection (Dykstra) with the parametrisation flag of the estimation template and the
option's iteration limit, `(T,F)` the equality projection, `(F,T)` the inequality projection, `(F,F)` the identity. -/
theorem selection_table (si : SettingInfo) (o : Order) (mi : Option Nat) :
    setConstraint none si ⟨true, true, o, mi⟩ = .physical si.onPara si.order mi ∧
    setConstraint none si ⟨true, false, o, mi⟩ = .eqOnly si.onPara ∧
    setConstraint none si ⟨false, true, o, mi⟩ = .ineqOnly si.onPara ∧
    setConstraint none si ⟨false, false, o, mi⟩ = .toSelf := by
  refine ⟨rfl, rfl, rfl, rfl⟩

/-- C10.selection_physical_iff: the full physical projection is installed exactly when both constraint flags are on. -/
theorem selection_physical_iff (si : SettingInfo) (opt : AlgoOpt) :
    (∃ p o m, setConstraint none si opt = .physical p o m) ↔ (opt.onAlgoEq = true ∧ opt.onAlgoIneq = true) := by
  obtain ⟨e, i, o, m⟩ := opt
  cases e <;> cases i <;> simp [setConstraint, funcCalcProjPhysicalWithVar]

/-- C10.selection_order_from_template: the projection order that takes effect in the projected-gradient algorithms is the
one stored in the estimation template, whatever `mode_proj_order` the algorithm option carries
(`func_calc_proj_physical_with_var` drops its `mode_proj_order` argument). -/
theorem selection_order_from_template (si : SettingInfo) (e i : Bool) (o o' : Order) (mi : Option Nat) :
    setConstraint none si ⟨e, i, o, mi⟩ = setConstraint none si ⟨e, i, o', mi⟩ := by
  cases e <;> cases i <;> rfl

/-- C10.selection_keeps_installed: a projection that is already installed (constructor argument or an earlier call) is
kept; the tomography and the option of the later call are not consulted. -/
theorem selection_keeps_installed (p : ProjSel) (si : SettingInfo) (opt : AlgoOpt) :
    setConstraint (some p) si opt = p := rfl

example : setConstraint none ⟨true, .eqIneq⟩ ⟨true, true, .ineqEq, some 100000⟩
    = .physical true .eqIneq (some 100000) := by decide

/-! ## the same tables, regenerated from the source on every run (`harness/c10_translate.py` → `QGen/C10.lean`) -/

/-- C10.gen_selection_table: the flag tests of the source's if/elif chain, in source order, install exactly the factories the
model's `setConstraint` selects; the chain's three explicit tests plus the final `else` cover the four flag combinations; the
early return for an installed projection is present. -/
theorem gen_selection_table (si : SettingInfo) (o : Order) (mi : Option Nat) :
    QGen.C10.selectionTable =
      [(some (true, true), (setConstraint none si ⟨true, true, o, mi⟩).factoryName),
       (some (true, false), (setConstraint none si ⟨true, false, o, mi⟩).factoryName),
       (some (false, true), (setConstraint none si ⟨false, true, o, mi⟩).factoryName),
       (none, (setConstraint none si ⟨false, false, o, mi⟩).factoryName)] ∧
    QGen.C10.keepsInstalled = true := ⟨rfl, rfl⟩

/-- C10.gen_physical_arguments: the physical-projection factory receives the template's parametrisation flag, the option's
`mode_proj_order` and the option's `max_iteration_proj_physical` (not the optimiser's own iteration budget); the closure it
returns forwards the flag and the iteration limit only — the projection order is dropped there. -/
theorem gen_physical_arguments :
    [QGen.C10.physicalOnParaSource, QGen.C10.physicalOrderSource, QGen.C10.physicalMaxIterSource] = physicalArgSources ∧
    QGen.C10.physicalClosureKeywords = closureForwards ∧ QGen.C10.physicalClosureSources = closureForwards ∧
    "mode_proj_order" ∉ QGen.C10.physicalClosureKeywords :=
  ⟨rfl, rfl, rfl, by decide⟩

/-- C10.gen_stop_modes: the strings accepted by the option constructor are exactly the four stopping modes of the model, in the
model's order; each of the three `optimize` loops dispatches on exactly these strings in this order; defaults as modelled. -/
theorem gen_stop_modes :
    QGen.C10.stopModes.map StopMode.ofString? =
      [some .singleDiffLoss, some .sumAbsDiffLoss, some .sumAbsDiffVar, some .sumAbsDiffProjGrad] ∧
    QGen.C10.dispatchPgdb = QGen.C10.stopModes ∧ QGen.C10.dispatchPgdm = QGen.C10.stopModes ∧
    QGen.C10.dispatchFista = QGen.C10.stopModes ∧
    StopMode.ofString? QGen.C10.defaultStopMode = some .singleDiffLoss ∧ QGen.C10.defaultNumHistory = 1 :=
  ⟨rfl, rfl, rfl, rfl, rfl, rfl⟩

/-- C10.gen_proj_orders: accepted projection orders and the default. -/
theorem gen_proj_orders :
    QGen.C10.projOrders.map Drv.parseOrder? = [some .eqIneq, some .ineqEq] ∧
    Drv.parseOrder? QGen.C10.defaultProjOrder = some .eqIneq := by
  decide

/-- C10.gen_line_search_constants: the line search starts at `α = 1` and halves (`backtrack … 1`, factor `1/(1+1)` in the
model); `_is_doing_for_alpha` is `left_side > right_side`; the loop continues iff `value > eps`. -/
theorem gen_line_search_constants :
    QGen.C10.alphaStart = 1 ∧ QGen.C10.alphaFactor = 1 / (1 + 1) ∧
    (QGen.C10.armijoOp, QGen.C10.armijoLeft, QGen.C10.armijoRight) = ("Gt", "left_side", "right_side") ∧
    (QGen.C10.stopOp, QGen.C10.stopLeft, QGen.C10.stopRight, QGen.C10.stopThen, QGen.C10.stopElse)
      = ("Gt", "value", "eps", true, false) := by
  decide +kernel

/-- C10.gen_update_formulas: the update formulas of the three loops (direction, step, both sides of the line-search test, start
point, momentum / ζ / magnitude updates, FISTA extrapolation, window sum) read from the source are, verbatim, the formulas the
model functions transcribe; likewise the `error_value` expression of every mode in each of the three algorithms (the fourth mode
takes the norm of `y_prev` in the backtracking algorithm and of `x_next` in the other two). -/
theorem gen_update_formulas :
    QGen.C10.updateExprs = updateExprs ∧
    QGen.C10.errExprPgdb = StopMode.all.map (StopMode.errExpr "y_prev") ∧
    QGen.C10.errExprPgdm = StopMode.all.map (StopMode.errExpr "x_next") ∧
    QGen.C10.errExprFista = StopMode.all.map (StopMode.errExpr "x_next") ∧
    QGen.C10.stopModes.map StopMode.ofString? = StopMode.all.map some :=
  ⟨rfl, rfl, rfl, rfl, rfl⟩

/-- C10.gen_update_terms: the tie at the level of TERMS, not strings — the source expressions of the three loops, translated by
`c10_translate.py` into Lean definitions over the same scalar / vector classes, ARE the model functions: the backtracking
direction `pgdbDir`, the line-search test `isDoingForAlpha` (`left_side > right_side`), the momentum update and `ζ` update inside
`pgdmStep`, the FISTA extrapolation and projection `fistaStep` (with `kcoef k` for `(k − 2)/(k + 1)`, `c95` for `0.95`).  A drift
of a model function away from the source formula, or of the source away from the model, breaks this theorem. -/
theorem gen_update_terms {K V : Type} [Add V] [Sub V] [SMul K V] [Add K] [Sub K] [Mul K] [Div K] [Neg K] [Zero K] [One K] [LT K]
    [DecidableLT K] :
    (∀ (proj grad : V → V) (mu : K) (x : V), pgdbDir proj grad mu x = QGen.C10.yPrev proj grad mu x) ∧
    (∀ (f : V → K) (grad : V → V) (dot : V → V → K) (x y : V) (alpha gamma : K),
      isDoingForAlpha f grad dot x y alpha gamma
        = decide (QGen.C10.armijoRhs f grad dot x y alpha gamma < QGen.C10.armijoLhs f x y alpha)) ∧
    (∀ (proj grad : V → V) (mag : V → Int) (gamma c95 : K) (s : PgdmState K V),
      (pgdmStep proj grad mag gamma c95 s).moment
          = QGen.C10.momentNext grad (pgdmStep proj grad mag gamma c95 s).zeta gamma s.moment s.x ∧
        (pgdmStep proj grad mag gamma c95 s).x = QGen.C10.xNextPgdm proj s.x (pgdmStep proj grad mag gamma c95 s).moment ∧
        ((pgdmStep proj grad mag gamma c95 s).zeta = s.zeta ∨
          (pgdmStep proj grad mag gamma c95 s).zeta = QGen.C10.zetaNext s.zeta c95)) ∧
    (∀ (proj grad : V → V) (delta : K) (kcoef : Nat → K) (k : Nat) (x xpp : V),
      fistaStep proj grad delta kcoef k x xpp = QGen.C10.xNextFista proj (QGen.C10.fistaTmp grad kcoef delta k x xpp)) := by
  refine ⟨fun _ _ _ _ => rfl, fun _ _ _ _ _ _ _ => rfl, ?_, fun _ _ _ _ _ _ _ => rfl⟩
  intro proj grad mag gamma c95 s
  refine ⟨rfl, rfl, ?_⟩
  unfold pgdmStep
  by_cases h : mag s.x < s.magPrev
  · right; simp [h, QGen.C10.zetaNext]
  · left; simp [h]

/-- C10.gen_error_value_terms: the four `error_value` expressions of each loop, translated from the source into Lean terms, are what
`errorValue` computes in the four modes — with `y_prev` as the fourth mode's vector in the backtracking loop and `x_next` in the
momentum and FISTA loops (as `pgdbStep`, `pgdmLoop`, `fistaLoop` pass it). -/
theorem gen_error_value_terms {K V : Type} [Add V] [Sub V] [SMul K V] [Add K] [Sub K] [Mul K] [Div K] [Neg K] [Zero K] [One K]
    [LT K] [DecidableLT K] (f : V → K) (sqrt : K → K) (normSq : V → K) (x xn y : V) :
    StopMode.all.map (fun m => errorValue m f sqrt normSq x xn y) = QGen.C10.errPgdb f sqrt normSq x xn y ∧
    StopMode.all.map (fun m => errorValue m f sqrt normSq x xn xn) = QGen.C10.errPgdmFista f sqrt normSq x xn := by
  constructor <;> rfl

/-- the accepted step of `pgdbStep` is the source's `x_prev + alpha * y_prev` along the source's `y_prev` (generated terms) -/
theorem gen_pgdb_next_point {K V : Type} [Add V] [Sub V] [SMul K V] [Add K] [Sub K] [Mul K] [Div K] [Neg K] [Zero K] [One K] [LT K]
    [DecidableLT K] (proj : V → V) (f : V → K) (grad : V → V) (dot : V → V → K)
    (sqrt : K → K) (mu gamma : K) (mode : StopMode) (btFuel : Nat) (x : V) (it : PgdbIter K V)
    (h : pgdbStep proj f grad dot sqrt mu gamma mode btFuel x = some it) :
    it.xNext = QGen.C10.xNextPgdb x it.y it.alpha ∧ it.y = QGen.C10.yPrev proj grad mu x := by
  obtain ⟨_, hy, hxn, _⟩ := pgdbStep_spec h
  exact ⟨hxn, hy⟩

/-- C10.gen_option_checks: the conditions under which `is_option_sufficient` rejects an option object, read from the source, are
the ones `pgdbOptionSufficient` / `stepOptionSufficient` implement. -/
theorem gen_option_checks :
    QGen.C10.insufficientPgdb = insufficientPgdb ∧ QGen.C10.insufficientPgdm = insufficientStep "r" ∧
    QGen.C10.insufficientFista = insufficientStep "delta" :=
  ⟨rfl, rfl, rfl⟩

/-- C10.option_sufficient_gives_hypotheses: an option object that passes the validation of `calc_estimate_sequence` has
`gamma > 0`, `eps > 0` and, if given, `mu > 0` — the hypotheses `0 < γ`, `0 < μ` of the decrease / optimality theorems are what
the code itself enforces before `optimize` runs. -/
theorem option_sufficient_gives_hypotheses {K : Type} [Field K] [LinearOrder K] [IsStrictOrderedRing K] (mu gamma eps : Option K)
    (h : pgdbOptionSufficient true mu gamma eps = true) :
    (∃ g, gamma = some g ∧ 0 < g) ∧ (∃ e, eps = some e ∧ 0 < e) ∧ (∀ m, mu = some m → 0 < m) := by
  unfold pgdbOptionSufficient at h
  cases mu <;> cases gamma <;> cases eps <;> simp_all [not_le]

example : pgdbOptionSufficient true (none : Option Rat) (some (3 / 10)) (some (1 / 100)) = true := by decide +kernel
example : pgdbOptionSufficient true (some (0 : Rat)) (some (3 / 10)) (some (1 / 100)) = false := by decide +kernel

/-! ## projected linear estimator = physical projection ∘ linear estimate -/

/-- C10.ple_eq_proj_of_lin: every element of the projected-linear result is `to_var` of the physical projection, taken in the
estimator's projection order, of the corresponding linear estimate; nothing else enters. -/
theorem ple_eq_proj_of_lin {D O W : Type} (linear : List D → List O) (setOrder : Order → O → O) (projPhysical : O → O)
    (toVar : O → W) (order : Order) (seq : List D) :
    pleSequence linear setOrder projPhysical toVar order seq
      = (linear seq).map (toVar ∘ projPhysical ∘ setOrder order) ∧
    (pleSequence linear setOrder projPhysical toVar order seq).length = (linear seq).length := by
  constructor
  · rfl
  · simp [pleSequence]

/-- C10.ple_pointwise: when the linear estimator treats the data sets one by one (C09 `estSeq_pointwise`), so does the
projected one: the `i`-th estimate depends on the `i`-th data set only. -/
theorem ple_pointwise {D O W : Type} (lin1 : D → O) (setOrder : Order → O → O) (projPhysical : O → O)
    (toVar : O → W) (order : Order) (seq : List D) :
    pleSequence (List.map lin1) setOrder projPhysical toVar order seq
      = seq.map fun d => toVar (projPhysical (setOrder order (lin1 d))) := by
  simp [pleSequence, List.map_map, Function.comp_def]

example : pleSequence (List.map (· + 1)) (fun _ x => x) (fun x : Nat => 2 * x) (fun x => x) .eqIneq [1, 2, 3]
    = [4, 6, 8] := by decide

/-! ## loss-minimisation estimator: every returned estimate comes from the selected projection, through the glue as coded -/

theorem lmeLoop_spec {D R W : Type} {si : SettingInfo} {opt : AlgoOpt} {checks : D → Checks}
    {optimize : ProjSel → D → Bool → R} {value : R → W} {timeReq : Bool} :
    ∀ (seq : List D) (cur : Option ProjSel) (ws : List W) (rs : List R) (res : List W × List R × Option ProjSel),
      lmeLoop si opt checks optimize value timeReq seq cur ws rs = .ok res →
      res.1 = ws ++ seq.map (fun d => value (optimize (setConstraint cur si opt) d timeReq)) ∧
      res.2.1 = rs ++ seq.map (fun d => optimize (setConstraint cur si opt) d timeReq) ∧
      (∀ d ∈ seq, (checks d).lossOptionOk = true ∧ (checks d).algoLossOk = true ∧ (checks d).algoOptionOk = true ∧
        (checks d).algoLossOptionOk = true) := by
  intro seq
  induction seq with
  | nil =>
    intro cur ws rs res h
    cases h
    simp
  | cons d ds ih =>
    intro cur ws rs res h
    -- past the four validations the loop goes on with the selected projection installed and one estimate, one run appended
    unfold lmeLoop at h
    dsimp only at h
    split_ifs at h with h1 h2 h3 h4
    simp only [beq_iff_eq, Bool.not_eq_false] at h1 h2 h3 h4
    obtain ⟨e1, e2, e3⟩ := ih _ _ _ res h
    rw [selection_keeps_installed, List.append_assoc] at e1 e2
    exact ⟨e1, e2, List.forall_mem_cons.2 ⟨⟨h1, h2, h3, h4⟩, e3⟩⟩

/-- C10.lme_estimates_from_selected_projection: when `LossMinimizationEstimator.calc_estimate_sequence` returns, the `i`-th
entry of `estimated_var_sequence` is the value of `optimize` run on the `i`-th data set with the projection selected by the
FIRST `set_constraint_from_standard_qt_and_option` call (`setConstraint cur si opt`; later calls keep it — D10), with
`on_iteration_history = is_computation_time_required`; one estimate per data set, in order; computation times are present iff
requested, detailed results iff requested; all four validations passed for every data set. -/
theorem lme_estimates_from_selected_projection {D R W : Type} (si : SettingInfo) (opt : AlgoOpt) (checks : D → Checks)
    (optimize : ProjSel → D → Bool → R) (value : R → W) (timeReq detReq : Bool) (cur : Option ProjSel) (seq : List D)
    (r : LmeResult W R) (h : lmeSequence si opt checks optimize value timeReq detReq cur seq = .ok r) :
    r.vars = seq.map (fun d => value (optimize (setConstraint cur si opt) d timeReq)) ∧ r.vars.length = seq.length ∧
    r.timed.isSome = timeReq ∧ r.detailed.isSome = detReq ∧
    (∀ d ∈ seq, (checks d).lossOptionOk = true ∧ (checks d).algoLossOk = true ∧ (checks d).algoOptionOk = true ∧
      (checks d).algoLossOptionOk = true) := by
  unfold lmeSequence at h
  cases hl : lmeLoop si opt checks optimize value timeReq seq cur [] [] with
  | error e => simp [hl] at h
  | ok res =>
    obtain ⟨ws, rs, c⟩ := res
    simp only [hl, Except.ok.injEq] at h
    obtain ⟨e1, _, e3⟩ := lmeLoop_spec seq cur [] [] _ hl
    subst h
    simp only [List.nil_append] at e1
    refine ⟨e1, by rw [e1]; simp, ?_, ?_, e3⟩ <;> cases timeReq <;> cases detReq <;> simp

/-- C10.lme_estimates_satisfy_projection_invariant: hence any property `Q sel w` that every `optimize` result has with respect to
the projection `sel` it was given (e.g. "is an output of `sel`" for momentum / FISTA — `pgdm_result_is_projection`,
`fista_result_is_projection`; "lies in the convex set `sel` maps into" for backtracking — `pgdb_estimate_feasible`) holds for
every returned estimate and for `estimated_var`, with `sel` the selected projection. -/
theorem lme_estimates_satisfy_projection_invariant {D R W : Type} (si : SettingInfo) (opt : AlgoOpt) (checks : D → Checks)
    (optimize : ProjSel → D → Bool → R) (value : R → W) (timeReq detReq : Bool) (cur : Option ProjSel) (seq : List D)
    (Q : ProjSel → W → Prop) (hopt : ∀ sel d b, Q sel (value (optimize sel d b)))
    (r : LmeResult W R) (h : lmeSequence si opt checks optimize value timeReq detReq cur seq = .ok r) :
    (∀ w ∈ r.vars, Q (setConstraint cur si opt) w) ∧ (∀ w, r.estimatedVar = some w → Q (setConstraint cur si opt) w) := by
  obtain ⟨e1, _⟩ := lme_estimates_from_selected_projection si opt checks optimize value timeReq detReq cur seq r h
  have hall : ∀ w ∈ r.vars, Q (setConstraint cur si opt) w := by
    intro w hw
    rw [e1] at hw
    obtain ⟨d, _, rfl⟩ := List.mem_map.1 hw
    exact hopt _ d timeReq
  refine ⟨hall, fun w hw => hall w ?_⟩
  unfold LmeResult.estimatedVar at hw
  exact List.mem_of_mem_head? hw

/-- C10.lme_validation_first_failure: the first failing validation of the first data set decides the exception, in source order. -/
theorem lme_validation_first_failure {D R W : Type} (si : SettingInfo) (opt : AlgoOpt) (checks : D → Checks)
    (optimize : ProjSel → D → Bool → R) (value : R → W) (timeReq detReq : Bool) (cur : Option ProjSel) (d : D) (ds : List D) :
    ((checks d).lossOptionOk = false →
      lmeSequence si opt checks optimize value timeReq detReq cur (d :: ds) = .error .lossOption) ∧
    ((checks d).lossOptionOk = true → (checks d).algoLossOk = false →
      lmeSequence si opt checks optimize value timeReq detReq cur (d :: ds) = .error .algoLoss) ∧
    ((checks d).lossOptionOk = true → (checks d).algoLossOk = true → (checks d).algoOptionOk = false →
      lmeSequence si opt checks optimize value timeReq detReq cur (d :: ds) = .error .algoOption) ∧
    ((checks d).lossOptionOk = true → (checks d).algoLossOk = true → (checks d).algoOptionOk = true →
      (checks d).algoLossOptionOk = false →
      lmeSequence si opt checks optimize value timeReq detReq cur (d :: ds) = .error .algoLossOption) := by
  refine ⟨?_, ?_, ?_, ?_⟩ <;> intros <;> simp_all [lmeSequence, lmeLoop]

example : (lmeSequence ⟨true, .eqIneq⟩ ⟨true, true, .ineqEq, some 5⟩ (fun _ : Nat => ⟨true, true, true, true⟩)
    (fun sel d b => (sel.factoryName, d, b)) (fun r => r.2.1) true false none [7, 8]).toOption.map (·.vars) = some [7, 8] := by
  decide

/-- C10.gen_estimator_glue: read from the source on every run — the data loop of `LossMinimizationEstimator.calc_estimate_sequence`
configures the loss, then the algorithm (`set_from_option`, `set_constraint_from_standard_qt_and_option`, `set_from_loss`),
validates in the order of `EstErr`, calls `optimize` with `on_iteration_history=is_computation_time_required` and appends
`algo_result.value`; `ProjectedLinearEstimator.calc_estimate_sequence` takes the linear estimator's
`estimated_qoperation_sequence`, and on each element calls `set_mode_proj_order(self.mode_proj_order)` then
`calc_proj_physical(...)` and appends its `to_var()` — exactly what `lmeLoop` and `pleSequence` transcribe. -/
theorem gen_estimator_glue :
    QGen.C10.lmeSetupCalls = lmeSetupCalls ∧
    QGen.C10.lmeValidationOrder = [EstErr.lossOption, .algoLoss, .algoOption, .algoLossOption].map EstErr.sourceCall ∧
    QGen.C10.lmeOptimizeCall = lmeOptimizeCall ∧ QGen.C10.lmeAppended = "algo_result.value" ∧
    QGen.C10.pleSource = ["super().calc_estimate_sequence(qtomography, empi_dists_sequence, is_computation_time_required)",
      "result.estimated_qoperation_sequence"] ∧
    QGen.C10.pleLoopCalls = pleLoopCalls ∧ QGen.C10.pleAppended = ["proj_estimate[0].to_var()", "proj_estimate.to_var()"] :=
  ⟨rfl, rfl, rfl, rfl, rfl, rfl, rfl⟩

/-! ## physical projection: what the stopping threshold guarantees -/

section dykstra
variable {K V : Type} [Field K] [LinearOrder K] [IsStrictOrderedRing K] [AddCommGroup V]

/-- C10.dyk_stop_accuracy: whenever the loop runs (iteration limit ≥ 1) the returned point `x` is an output of the projection
applied last in a sweep, whether or not the loop hit its iteration limit; if the loop ended on its stopping criterion (value
`< eps`), `x` is within `√eps` of an output `y` of the projection applied first: `‖x − y‖² < eps`.  Hence with `eq_ineq` the
result satisfies the inequality constraint as well as the inequality projection does and is `√eps`-close to the equality set,
and vice versa for `ineq_eq`: "physical to the accuracy of the stopping threshold". -/
theorem dyk_stop_accuracy (P1 P2 : V → V) (normSq : V → K) (hn : ∀ v, 0 ≤ normSq v) (eps : K) (fuel k : Nat)
    (s : DykState V) (hf : 0 < fuel) :
    (∃ z, (dykLoop P1 P2 normSq eps fuel k s).1.x = P2 z) ∧
      ((dykLoop P1 P2 normSq eps fuel k s).2 = true →
        ∃ z, normSq ((dykLoop P1 P2 normSq eps fuel k s).1.x - P1 z) < eps) := by
  obtain ⟨s0, _, h, hv⟩ := dykLoop_rule P1 P2 normSq eps (fun _ => True) (fun _ _ => trivial) fuel k s hf trivial
  rw [h]
  refine ⟨⟨_, rfl⟩, fun hstop => ⟨s0.x + s0.p, ?_⟩⟩
  -- the stopping value is `‖Δp‖² + ‖Δq‖²`, and `Δq = x − y` with `y` the output of the first projection in the last sweep
  have hv := hv hstop
  rw [brValue, dykSweep_q_diff] at hv
  exact lt_of_le_of_lt (le_add_of_nonneg_left (hn _)) hv

/-- `calc_proj_physical_with_var` is the Dykstra loop from `(x₀, 0, 0)` with the projection named first in `order` applied first -/
theorem projPhysical_def (projEq projIneq : V → V) (order : Order) (normSq : V → K) (eps : K) (maxIter : Nat)
    (zero x0 : V) :
    projPhysical projEq projIneq order normSq eps maxIter zero x0 =
      if maxIter = 0 then none else
        let r := dykLoop (match order with | .eqIneq => projEq | .ineqEq => projIneq)
          (match order with | .eqIneq => projIneq | .ineqEq => projEq) normSq eps maxIter 0 ⟨x0, zero, zero, x0⟩
        some (r.1.x, r.2) := by
  cases order <;> rfl

/-- C10.proj_physical_accuracy: the same for `calc_proj_physical_with_var` as called by the estimators, for both
projection orders: the returned point is an output of the projection named last in the order, and, when the loop ended on
its criterion, is `√eps`-close to an output of the projection named first. -/
theorem proj_physical_accuracy (projEq projIneq : V → V) (order : Order) (normSq : V → K) (hn : ∀ v, 0 ≤ normSq v)
    (eps : K) (maxIter : Nat) (zero x0 x : V) (stopped : Bool)
    (h : projPhysical projEq projIneq order normSq eps maxIter zero x0 = some (x, stopped)) :
    let Pfirst := match order with | .eqIneq => projEq | .ineqEq => projIneq
    let Plast := match order with | .eqIneq => projIneq | .ineqEq => projEq
    (∃ z, x = Plast z) ∧ (stopped = true → ∃ z, normSq (x - Pfirst z) < eps) := by
  rw [projPhysical_def] at h
  split_ifs at h with hm
  obtain ⟨rfl, rfl⟩ := Prod.mk.inj (Option.some.inj h)
  exact dyk_stop_accuracy _ _ normSq hn eps maxIter 0 _ (Nat.pos_of_ne_zero hm)

end dykstra

/-! ### Dykstra: the invariant, and why a stationary sweep returns THE nearest physical point -/

/-- C10.dyk_sum_invariant: every sweep, hence the whole loop, preserves `x + p + q` — for the call made by the estimators
(`p = q = 0` initially) the returned state satisfies `x + p + q = x₀`. -/
theorem dyk_sum_invariant {K V : Type} [AddCommGroup V] [Add K] [LT K] [DecidableLT K] (P1 P2 : V → V) (normSq : V → K) (eps : K) :
    ∀ (fuel k : Nat) (s : DykState V),
      (dykLoop P1 P2 normSq eps fuel k s).1.x + (dykLoop P1 P2 normSq eps fuel k s).1.p + (dykLoop P1 P2 normSq eps fuel k s).1.q
        = s.x + s.p + s.q := by
  intro fuel k s
  cases fuel with
  | zero => rfl
  | succ f =>
    obtain ⟨s0, hI, h, _⟩ := dykLoop_rule P1 P2 normSq eps (fun s' => s'.x + s'.p + s'.q = s.x + s.p + s.q)
      (fun s' hs' => (dykSweep_sum P1 P2 s').trans hs') (f + 1) k s (Nat.succ_pos f) rfl
    rw [h]
    exact (dykSweep_sum P1 P2 s0).trans hI

section nearest
open scoped RealInnerProductSpace
variable {E : Type} [NormedAddCommGroup E] [InnerProductSpace ℝ E]

/-- C10.dyk_stationary_is_nearest: "the projected linear estimate is precisely the physical projection of the linear estimate", at
a stationary state of the iteration.  If the two elementary projections are the metric projections onto `A` and `B` (variational
inequality), the state satisfies the invariant `x + p + q = x₀` and a sweep leaves `x`, `p`, `q` unchanged, then `x ∈ A ∩ B` and
`⟪x₀ − x, z − x⟫ ≤ 0` for every `z ∈ A ∩ B`: `x` is the nearest point of the physical set to `x₀`, for either projection order.
(That the loop reaches a stationary state — Boyle–Dykstra convergence — is not proved; the distance of the stopped iterate from
the stationary one is measured by the oracle's independent reference.) -/
theorem dyk_stationary_is_nearest {A B : Set E} (P1 P2 : E → E)
    (h1 : ∀ z, P1 z ∈ A ∧ ∀ w ∈ A, ⟪z - P1 z, w - P1 z⟫ ≤ 0) (h2 : ∀ z, P2 z ∈ B ∧ ∀ w ∈ B, ⟪z - P2 z, w - P2 z⟫ ≤ 0)
    (x0 : E) (s : DykState E) (hinv : s.x + s.p + s.q = x0)
    (hfix : (dykSweep P1 P2 s).x = s.x ∧ (dykSweep P1 P2 s).p = s.p ∧ (dykSweep P1 P2 s).q = s.q) :
    s.x ∈ A ∧ s.x ∈ B ∧ ∀ z, z ∈ A → z ∈ B → ⟪x0 - s.x, z - s.x⟫ ≤ 0 := by
  obtain ⟨hx, hp, _⟩ := hfix
  simp only [dykSweep] at hx hp
  have hy : P1 (s.x + s.p) = s.x := (add_right_cancel (sub_eq_iff_eq_add'.1 hp)).symm
  have hx2 : P2 (s.x + s.q) = s.x := by rw [hy] at hx; exact hx
  have hA := h1 (s.x + s.p)
  have hB := h2 (s.x + s.q)
  rw [hy] at hA
  rw [hx2] at hB
  refine ⟨hA.1, hB.1, fun z hzA hzB => ?_⟩
  have e : x0 - s.x = (s.x + s.p - s.x) + (s.x + s.q - s.x) := by rw [← hinv]; abel
  rw [e, inner_add_left]
  exact add_nonpos (hA.2 z hzA) (hB.2 z hzB)

/-- C10.dyk_zero_value_is_stationary: a vanishing stopping value (`‖Δp‖² + ‖Δq‖² = 0`) means the sweep left `p`, `q` and `x`
unchanged — so a run that stops with value `0` returns the nearest physical point (`dyk_stationary_is_nearest`). -/
theorem dyk_zero_value_is_stationary (P1 P2 : E → E) (s : DykState E)
    (h0 : brValue (fun v : E => ‖v‖ ^ 2) s (dykSweep P1 P2 s) = 0) :
    (dykSweep P1 P2 s).x = s.x ∧ (dykSweep P1 P2 s).p = s.p ∧ (dykSweep P1 P2 s).q = s.q := by
  obtain ⟨hp0, hq0⟩ := (add_eq_zero_iff_of_nonneg (sq_nonneg _) (sq_nonneg _)).1 h0
  have hz : ∀ v w : E, ‖v - w‖ ^ 2 = 0 → w = v := fun v w h =>
    (sub_eq_zero.1 (norm_eq_zero.1 ((pow_eq_zero_iff two_ne_zero).1 h))).symm
  have hp := hz _ _ hp0
  have hq := hz _ _ hq0
  -- `x` follows from the invariant `x + p + q`
  have hsum := dykSweep_sum P1 P2 s
  rw [hp, hq] at hsum
  exact ⟨add_right_cancel (add_right_cancel hsum), hp, hq⟩

end nearest

/-- a stationary state with non-zero increments: `E = ℝ`, `A = {1}` (`P1 ≡ 1`), `B = [0, ∞)`, `x₀ = 3`: state `x = 1, p = 2, q = 0` -/
example : (dykSweep (fun _ : Rat => 1) (fun z => max z 0) ⟨1, 2, 0, 1⟩).x = 1 ∧
    (dykSweep (fun _ : Rat => 1) (fun z => max z 0) ⟨1, 2, 0, 1⟩).p = 2 ∧
    (dykSweep (fun _ : Rat => 1) (fun z => max z 0) ⟨1, 2, 0, 1⟩).q = 0 := by
  decide +kernel

/-- the stopping case of `dyk_stop_accuracy` occurs: on `ℚ` with the sets `{1}` (projection `fun _ => 1`) and
`[0, ∞)` (projection `max · 0`), start `3`: the loop ends on its criterion, not on the limit of 5 sweeps. -/
example : (dykLoop (K := Rat) (V := Rat) (fun _ => 1) (fun z => max z 0) (fun v => v * v) (1 / 1000) 5 0 ⟨3, 0, 0, 3⟩).2
    = true := by
  decide +kernel

/-! ## backtracking projected gradient: every iterate is feasible -/

section pgdb
variable {K V : Type} [Field K] [LinearOrder K] [IsStrictOrderedRing K] [AddCommGroup V] [Module K V] {C : Set V} {proj : V → V}
  {f : V → K} {grad : V → V} {dot : V → V → K} {sqrt : K → K} {mu gamma eps : K} {mode : StopMode} {numHist btFuel maxIter : Nat}

/-- C10.pgdb_step_feasible: one iteration.  If the current point is in the convex set `C` and the installed projection maps
into `C`, then the accepted step size is in `(0,1]`, it passed the sufficient-decrease test as coded, and the next point
`x + α (proj(x − ∇f(x)/μ) − x)` is in `C`. -/
theorem pgdb_step_feasible (hC : Convex K C) (hproj : ∀ z, proj z ∈ C) {x : V} (hx : x ∈ C) {it : PgdbIter K V}
    (h : pgdbStep proj f grad dot sqrt mu gamma mode btFuel x = some it) :
    it.xNext ∈ C ∧ 0 < it.alpha ∧ it.alpha ≤ 1 ∧ it.y = pgdbDir proj grad mu x ∧
      it.xNext = x + it.alpha • it.y ∧ isDoingForAlpha f grad dot x it.y it.alpha gamma = false := by
  obtain ⟨hb, hy, hxn, _⟩ := pgdbStep_spec h
  obtain ⟨h0, h1, hacc, _⟩ := backtrack_range f grad dot x _ gamma btFuel 1 it.alpha one_pos le_rfl hb
  refine ⟨?_, h0, h1, hy, hxn, by rw [hy]; exact hacc⟩
  rw [hxn, hy]
  exact hC.add_smul_sub_mem hx (hproj _) ⟨h0.le, h1⟩

/-- C10.pgdb_iterates_feasible: induction over the loop — for every iteration limit, stopping mode, history window and
threshold, every point the loop visits (hence every entry of the recorded history `x` and the returned estimate) lies in `C`,
provided the start point does. -/
theorem pgdb_iterates_feasible {C : Set V} (hC : Convex K C) (proj : V → V) (hproj : ∀ z, proj z ∈ C)
    (f : V → K) (grad : V → V) (dot : V → V → K) (sqrt : K → K) (mu gamma eps : K) (mode : StopMode)
    (numHist btFuel : Nat) :
    ∀ (fuel : Nat) (x : V) (errs : List K) (xs : List V) (res : List V × List K), x ∈ C → (∀ v ∈ xs, v ∈ C) →
      pgdbLoop proj f grad dot sqrt mu gamma eps mode numHist btFuel fuel x errs xs = some res →
      ∀ v ∈ res.1, v ∈ C := by
  intro fuel x errs xs res hx hxs h
  obtain ⟨_, _, hall⟩ := pgdbLoop_invariant (fun x _ xs => x ∈ C ∧ ∀ v ∈ xs, v ∈ C)
    (fun x _ xs it hI hs =>
      have hit := (pgdb_step_feasible hC hproj hI.1 hs).1
      ⟨hit, List.forall_mem_cons.2 ⟨hit, hI.2⟩⟩) ⟨hx, hxs⟩ h
  exact hall

/-- C10.pgdb_estimate_feasible: the value returned by `optimize` and its whole iterate history are in `C` when the start point
is (the origin object of the estimation template is physical — C01/C17; a user-supplied `var_start` is the caller's
obligation). -/
theorem pgdb_estimate_feasible (hC : Convex K C) (hproj : ∀ z, proj z ∈ C) {xStart : V} (hs : xStart ∈ C) {x : V}
    {hist : List V} {errs : List K}
    (h : pgdbOptimize proj f grad dot sqrt mu gamma eps mode numHist btFuel maxIter xStart = some (x, hist, errs)) :
    x ∈ C ∧ ∀ v ∈ hist, v ∈ C := by
  obtain ⟨xs, rfl, hl⟩ := pgdbOptimize_eq_some h
  have hall := pgdb_iterates_feasible hC proj hproj f grad dot sqrt mu gamma eps mode numHist btFuel maxIter
    xStart [] [xStart] _ hs (List.forall_mem_singleton.2 hs) hl
  exact ⟨hall _ (List.mem_cons_self ..), hall⟩

end pgdb

/-- C10.pgdb_estimate_approx_feasible: the same with an *inexact* projection: if every projection output is within `δ` of the
convex set `C` (an assumption on the distance to `C` itself — for the physical set, an intersection, it is NOT what
`proj_physical_accuracy` delivers; see `pgdb_estimate_physical_to_threshold` for that) and the start
point is too, then every iterate and the returned estimate are within `δ` of `C` — the error does not accumulate over the
iterations.  (`V` a real normed space; `Metric.cthickening δ C = {x | dist(x, C) ≤ δ}`.) -/
theorem pgdb_estimate_approx_feasible {V : Type} [SeminormedAddCommGroup V] [NormedSpace ℝ V] {C : Set V} (hC : Convex ℝ C)
    (delta : ℝ) (proj : V → V) (hproj : ∀ z, proj z ∈ Metric.cthickening delta C)
    (f : V → ℝ) (grad : V → V) (dot : V → V → ℝ) (sqrt : ℝ → ℝ) (mu gamma eps : ℝ) (mode : StopMode)
    (numHist btFuel maxIter : Nat) (xStart : V) (hs : xStart ∈ Metric.cthickening delta C) (x : V) (hist : List V)
    (errs : List ℝ)
    (h : pgdbOptimize proj f grad dot sqrt mu gamma eps mode numHist btFuel maxIter xStart = some (x, hist, errs)) :
    x ∈ Metric.cthickening delta C ∧ ∀ v ∈ hist, v ∈ Metric.cthickening delta C :=
  pgdb_estimate_feasible (hC.cthickening delta) hproj hs h

/-- C10.proj_physical_lands_in_threshold_set: what a physical projection that stopped on its criterion delivers, as a SET
statement: if the two elementary projections map into `Ceq` / `Cineq`, the result lies in the set of the projection applied last
and in the closed `δ`-thickening, `δ² ≥ eps`, of the set of the projection applied first (`normSq = ‖·‖²`).  (Nothing is claimed about the
distance to the intersection `Ceq ∩ Cineq` — that would need a regularity constant of the pair of sets.) -/
theorem proj_physical_lands_in_threshold_set {V : Type} [SeminormedAddCommGroup V] [NormedSpace ℝ V] {Ceq Cineq : Set V}
    (projEq projIneq : V → V) (hE : ∀ z, projEq z ∈ Ceq) (hI : ∀ z, projIneq z ∈ Cineq) (order : Order) (eps delta : ℝ)
    (hdelta : 0 ≤ delta) (heps : eps ≤ delta ^ 2) (maxIter : Nat) (zero x0 x : V)
    (h : projPhysical projEq projIneq order (fun v => ‖v‖ ^ 2) eps maxIter zero x0 = some (x, true)) :
    x ∈ (match order with | .eqIneq => Cineq | .ineqEq => Ceq) ∩
      Metric.cthickening delta (match order with | .eqIneq => Ceq | .ineqEq => Cineq) := by
  obtain ⟨⟨z, hz⟩, hclose⟩ := proj_physical_accuracy projEq projIneq order (fun v => ‖v‖ ^ 2) (fun v => sq_nonneg ‖v‖) eps
    maxIter zero x0 x true h
  obtain ⟨w, hw⟩ := hclose rfl
  -- `‖x − P w‖² < eps ≤ δ²` puts `x` within `δ` of the output `P w` of the projection applied first
  have hd := (pow_le_pow_iff_left₀ (norm_nonneg _) hdelta two_ne_zero).1 (hw.le.trans heps)
  rw [← dist_eq_norm] at hd
  cases order
  · exact ⟨hz ▸ hI z, Metric.mem_cthickening_of_dist_le x _ _ _ (hE w) hd⟩
  · exact ⟨hz ▸ hE z, Metric.mem_cthickening_of_dist_le x _ _ _ (hI w) hd⟩

/-- C10.pgdb_estimate_physical_to_threshold: "physical to the accuracy of the stopping threshold" for the backtracking estimate:
with `A` the (convex) set of the projection applied last and `B` that of the projection applied first, the set
`A ∩ cthickening δ B` is convex; if the installed projection maps into it (which `proj_physical_lands_in_threshold_set` gives,
with `δ² = eps_proj_physical`, for every call that stopped on its criterion) and the start point lies in it, then every iterate
and the returned estimate lie in `A` exactly and within `δ` of `B`.  This — not `pgdb_estimate_approx_feasible`, whose
hypothesis speaks about the distance to the intersection — is what the Dykstra stop accuracy implies. -/
theorem pgdb_estimate_physical_to_threshold {V : Type} [SeminormedAddCommGroup V] [NormedSpace ℝ V] {A B : Set V}
    (hA : Convex ℝ A) (hB : Convex ℝ B) (delta : ℝ) (proj : V → V) (hproj : ∀ z, proj z ∈ A ∩ Metric.cthickening delta B)
    (f : V → ℝ) (grad : V → V) (dot : V → V → ℝ) (sqrt : ℝ → ℝ) (mu gamma eps : ℝ) (mode : StopMode)
    (numHist btFuel maxIter : Nat) (xStart : V) (hs : xStart ∈ A ∩ Metric.cthickening delta B) (x : V) (hist : List V)
    (errs : List ℝ)
    (h : pgdbOptimize proj f grad dot sqrt mu gamma eps mode numHist btFuel maxIter xStart = some (x, hist, errs)) :
    (x ∈ A ∧ x ∈ Metric.cthickening delta B) ∧ ∀ v ∈ hist, v ∈ A ∧ v ∈ Metric.cthickening delta B :=
  pgdb_estimate_feasible (hA.inter (hB.cthickening delta)) hproj hs h

/-- an inexact projection in the sense of the theorem: `ℝ`, `A = [−1, ∞)`, `B = [0, ∞)`, `δ = 1`, `proj z = max z 0 − 1/2` -/
example : ∀ z : ℝ, (fun z => max z 0 - 1 / 2) z ∈ Set.Ici (-1 : ℝ) ∩ Metric.cthickening 1 (Set.Ici (0 : ℝ)) := by
  intro z
  refine ⟨?_, Metric.mem_cthickening_of_dist_le _ (max z 0) _ _ (Set.mem_Ici.2 (le_max_right _ _)) ?_⟩
  · show (-1 : ℝ) ≤ max z 0 - 1 / 2
    have := le_max_right z 0; linarith
  · rw [Real.dist_eq]; norm_num [abs_le]

/-- the hypotheses are satisfiable and the loop really moves: on `ℚ` with `C = [0, ∞)`, `proj = max 0`,
`f x = (x + 1)²`, start `1`: the run visits more than the start point. -/
example : (pgdbOptimize (K := Rat) (V := Rat) (fun z => max z 0) (fun x => (x + 1) * (x + 1)) (fun x => 2 * (x + 1))
    (fun a b => a * b) (fun v => v) 1 (3 / 10) (1 / 100) .singleDiffLoss 1 50 20 1).map (fun r => (r.1, r.2.1.length))
    = some (0, 3) := by
  decide +kernel

/-! ## exact data: the true object minimises the loss and is a fixed point of the backtracking iteration -/

/-- C10.exact_data_minimiser (squared-error loss as executed by the driver, `f x = ‖A x + c‖²`, `c = b − q`): if the data are the
exact distributions of the object with parameter `xTrue` (`A xTrue + b = q`, i.e. the residual vanishes), then `xTrue` attains
the global minimum `0` of the loss; in particular no physical point has a smaller loss. -/
theorem exact_data_minimiser {m n : Nat} (A : Mat Rat m n) (c : Vec Rat m) (xTrue : Vec Rat n)
    (hexact : ∀ i, ((A.mulVec xTrue).add c).get i = 0) (x : Vec Rat n) :
    Drv.seValue A c xTrue = 0 ∧ Drv.seValue A c xTrue ≤ Drv.seValue A c x := by
  have h0 : Drv.seValue A c xTrue = 0 := Drv.dot_eq_zero_of_left hexact _
  exact ⟨h0, by rw [h0]; exact Drv.seValue_nonneg A c x⟩

/-- C10.weighted_exact_data_minimiser: the same for every weighted squared error with a positive-semidefinite weight matrix `W`
(all `mode_weight` option sets of the squared-error family whose weights are PSD): under exact data the true parameter attains
the global minimum `0`. -/
theorem weighted_exact_data_minimiser {m n : Nat} (A : Mat Rat m n) (c : Vec Rat m) (W : Mat Rat m m)
    (hW : ∀ v : Vec Rat m, 0 ≤ v.dot (W.mulVec v)) (xTrue : Vec Rat n)
    (hexact : ∀ i, ((A.mulVec xTrue).add c).get i = 0) (x : Vec Rat n) :
    Drv.wseValue A c W xTrue = 0 ∧ Drv.wseValue A c W xTrue ≤ Drv.wseValue A c W x := by
  have h0 : Drv.wseValue A c W xTrue = 0 := Drv.dot_eq_zero_of_left hexact _
  exact ⟨h0, by rw [h0]; exact hW _⟩

/-- a PSD, non-identity weight and non-trivial data: `W = diag(2, 1/2)`, `A = 1`, exact data of `xTrue = (1, 2)` -/
example : Drv.wseValue (Mat.one : Mat Rat 2 2) (Vec.ofFn ![(-1 : Rat), -2]) (Mat.ofFn ![![2, 0], ![0, 1 / 2]]) (Vec.ofFn ![1, 2]) = 0 ∧
    Drv.wseValue (Mat.one : Mat Rat 2 2) (Vec.ofFn ![(-1 : Rat), -2]) (Mat.ofFn ![![2, 0], ![0, 1 / 2]]) (Vec.ofFn ![0, 0]) = 4 := by
  decide +kernel

section fixed
variable {K V : Type} [Field K] [LinearOrder K] [IsStrictOrderedRing K] [AddCommGroup V] [Module K V]

/-- C10.pgdb_truth_is_fixed_partial: at a point where the loss gradient vanishes (the true object under exact data) and which
the installed projection leaves unchanged (a physical point), one backtracking iteration has direction `0`, accepts `α = 1` and
returns the same point, with the error value of a null step (`0` in the two loss-difference modes by definition).  *Partial*:
that the iteration started at the origin object reaches a neighbourhood of this fixed point within the stopping accuracy is not
proved (no rate theorem); on the unchanged tree it does not for POVM / measurement-process tomography with
`on_para_eq_constraint=True` (finding D13). -/
theorem pgdb_truth_is_fixed_partial (proj : V → V) (f : V → K) (grad : V → V) (dot : V → V → K) (sqrt : K → K)
    (mu gamma : K) (mode : StopMode) (btFuel : Nat) (x : V) (hg : grad x = 0) (hp : proj x = x)
    (hdot : ∀ v, dot 0 v = 0) :
    pgdbStep proj f grad dot sqrt mu gamma mode (btFuel + 1) x
      = some ⟨0, 1, x, errorValue mode f sqrt (fun v => dot v v) x x 0⟩ := by
  have hy : pgdbDir proj grad mu x = 0 := by
    unfold pgdbDir; rw [hg, smul_zero, sub_zero, hp, sub_self]
  have hx1 : x + (1 : K) • (0 : V) = x := by rw [smul_zero, add_zero]
  have hacc : isDoingForAlpha f grad dot x (0 : V) (1 : K) gamma = false := by
    unfold isDoingForAlpha
    rw [hx1, hdot, mul_zero, add_zero]
    exact decide_eq_false (lt_irrefl _)
  unfold pgdbStep
  rw [hy]
  simp only [backtrack, hacc, Bool.false_eq_true, if_false]
  rw [hx1]

/-- C10.pgdb_run_from_stationary_point: the whole `optimize` run (every stopping mode, any window, any threshold `eps ≥ 0`, any
iteration limit ≥ 1; window `≥ 1` as the option constructor enforces) started at a point with vanishing loss gradient that the installed projection fixes — the true object
under exact data, handed in as `var_start` — performs exactly one iteration and returns that point: history `[x, x]`, error
values `[0]`.  (Strictly more of the code path than `pgdb_truth_is_fixed_partial`: line search, error value of all four modes,
window sum, stopping test and loop exit.) -/
theorem pgdb_run_from_stationary_point (proj : V → V) (f : V → K) (grad : V → V) (dot : V → V → K) (sqrt : K → K)
    (mu gamma eps : K) (heps : 0 ≤ eps) (mode : StopMode) (numHist btFuel maxIter : Nat) (_hn : 1 ≤ numHist) (x : V) (hg : grad x = 0)
    (hp : proj x = x) (hdot : ∀ v, dot 0 v = 0) (hsqrt : sqrt 0 = 0) :
    pgdbOptimize proj f grad dot sqrt mu gamma eps mode numHist (btFuel + 1) (maxIter + 1) x = some (x, [x, x], [0]) := by
  have hstep := pgdb_truth_is_fixed_partial proj f grad dot sqrt mu gamma mode btFuel x hg hp hdot
  have herr : errorValue mode f sqrt (fun v => dot v v) x x 0 = 0 := by cases mode <;> simp [errorValue, hdot, hsqrt]
  have hstop : isDoing [(0 : K)] numHist eps = false := by
    have : windowSum [(0 : K)] numHist = 0 := by cases numHist <;> simp [windowSum, lsum]
    rw [isDoing, this, decide_eq_false_iff_not, not_lt]
    exact heps
  simp [pgdbOptimize, pgdbLoop, hstep, herr, hstop]

example : pgdbOptimize (K := Rat) (V := Rat) (fun z => max z 0) (fun x => x * x) (fun x => 2 * x) (fun a b => a * b) (fun v => v)
    1 (3 / 10) (1 / 100) .sumAbsDiffVar 2 5 9 0 = some (0, [0, 0], [0]) := by
  decide +kernel

end fixed

/-! ## momentum and FISTA: the returned point is a projection output -/

section momentum
variable {K V : Type} [Field K] [LinearOrder K] [IsStrictOrderedRing K] [AddCommGroup V] [Module K V]

/-- C10.pgdm_result_is_projection: for every iteration limit ≥ 1 the point returned by the momentum algorithm is
`func_proj(·)` of something, hence lies in any set the projection maps into — feasible to projection accuracy. -/
theorem pgdm_result_is_projection (proj : V → V) (f : V → K) (grad : V → V) (dot : V → V → K) (sqrt : K → K)
    (mag : V → Int) (gamma c95 eps : K) (mode : StopMode) (numHist : Nat) :
    ∀ (fuel : Nat) (s : PgdmState K V) (errs : List K), 0 < fuel →
      ∃ z, (pgdmLoop proj f grad dot sqrt mag gamma c95 eps mode numHist fuel s errs).1.x = proj z := by
  intro fuel
  induction fuel with
  | zero => intro s errs h; omega
  | succ fuel ih =>
    intro s errs _
    unfold pgdmLoop
    simp only
    split
    · cases fuel with
      | zero => exact ⟨_, rfl⟩
      | succ n => exact ih _ _ (Nat.succ_pos n)
    · exact ⟨_, rfl⟩

/-- C10.fista_result_is_projection: the same for the FISTA variant. -/
theorem fista_result_is_projection (proj : V → V) (f : V → K) (grad : V → V) (dot : V → V → K) (sqrt : K → K)
    (delta eps : K) (kcoef : Nat → K) (mode : StopMode) (numHist : Nat) :
    ∀ (fuel k : Nat) (x xpp : V) (errs : List K), 0 < fuel →
      ∃ z, (fistaLoop proj f grad dot sqrt delta eps kcoef mode numHist fuel k x xpp errs).1 = proj z := by
  intro fuel
  induction fuel with
  | zero => intro k x xpp errs h; omega
  | succ fuel ih =>
    intro k x xpp errs _
    unfold fistaLoop
    simp only
    split
    · cases fuel with
      | zero => exact ⟨_, rfl⟩
      | succ n => exact ih _ _ _ _ (Nat.succ_pos n)
    · exact ⟨_, rfl⟩

/-- C10.momentum_fista_optimize_result: the same through the `optimize` wrappers as executed by the driver (`pgdmrun`, `fistarun`):
whenever they return (iteration limit ≥ 1 — for `0` the real code raises and the model gives `none`), the returned point is a
projection output. -/
theorem momentum_fista_optimize_result (proj : V → V) (f : V → K) (grad : V → V) (dot : V → V → K) (sqrt : K → K)
    (mag : V → Int) (gamma c95 delta eps : K) (kcoef : Nat → K) (mode : StopMode) (numHist maxIter : Nat) :
    (∀ s0 r, pgdmOptimize proj f grad dot sqrt mag gamma c95 eps mode numHist maxIter s0 = some r → ∃ z, r.1.x = proj z) ∧
    (∀ x0 r, fistaOptimize proj f grad dot sqrt delta eps kcoef mode numHist maxIter x0 = some r → ∃ z, r.1 = proj z) ∧
    (maxIter = 0 → (∀ s0, pgdmOptimize proj f grad dot sqrt mag gamma c95 eps mode numHist maxIter s0 = none) ∧
      ∀ x0, fistaOptimize proj f grad dot sqrt delta eps kcoef mode numHist maxIter x0 = none) := by
  refine ⟨?_, ?_, ?_⟩
  · intro s0 r h
    unfold pgdmOptimize at h
    split_ifs at h with hm
    cases h
    exact pgdm_result_is_projection proj f grad dot sqrt mag gamma c95 eps mode numHist maxIter s0 [] (Nat.pos_of_ne_zero hm)
  · intro x0 r h
    unfold fistaOptimize at h
    split_ifs at h with hm
    cases h
    exact fista_result_is_projection proj f grad dot sqrt delta eps kcoef mode numHist maxIter 1 x0 x0 []
      (Nat.pos_of_ne_zero hm)
  · intro hm
    exact ⟨fun _ => by simp [pgdmOptimize, hm], fun _ => by simp [fistaOptimize, hm]⟩

example : (fistaOptimize (K := Rat) (V := Rat) (fun z => max z 0) (fun x => (x + 1) * (x + 1)) (fun x => 2 * (x + 1))
    (fun a b => a * b) (fun v => v) (1 / 4) (1 / 100) (fun k => ((k : Int) - 2 : Int) / ((k : Int) + 1 : Int)) .sumAbsDiffVar 1 30 1).map
      (fun r => r.1) = some 0 := by
  decide +kernel

/-- C10.projection_output_feasible: a projection output lies in every set the projection maps into (used with the two
theorems above and `proj_physical_accuracy`). -/
theorem projection_output_feasible {C : Set V} (proj : V → V) (hproj : ∀ z, proj z ∈ C) (x : V) (h : ∃ z, x = proj z) :
    x ∈ C := by
  obtain ⟨z, rfl⟩ := h; exact hproj z

end momentum

end QM.C10
