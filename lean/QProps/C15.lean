import QProofs.C15
import QProofs.C15Gen
/-!
# C15 — property theorems: Monte-Carlo simulations are reproducible with independent repetitions

Unbounded in the number of repetitions, samples, tasks, batches and estimates. The generator is abstract (`Prng`);
`SeedSequence.spawn` is an abstract child function. What is *not* claimed: that MT19937 streams from different
seeds are statistically independent, or anything about joblib's process handling (the theorems are about the task
model; the implementation is observed by the harness).
-/
namespace QM.C15
open Matrix

section loop
variable {S G D : Type}

/-- C15.a `loop_int_segments`: with an **integer** seed the generator is created once, before the loop: repetition `k`
draws from the state reached after `k` earlier repetitions (consecutive segments of the one stream seeded with `s`);
the seed object and the global state are untouched. -/
theorem loop_int_segments (P : Prng S G D) (s : S) (glob : G) (n : Nat) :
    loop P n (.int s) glob
      = ((List.range n).map (fun k => (P.draw (advance P k (P.ofSeed s))).1), .int s, glob) := by
  simp [loop, toStream, loopS_gen]

/-- C15.a (DESIGN §4 `sim_deterministic`, integer seed): the result is a function of (seed, repetition count) — the global numpy
state neither influences it nor is changed by it. -/
theorem loop_int_pure (P : Prng S G D) (s : S) (g₁ g₂ : G) (n : Nat) :
    (loop P n (.int s) g₁).1 = (loop P n (.int s) g₂).1 ∧ (loop P n (.int s) g₁).2.2 = g₁ := by
  simp [loop_int_segments]

/-- C15.a: an integer seed gives exactly the repetitions of a generator object freshly seeded with it. -/
theorem loop_int_eq_gen (P : Prng S G D) (s : S) (glob : G) (n : Nat) :
    (loop P n (.int s) glob).1 = (loop P n (.gen (P.ofSeed s)) glob).1 :=
  rfl

/-- C15.b `loop_gen_segments`: with a **Generator object** repetition `k` draws from the state reached after
`k` earlier repetitions (consecutive segments of one stream), and the object is left advanced by `n` draws. -/
theorem loop_gen_segments (P : Prng S G D) (g glob : G) (n : Nat) :
    loop P n (.gen g) glob
      = ((List.range n).map (fun k => (P.draw (advance P k g)).1), .gen (advance P n g), glob) := by
  simp [loop, toStream, loopS_gen]

/-- C15.b: the same with `None` (global `np.random`): the global state is the stream. -/
theorem loop_none_segments (P : Prng S G D) (glob : G) (n : Nat) :
    loop P n .none glob
      = ((List.range n).map (fun k => (P.draw (advance P k glob)).1), .none, advance P n glob) := by
  simp [loop, toStream, loopS_none]

/-- C15.b `reps_distinct_streams`: the repetitions are pairwise different draws whenever the stream does not repeat itself
within the first `n` segments **from the state the run actually starts from** (`startOf`: the generator seeded with the
integer, the generator object handed in, or the global state) — a property of the generator along that one orbit, assumed;
for every kind of seed argument. -/
theorem reps_distinct_streams (P : Prng S G D) (a : SeedArg S G) (glob : G) (n : Nat)
    (hno : ((List.range n).map fun k => (P.draw (advance P k (startOf P a glob))).1).Nodup) :
    ((loop P n a glob).1).Nodup := by
  cases a with
  | int s => rw [loop_int_segments]; exact hno
  | gen g => rw [loop_gen_segments]; exact hno
  | none => rw [loop_none_segments]; exact hno

end loop

/-- `reps_distinct_streams` instantiated: the toy congruential generator does not repeat within 3 segments from seed 5
(it does have a fixed point elsewhere, 717570 — the hypothesis is about the orbit of the start state only) -/
example : ((loop lcg 3 (.int 5) 7).1).Nodup :=
  reps_distinct_streams lcg (.int 5) 7 3 (by decide)

example : (loop lcg 3 (.gen 717570) 7).1 = [717570, 717570, 717570] := by decide +kernel

/-- non-vacuity on a toy congruential generator: three repetitions with an integer seed are three different draws, and
they are those of a generator object seeded with it -/
example : (loop lcg 3 (.int 5) 7).1 = [5, 241366, 943247] ∧ ((loop lcg 3 (.int 5) 7).1).Nodup
    ∧ (loop lcg 3 (.gen (lcg.ofSeed 5)) 7).1 = [5, 241366, 943247] := by decide +kernel

section flow
variable {S G D : Type}

/-- C15.c `flowData_get`: in the flow, repetition `i` is drawn from `Generator(child(seed_data, i))`
— a function of the data seed and its own index only. -/
theorem flowData_get (P : Prng S G D) (T : SeedTree S) (seed : S) (n i : Nat) (hi : i < n) :
    (flowData P T seed n)[i]? = some (P.draw (P.ofSeed (T.child seed i))).1 := by
  simp [flowData, spawn, hi]

/-- C15.c: raising the repetition count leaves the earlier repetitions as they were. -/
theorem flowData_succ (P : Prng S G D) (T : SeedTree S) (seed : S) (n : Nat) :
    flowData P T seed (n + 1) = flowData P T seed n ++ [(P.draw (P.ofSeed (T.child seed n))).1] := by
  simp [flowData, spawn, List.range_succ]

/-- C15.c `flow_streams_distinct`: the repetitions of the flow start from pairwise different generator states, provided
the generators seeded with the `n` children **actually spawned** differ (a property of `SeedSequence.spawn` composed with
`MT19937` seeding on those children, assumed — the harness observes it on numpy). -/
theorem flow_streams_distinct (P : Prng S G D) (T : SeedTree S) (seed : S) (n : Nat)
    (hinj : ∀ i j, i < n → j < n → P.ofSeed (T.child seed i) = P.ofSeed (T.child seed j) → i = j) :
    ((spawn T seed n).map P.ofSeed).Nodup := by
  unfold spawn
  rw [List.map_map]
  refine (List.nodup_range (n := n)).map_on ?_
  intro i hi j hj h
  exact hinj i j (List.mem_range.mp hi) (List.mem_range.mp hj) h

end flow

/-- `flow_streams_distinct` instantiated on the toy tree / generator the driver executes (`flow` op), 4 repetitions -/
example : ((spawn toyTree 11 4).map lcg.ofSeed).Nodup :=
  flow_streams_distinct lcg toyTree 11 4 (fun i j hi hj h => by
    have key : ∀ i, i < 4 → ∀ j, j < 4 → lcg.ofSeed (toyTree.child 11 i) = lcg.ofSeed (toyTree.child 11 j) → i = j := by
      decide
    exact key i hi j hj h)

example : flowData lcg toyTree 11 4 = [342, 343, 344, 345] ∧ flowData lcg toyTree 11 3 = [342, 343, 344] := by decide +kernel

/-! ## scheduling -/

/-- C15.d `schedule_independent`: whatever order the tasks are executed in (any permutation of the task indices — any
interleaving of any number of workers), the collected result list is `[task 0, …, task (n-1)]`. Tasks are functions
of their own index (their own child seed) only. -/
theorem schedule_independent {R : Type} (task : Nat → R) (n : Nat) (sched : List Nat)
    (hperm : sched.Perm (List.range n)) :
    collect n (execute task sched) = (List.range n).map fun i => some (task i) := by
  unfold collect
  apply List.map_congr_left
  intro i hi
  rw [lookup_execute, if_pos (hperm.mem_iff.mpr hi)]

/-- C15.d `partition_independent_partial`: tasks grouped into batches that share mutable objects (loss / algorithm
objects handed to several repetitions without pickling in between) give the same results as fully separated tasks,
**provided each task's result does not depend on the state of those objects**. Missing (see `partition_independent_fails`): state-dependent tasks —
on the tree only the algorithm object's first projection keeps state (C13, D10), and it is constant within a run. -/
theorem partition_independent_partial {R St : Type} (task : Nat → St → R × St) (s0 : St) (n : Nat)
    (hpure : ∀ i s s', (task i s).1 = (task i s').1)
    (batches : List (List Nat)) (hperm : batches.flatten.Perm (List.range n)) :
    collect n (runBatches task s0 batches) = (List.range n).map fun i => some (task i s0).1 := by
  rw [runBatches_pure task s0 hpure]
  exact schedule_independent (fun i => (task i s0).1) n _ hperm

/-- C15.d negation witness (concrete): a task whose result reads the shared object state gives different results when
two repetitions run in one batch (serial execution) and when they run in separate batches (two workers). -/
theorem partition_independent_fails :
    ¬ ∀ (task : Nat → Nat → Nat × Nat) (b₁ b₂ : List (List Nat)),
        b₁.flatten.Perm (List.range 2) → b₂.flatten.Perm (List.range 2) →
        collect 2 (runBatches task 0 b₁) = collect 2 (runBatches task 0 b₂) := by
  intro h
  have := h (fun i s => (i + 100 * s, s + 1)) [[0, 1]] [[0], [1]] (by decide) (by decide)
  revert this
  decide +kernel

/-- C15.e `reest_reproduces_partial`: re-estimating repetition `i` from the stored empirical distributions returns the
stored estimate **provided the estimate does not depend on the state of the loss / algorithm objects** of the setting
(the run threads that state through the repetitions, `re_estimate(i)` uses the objects in whatever state `s` they are in).
Missing: state-dependent estimators (see `partition_independent_fails`; C13 lists which objects keep state — on the tree
only the algorithm object's first projection, which is constant within a run). -/
theorem reest_reproduces_partial {D E St : Type} (est : D → St → E × St) (s₀ s : St) (stored : List D) (i : Nat)
    (hpure : ∀ d s s', (est d s).1 = (est d s').1) :
    reEstimate est s stored i = (storedEstimates est s₀ stored)[i]? := by
  rw [storedEstimates_pure est s₀ hpure stored s₀]
  simp [reEstimate, hpure _ s s₀]

/-- instance: an estimator that ignores the object state, three stored repetitions; and the counter-example for a
state-dependent one (the stored second estimate saw the state left by the first) -/
example : reEstimate (fun (d : Nat) (s : Nat) => (2 * d, s + 1)) 5 [10, 20, 30] 1
    = (storedEstimates (fun (d : Nat) (s : Nat) => (2 * d, s + 1)) 0 [10, 20, 30])[1]? :=
  reest_reproduces_partial _ 0 5 _ 1 (by intros; rfl)

example : reEstimate (fun (d : Nat) (s : Nat) => (d + s, s + 1)) 0 [10, 20, 30] 1 = some 20 ∧
    (storedEstimates (fun (d : Nat) (s : Nat) => (d + s, s + 1)) 0 [10, 20, 30])[1]? = some 21 := by decide +kernel

/-- `partition_independent_partial` instantiated: state-independent tasks, two batches -/
example : collect 3 (runBatches (fun i (s : Nat) => (i * i, s + 1)) 0 [[2, 0], [1]]) = [some 0, some 1, some 4] :=
  partition_independent_partial _ 0 3 (by intros; rfl) _ (by decide)

/-! ## depolarising noise -/

/-- C15.f `depol_eq_mixture`: composing with the depolarising channel of rate `p` is the mixture
`(1-p)·v + p·v_mixed`, `v_mixed = (v₀, 0, …, 0)` (the maximally mixed object carrying the same trace component) —
over any commutative ring, any length. -/
theorem depol_eq_mixture {K : Type} [CommRing K] (p : K) (v : List K) : depolVec p v = mixVec p v := by
  apply List.ext_getElem
  · simp [depolVec, mixVec, depolDiag]
  · intro i h1 h2
    simp only [depolVec, mixVec, depolDiag, List.getElem_zipWith, List.getElem_map, List.getElem_range,
      List.getElem_zipIdx, Nat.zero_add]
    by_cases h : i = 0
    · simp [h]; ring
    · simp [h]

/-- C15.f: the Hilbert–Schmidt matrix of the depolarised gate: row 0 kept, every other row scaled by `1-p`. -/
theorem depolHs_rows {K : Type} [CommRing K] (p : K) (hs : List (List K)) (i : Nat) (hi : i < hs.length) :
    (depolHs p hs)[i]? = some (hs[i].map ((if i = 0 then (1 : K) else 1 - p) * ·)) := by
  simp [depolHs, depolDiag, hi]

/-- C15.f `depolHs_eq_mixture`: the Hilbert–Schmidt matrix of the depolarised gate (and of every element of a depolarised
measurement process) is the mixture `(1-p)·hs + p·hs_mixed`, `hs_mixed` = row 0 of `hs` with zeros below (the map that sends
every input to the maximally mixed output of the same weight) — entrywise, any size, any commutative ring. -/
theorem depolHs_eq_mixture {K : Type} [CommRing K] (p : K) (hs : List (List K)) (i : Nat) (hi : i < hs.length) :
    (depolHs p hs)[i]? = some (hs[i].map fun x => (1 - p) * x + p * (if i = 0 then x else 0)) := by
  rw [depolHs_rows p hs i hi]
  refine congrArg some (List.map_congr_left fun x _ => ?_)
  by_cases h : i = 0
  · simp only [h, if_true]; ring
  · simp [h]

/-- C15.f `depol_preserves_equality_constraint`: depolarisation leaves the equality constraints alone — component 0 of a
state / POVM-element vector (the trace component) and row 0 of a gate's or measurement-process element's
Hilbert–Schmidt matrix (the trace-preservation row; hence also the sum of the rows 0 of a measurement process) are
unchanged, for every rate `p`, any size, any commutative ring. -/
theorem depol_preserves_equality_constraint {K : Type} [CommRing K] (p : K) :
    (∀ (v : List K) (h : 0 < v.length), (depolVec p v)[0]? = some v[0]) ∧
    (∀ (hs : List (List K)) (h : 0 < hs.length), (depolHs p hs)[0]? = some hs[0]) :=
  ⟨fun v h => by simp [depolVec, depolDiag, h], fun hs h => by simp [depolHs_rows p hs 0 h]⟩

example : (depolVec (1/4 : Rat) [1, 2, 3, 4])[0]? = some 1 ∧ (depolHs (1/2 : Rat) [[1, 0], [3, 4]])[0]? = some [1, 0] := by
  decide +kernel

section convex
open scoped ComplexOrder
variable {n : Type*} [Fintype n] {𝕜 : Type*} [RCLike 𝕜]

/-- C15.f `depol_convex_physical_partial`: a mixture of two density matrices with weights `1-p`, `p`, `0 ≤ p ≤ 1`, is a density
matrix (positive semidefinite, trace one): the physical set is convex, so the depolarised object is physical whenever
the ideal one is (the maximally mixed object is physical). The equality constraints of all four object types are covered
by `depol_preserves_equality_constraint`. Missing: positivity — this is the convexity argument for **states** only,
stated on abstract matrices (not tied to `depolVec`); physicality of depolarised gates / POVMs / measurement processes
(Choi positivity + trace preservation under the mixture) and of random-Lindbladian objects is observed on the
implementation by the harness (`is_physical` of every generated object), not proved. -/
theorem depol_convex_physical_partial (ρ σ : Matrix n n 𝕜) (hρ : ρ.PosSemidef) (hσ : σ.PosSemidef)
    (tρ : ρ.trace = 1) (tσ : σ.trace = 1) (p : ℝ) (h0 : 0 ≤ p) (h1 : p ≤ 1) :
    (((1 - p : ℝ) : 𝕜) • ρ + ((p : ℝ) : 𝕜) • σ).PosSemidef ∧
    (((1 - p : ℝ) : 𝕜) • ρ + ((p : ℝ) : 𝕜) • σ).trace = 1 := by
  refine ⟨(hρ.smul (RCLike.ofReal_nonneg.mpr (sub_nonneg.2 h1))).add (hσ.smul (RCLike.ofReal_nonneg.mpr h0)), ?_⟩
  rw [Matrix.trace_add, Matrix.trace_smul, Matrix.trace_smul, tρ, tσ, smul_eq_mul, smul_eq_mul, mul_one, mul_one,
    ← RCLike.ofReal_add, sub_add_cancel, RCLike.ofReal_one]

end convex

/-! ## physicality-violation check -/

/-- C15.g `violation_check_iff`: when every stored result carries one estimate per sample size, the built-in check
returns `False` exactly when some stored estimate fails a test of a constraint its estimator was configured to enforce
(projected linear: both; linear: equality iff it is parametrised away — nothing otherwise; loss minimisation: per
`on_algo_eq_constraint` / `on_algo_ineq_constraint`, nothing without an algorithm option; other estimators: nothing).
The verdicts are those of `is_eq_constraint_satisfied(eqEps para)` / `is_ineq_constraint_satisfied(ineqEps)`. -/
theorem violation_check_iff (kind : EstKind) (para : Bool) (nNum : Nat) (results : List (List Verdict))
    (hne : results ≠ []) (hlen : ∀ r ∈ results, r.length = nNum) :
    ∃ b, violationCheck kind para nNum results = some b ∧
      (b = false ↔ ∃ r ∈ results, ∃ v ∈ r,
        (enforcesEq kind para = true ∧ v.eqOK = false) ∨ (enforcesIneq kind = true ∧ v.ineqOK = false)) := by
  refine ⟨_, (violationCheck_of_ne_nil kind para nNum hne).trans (violationCheckCore_of_length kind para nNum results hlen), ?_⟩
  simp only [List.all_eq_false, Bool.not_eq_true, Bool.and_eq_false_iff, Bool.or_eq_false_iff, Bool.not_eq_false']

/-- C15.g: with no stored result the check raises (IndexError on `estimation_results[0]`) for the estimators whose test
reads `on_para_eq_constraint` from the first result; for the others it passes vacuously. -/
theorem violation_check_empty (kind : EstKind) (para : Bool) (nNum : Nat) :
    violationCheck kind para nNum [] = if indexesFirst kind nNum then none else violationCheckCore kind para nNum [] := by
  simp [violationCheck]

example : violationCheck .linear true 2 [] = none ∧ violationCheck (.lossMin (some (false, true))) true 2 [] = some true
    ∧ violationCheck .projLinear true 0 [] = some true := by decide +kernel

/-- C15.g: a result that stores fewer estimates than sample sizes makes the check raise (IndexError), it is not
silently passed. -/
theorem violation_check_short_row_raises (nNum : Nat) (r : List Verdict) (rs : List (List Verdict))
    (h : r.length < nNum) : violationCheck .projLinear true nNum (r :: rs) = none := by
  rw [violationCheck_of_ne_nil _ _ _ (List.cons_ne_nil r rs), violationCheckCore_eq]
  simp [enforcesEq, Nat.not_le.2 h]

/-- C15.g `violation_check_short_row_raises_general`: whenever the estimator enforces a constraint, **any** stored result
with fewer estimates than sample sizes makes the check raise (IndexError) — wherever that result sits in the list. (For
estimators that enforce nothing the check does not look at the estimates at all and passes.) -/
theorem violation_check_short_row_raises_general (kind : EstKind) (para : Bool) (nNum : Nat)
    (results : List (List Verdict)) (r : List Verdict) (hr : r ∈ results) (hshort : r.length < nNum)
    (henf : enforcesEq kind para = true ∨ enforcesIneq kind = true) :
    violationCheck kind para nNum results = none := by
  rw [violationCheck_of_ne_nil kind para nNum (List.ne_nil_of_mem hr), violationCheckCore_eq,
    Bool.or_eq_true_iff.2 henf, List.all_eq_false.2 ⟨r, hr, by simpa using hshort⟩]
  rfl

example : violationCheck (.lossMin (some (false, true))) true 2 [[⟨true, true⟩, ⟨true, true⟩], [⟨true, true⟩]] = none :=
  violation_check_short_row_raises_general _ _ _ _ [⟨true, true⟩] (by simp) (by decide) (Or.inr rfl)

example : violationCheck .other true 2 [[⟨true, true⟩]] = some true := by decide +kernel

/-- the documented thresholds -/
theorem thresholds : eqEps true = 1 / 10000000000000 ∧ eqEps false = 1 / 100000 ∧ ineqEps = 1 / 100000 := by
  decide +kernel

example : violationCheck (.lossMin (some (true, false))) true 2 [[⟨true, false⟩, ⟨true, true⟩], [⟨false, true⟩, ⟨true, true⟩]]
    = some false := by decide +kernel

/-! ## the plumbing as coded: theorems about tables REGENERATED from the source

`QGen/C15.lean` is rewritten by `harness/c15_translate.py` (Python `ast`) from /repo on every run. -/
section generated
open QGen.C15

/-- C15.h `gen_one_stream_per_run`: the source converts the seed argument exactly once, before the repetition loop, never
inside it, and hands that one stream to every repetition — so the coded loop is the model's `loop`, and with an integer
seed repetition `k` is the `k`-th segment of the stream seeded with it. -/
theorem gen_one_stream_per_run {S G D : Type} (P : Prng S G D) (n : Nat) (a : SeedArg S G) (glob : G) :
    loopConvBefore = 1 ∧ loopConvInside = 0 ∧ loopWith loopPassesStream P n a glob = loop P n a glob := by
  refine ⟨by decide, by decide, ?_⟩
  simp [loopWith, show loopPassesStream = true from by decide]

theorem gen_int_seed_segments {S G D : Type} (P : Prng S G D) (s : S) (glob : G) (n : Nat) :
    (loopWith loopPassesStream P n (.int s) glob).1
      = (List.range n).map (fun k => (P.draw (advance P k (P.ofSeed s))).1) := by
  rw [(gen_one_stream_per_run P n (.int s) glob).2.2, loop_int_segments]

/-- C15.h: what the *other* shape would mean (the repaired defect D11): handing the raw integer to every repetition makes
all repetitions the same draw. The obligation above is therefore not vacuous: it fails if the loop goes back to that shape. -/
theorem loopWith_raw_int_identical {S G D : Type} (P : Prng S G D) (s : S) (glob : G) (n : Nat) :
    (loopWith false P n (.int s) glob).1 = List.replicate n (P.draw (P.ofSeed s)).1 := by
  simp [loopWith, loopS_int]

/-- C15.h `execSim_default_seed`: `execute_simulation` without a seed is `execute_simulation` with the setting's integer
`seed_data`: the repetitions are the consecutive segments of the stream seeded with it, and the global numpy state is
neither read nor changed (the run is a function of the setting alone). -/
theorem execSim_default_seed {S G D : Type} (P : Prng S G D) (seedData : S) (n : Nat) (glob : G) :
    execSim P seedData n none glob
      = ((List.range n).map (fun k => (P.draw (advance P k (P.ofSeed seedData))).1), glob) ∧
    execSim P seedData n none glob = execSim P seedData n (some (.int seedData)) glob := by
  simp [execSim, loop_int_segments]

example : execSim lcg 5 3 none 7 = ([5, 241366, 943247], 7) := by decide +kernel

/-- C15.h: each of the twelve `generate_empi_dist(s)(_sequence)` entry points of the four tomography classes converts its
seed argument exactly once and hands that stream (not a wrapped / re-created one) to the experiment. -/
theorem gen_entries_convert_once :
    qtEntries.length = 12 ∧ qtEntries.all (fun e => e.2.2.1 == 1 && e.2.2.2) = true := by decide +kernel

/-- C15.h: the keyword the simulation uses for the seed is the name of the seed parameter of
`generate_empi_dists_sequence` in all four tomography classes (a misspelt parameter makes one entry point unusable), and
`execute_simulation` replaces a missing seed by the setting's `seed_data`. -/
theorem gen_seed_keyword :
    qtSeqParams.length = 4 ∧ qtSeqParams.all (fun e => e.2.1 == repKeyword && e.2.2 == 3) = true ∧
    execNoneDefault = "seed_data" := ⟨rfl, by decide +kernel, rfl⟩

/-- C15.h: the flow seeds the data level with `SeedSequence(seed_data).spawn(n_rep)` and the sample level with
`SeedSequence(seed_qoperation).spawn(n_sample)`, one child generator per task, handed over positionally (argument 2 of
`generate_empi_dists_sequence`, argument 6 of `execute_simulation_sample_unit`) — the arguments of `flowData` / `flowSamples`. -/
theorem gen_flow_seeds :
    flowSeeds = [("execute_simulation_sample_unit", "seed_data", "n_rep", 2),
                 ("execute_simulation_test_setting_unit", "seed_qoperation", "n_sample", 6)] := rfl

/-- C15.g `gen_thresholds`: the thresholds the check resolves are those of the model: equality `atol` (the default
tolerance at import) when the first stored estimate has `on_para_eq_constraint`, `1e-5` otherwise; inequality `1e-5`;
the attribute consulted is `on_para_eq_constraint`. -/
theorem gen_thresholds :
    QGen.C15.eqEpsTrue = eqEps true ∧ QGen.C15.eqEpsFalse = eqEps false ∧ QGen.C15.ineqEps = QM.C15.ineqEps ∧
    eqEpsBranches = ("__eq_const_eps_true", "__eq_const_eps_false") ∧ eqParaAttr = "on_para_eq_constraint" :=
  ⟨by decide +kernel, by decide +kernel, by decide +kernel, rfl, rfl⟩

/-- C15.g `gen_check_wiring`: per estimator class the built-in check calls exactly the tests of the constraints the model
says that estimator enforces (`enforcesEq`, `enforcesIneq`), each under the guard (`para`, `on_algo_eq_constraint`,
`on_algo_ineq_constraint`) whose flag the model makes that test depend on. -/
theorem gen_check_wiring :
    checkWiring.map (fun e => (e.1, e.2.1)) = Gen.modelWiring ∧ checkGuards = Gen.modelGuards := ⟨rfl, rfl⟩

example : (loopWith loopPassesStream lcg 3 (.int 5) 7).1 = [5, 241366, 943247] := by decide +kernel

end generated

end QM.C15
