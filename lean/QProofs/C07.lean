import QModel.C07
import QProofs.Bridge
import QProofs.C16
import Mathlib.Tactic.Ring
import Mathlib.Tactic.Linarith
import Mathlib.Logic.Equiv.Fin.Basic
import Mathlib.Algebra.BigOperators.Fin
import Mathlib.Data.Fintype.BigOperators
/-! helper lemmas for C07: `Fin (a*b)` as pairs and `_K(a,b)` as the permutation matrix of the index swap; the bubble
sort of `calc_permutation_matrix` (inversions, the loop's invariant rules); run-time-sized matrices acting on lists;
change of scalars; orthogonality -/
open Matrix
namespace QM.C07
open QM

/-! ## `Fin (a*b)` as pairs -/

theorem fdiv_eq {a b : Nat} (i : Fin (a * b)) : fdiv i = i.divNat := rfl
theorem fmod_eq {a b : Nat} (i : Fin (a * b)) : fmod i = i.modNat := rfl

/-- the pair `(x, y)` as an element of `Fin (a*b)` (row major) -/
def pair {a b : Nat} (x : Fin a) (y : Fin b) : Fin (a * b) := finProdFinEquiv (x, y)

@[simp] theorem fdiv_pair {a b : Nat} (x : Fin a) (y : Fin b) : fdiv (pair x y) = x := by
  have := finProdFinEquiv.left_inv (x, y)
  exact congrArg Prod.fst this

@[simp] theorem fmod_pair {a b : Nat} (x : Fin a) (y : Fin b) : fmod (pair x y) = y := by
  have := finProdFinEquiv.left_inv (x, y)
  exact congrArg Prod.snd this

@[simp] theorem pair_fdiv_fmod {a b : Nat} (i : Fin (a * b)) : pair (fdiv i) (fmod i) = i :=
  finProdFinEquiv.right_inv i

theorem pair_val {a b : Nat} (x : Fin a) (y : Fin b) : (pair x y).val = x.val * b + y.val := by
  simp [pair, finProdFinEquiv, Nat.mul_comm, Nat.add_comm]

/-- both bracketings of a four-fold index denote the same number -/
theorem pair_assoc_val {a b c d : Nat} (x : Fin a) (y : Fin b) (z : Fin c) (w : Fin d) :
    (pair (pair x (pair y z)) w).val = (pair (pair x y) (pair z w)).val := by
  simp only [pair_val]; ring

theorem sum_fin_mul {K : Type} [AddCommMonoid K] {a b : Nat} (f : Fin (a * b) → K) :
    ∑ i, f i = ∑ x : Fin a, ∑ y : Fin b, f (pair x y) := by
  rw [← Fintype.sum_prod_type']
  exact (Equiv.sum_comp finProdFinEquiv f).symm

theorem pair_eq_iff {a b : Nat} (i : Fin (a * b)) (x : Fin a) (y : Fin b) :
    i = pair x y ↔ fdiv i = x ∧ fmod i = y := by
  constructor
  · rintro rfl; simp
  · rintro ⟨rfl, rfl⟩; simp

section kernels
variable {K : Type} [CommSemiring K]

/-- the index of `(y, x)` in `Fin (b * a)` for the index `r` of `(x, y)` in `Fin (a * b)` -/
def swapIdx {a b : Nat} (r : Fin (a * b)) : Fin (b * a) := pair (fmod r) (fdiv r)

omit [CommSemiring K] in
theorem swapIdx_swapIdx {a b : Nat} (r : Fin (a * b)) : swapIdx (swapIdx r) = r := by
  simp only [swapIdx, fdiv_pair, fmod_pair, pair_fdiv_fmod]

omit [CommSemiring K] in
theorem eq_swapIdx_comm {a b : Nat} (r : Fin (a * b)) (c : Fin (b * a)) : c = swapIdx r ↔ r = swapIdx c :=
  ⟨fun h => by rw [h, swapIdx_swapIdx], fun h => by rw [h, swapIdx_swapIdx]⟩

/-- closed form of `_K(a, b)`: the permutation matrix of `swapIdx` -/
theorem Kmat_entry (a b : Nat) (r : Fin (a * b)) (c : Fin (b * a)) :
    (Kmat (K := K) a b).get r c = if c = swapIdx r then 1 else 0 := by
  simp only [Kmat, unitM, Mat.get_ofFn, fsum_eq_sum, swapIdx, pair_eq_iff, ite_and, mul_ite, mul_one, mul_zero,
    Finset.sum_ite_eq, Finset.mem_univ, if_true]
  simp only [@eq_comm _ (fdiv r) (fmod c)]; split <;> split <;> rfl

theorem sum_pair_mul {b d : Nat} (f f' : Fin b → K) (g g' : Fin d → K) :
    ∑ k : Fin (b * d), f (fdiv k) * g (fmod k) * (f' (fdiv k) * g' (fmod k)) = (∑ p, f p * f' p) * ∑ q, g q * g' q := by
  rw [sum_fin_mul, Finset.sum_mul_sum]
  simp only [fdiv_pair, fmod_pair]
  exact Finset.sum_congr rfl fun p _ => Finset.sum_congr rfl fun q _ => by ring

theorem get_cast {m n : Nat} (h : m = n) (v : Vec K m) (i : Fin n) :
    Vec.get (Vector.cast h v) i = v.get (Fin.cast h.symm i) := by
  subst h; rfl

end kernels

/-! ## the bubble sort on subsystem names -/

/-- number of inversions -/
def inv : List Nat → Nat
  | [] => 0
  | x :: xs => (xs.filter fun y => y < x).length + inv xs

/-- adjacent elements ascending -/
def adjSorted : List Nat → Prop
  | [] => True
  | [_] => True
  | x :: y :: r => x ≤ y ∧ adjSorted (y :: r)

theorem adjSorted_pairwise : ∀ l : List Nat, adjSorted l → l.Pairwise (· ≤ ·)
  | [], _ => List.Pairwise.nil
  | [x], _ => List.pairwise_singleton _ _
  | x :: y :: r, h => by
    obtain ⟨hxy, hr⟩ := h
    have ih := adjSorted_pairwise (y :: r) hr
    refine List.Pairwise.cons ?_ ih
    intro z hz
    rcases List.mem_cons.1 hz with rfl | hz
    · exact hxy
    · exact le_trans hxy (List.rel_of_pairwise_cons ih hz)

theorem pairwise_adjSorted : ∀ l : List Nat, l.Pairwise (· ≤ ·) → adjSorted l
  | [], _ => trivial
  | [x], _ => trivial
  | x :: y :: r, h => by
    have h1 := List.rel_of_pairwise_cons h (List.mem_cons_self)
    exact ⟨h1, pairwise_adjSorted (y :: r) (List.Pairwise.of_cons h)⟩

/-- `_check_cross_system_position` returns the first descent, or `None` on an ascending list -/
theorem checkCrossFrom_spec (pos former : Nat) (l : List Nat) :
    (checkCrossFrom pos former l = none → adjSorted (former :: l)) ∧
    (∀ p, checkCrossFrom pos former l = some p →
      ∃ pre a b post, former :: l = pre ++ a :: b :: post ∧ p = pos + pre.length ∧ b < a) := by
  induction l generalizing pos former with
  | nil => exact ⟨fun _ => trivial, fun p h => by cases h⟩
  | cons x xs ih =>
    simp only [checkCrossFrom]
    split
    · rename_i hgt
      refine ⟨fun h => (by cases h), fun p h => ?_⟩
      cases h
      exact ⟨[], former, x, xs, rfl, rfl, hgt⟩
    · rename_i hle
      obtain ⟨ih1, ih2⟩ := ih (pos + 1) x
      refine ⟨fun h => ⟨Nat.le_of_not_gt hle, ih1 h⟩, fun p h => ?_⟩
      obtain ⟨pre, a, b, post, heq, hp, hlt⟩ := ih2 p h
      exact ⟨former :: pre, a, b, post, by rw [heq]; rfl, by rw [hp, List.length_cons]; omega, hlt⟩

theorem checkCross_none (l : List Nat) (h : checkCross l = none) : l.Pairwise (· ≤ ·) := by
  cases l with
  | nil => exact List.Pairwise.nil
  | cons x xs => exact adjSorted_pairwise _ ((checkCrossFrom_spec 1 x xs).1 h)

/-- a descent among the images under `f`, located in the list itself -/
theorem checkCross_map_some {α : Type} (f : α → Nat) (l : List α) (p : Nat) (h : checkCross (l.map f) = some p) :
    ∃ pre a b post, l = pre ++ a :: b :: post ∧ p = pre.length + 1 ∧ f b < f a := by
  cases l with
  | nil => cases h
  | cons x xs =>
    obtain ⟨_, _, _, _, h1, hp, hlt⟩ := (checkCrossFrom_spec 1 (f x) (xs.map f)).2 p h
    obtain ⟨pre, _, hl, rfl, h2⟩ := (List.map_eq_append_iff (l := x :: xs)).1 h1
    obtain ⟨a, _, rfl, rfl, h3⟩ := List.map_eq_cons_iff.1 h2
    obtain ⟨b, post, rfl, rfl, rfl⟩ := List.map_eq_cons_iff.1 h3
    exact ⟨pre, a, b, post, hl, by rw [hp, List.length_map, Nat.add_comm], hlt⟩

/-- the entries at, before and after an adjacent pair -/
theorem pair_at {α : Type} (pre : List α) (a b : α) (post : List α) :
    (pre ++ a :: b :: post)[pre.length]? = some a ∧ (pre ++ a :: b :: post)[pre.length + 1]? = some b ∧
      (pre ++ a :: b :: post).take pre.length = pre ∧ (pre ++ a :: b :: post).drop (pre.length + 1 + 1) = post := by
  refine ⟨?_, ?_, List.take_left' rfl, ?_⟩
  · rw [List.getElem?_append_right (Nat.le_refl _), Nat.sub_self]; rfl
  · rw [List.getElem?_append_right (Nat.le_add_right _ _), Nat.add_sub_cancel_left]; rfl
  · rw [show pre ++ a :: b :: post = (pre ++ [a, b]) ++ post by rw [List.append_assoc]; rfl]
    exact List.drop_left' (by rw [List.length_append]; rfl)

theorem swapAt_decomp {α : Type} (pre : List α) (a b : α) (post : List α) :
    swapAt (pre ++ a :: b :: post) (pre.length + 1) = pre ++ b :: a :: post := by
  obtain ⟨h1, h2, _, _⟩ := pair_at pre a b post
  rw [swapAt, Nat.add_sub_cancel, h1, h2]
  dsimp only
  rw [List.set_append_right _ _ (Nat.le_refl _), Nat.sub_self, List.set_cons_zero,
    List.set_append_right _ _ (Nat.le_add_right _ _), Nat.add_sub_cancel_left]
  rfl

theorem swapAt_map {α β : Type} (f : α → β) (l : List α) (p : Nat) : swapAt (l.map f) p = (swapAt l p).map f := by
  simp only [swapAt, List.getElem?_map]
  cases l[p - 1]? <;> cases l[p]? <;> simp [List.map_set]

theorem swapAt_length {α : Type} (l : List α) (p : Nat) : (swapAt l p).length = l.length := by
  unfold swapAt
  split <;> simp

theorem filter_lt_length_append (l r : List Nat) (x : Nat) :
    ((l ++ r).filter fun y => y < x).length
      = (l.filter fun y => y < x).length + (r.filter fun y => y < x).length := by
  simp [List.filter_append]

theorem inv_append_swap (pre : List Nat) (a b : Nat) (post : List Nat) (h : b < a) :
    inv (pre ++ b :: a :: post) + 1 = inv (pre ++ a :: b :: post) := by
  induction pre with
  | nil =>
    have h1 : decide (b < a) = true := decide_eq_true h
    have h2 : decide (a < b) = false := decide_eq_false (Nat.lt_asymm h)
    simp only [List.nil_append, inv, List.filter_cons, h1, h2, if_true, Bool.false_eq_true, if_false, List.length_cons]
    omega
  | cons x xs ih =>
    -- the elements below `x` are counted in a rearrangement of the same list
    have := (((List.Perm.swap a b post).append_left xs).filter fun y => decide (y < x)).length_eq
    simp only [List.cons_append, inv]
    omega

/-- the swap that the loop performs at a descent found by `_check_cross_system_position` rearranges the list and
removes exactly one inversion -/
theorem checkCross_swap (l : List Nat) (p : Nat) (h : checkCross l = some p) :
    (swapAt l p).Perm l ∧ inv (swapAt l p) + 1 = inv l := by
  obtain ⟨pre, a, b, post, rfl, rfl, hlt⟩ := checkCross_map_some id l p (by rwa [List.map_id])
  rw [swapAt_decomp]
  exact ⟨List.Perm.append_left _ (List.Perm.swap _ _ _), inv_append_swap pre a b post hlt⟩

theorem inv_le_sq (l : List Nat) : inv l ≤ l.length * l.length := by
  induction l with
  | nil => exact Nat.le_refl 0
  | cons x xs ih =>
    have := List.length_filter_le (fun y => decide (y < x)) xs
    rw [inv, List.length_cons, Nat.succ_mul, Nat.mul_succ]
    omega

/-! ## `_left_permutation_matrix` on run-time-sized matrices; the invariant and termination rules of the loop -/

theorem prodL_eq_prod (l : List Nat) : prodL l = l.prod := List.prod_eq_foldl_nat.symm

theorem prodL_cons (x : Nat) (l : List Nat) : prodL (x :: l) = x * prodL l := by
  simp only [prodL_eq_prod, List.prod_cons]

theorem prodL_append (a b : List Nat) : prodL (a ++ b) = prodL a * prodL b := by
  simp only [prodL_eq_prod, List.prod_append_nat]

section perm
variable {K : Type} [Add K] [Mul K] [Zero K] [One K]

omit [One K] in
/-- `A @ B` succeeds only on matching inner dimensions -/
theorem mul_eq_ok {A B C : DMat K} (h : A.mul B = .ok C) :
    ∃ hc : A.c = B.r, C = ⟨A.r, B.c, A.m.mul (hc ▸ B.m)⟩ := by
  unfold DMat.mul at h
  split at h
  · rename_i hc; injection h with h; exact ⟨hc, h.symm⟩
  · cases h

omit [One K] in
theorem mul_ok (A B : DMat K) (h : A.c = B.r) : ∃ C, A.mul B = .ok C ∧ C.r = A.r ∧ C.c = B.c :=
  ⟨⟨A.r, B.c, A.m.mul (h ▸ B.m)⟩, dif_pos h, rfl, rfl⟩

/-- `_left_permutation_matrix` without its two conditionals: an empty `reduce` range gives the product 1 anyway -/
theorem leftPerm_eq (pos : Nat) (sizes : List Nat) :
    leftPerm (K := K) pos sizes = match sizes[pos]?, sizes[pos - 1]? with
      | some sp, some sq => .ok (((DMat.eye (prodL (sizes.take (pos - 1)))).kron ⟨sp * sq, sq * sp, Kmat sp sq⟩).kron
          (DMat.eye (prodL (sizes.drop (pos + 1)))))
      | _, _ => .error .index := by
  have hh : (if pos < 2 then 1 else prodL (sizes.take (pos - 1))) = prodL (sizes.take (pos - 1)) := by
    split
    · rw [show pos - 1 = 0 by omega]; rfl
    · rfl
  have ht : (if pos < sizes.length - 1 then prodL (sizes.drop (pos + 1)) else 1) = prodL (sizes.drop (pos + 1)) := by
    split
    · rfl
    · rw [List.drop_eq_nil_of_le (by omega)]; rfl
  unfold leftPerm
  rw [hh, ht]
  cases sizes[pos]? <;> cases sizes[pos - 1]? <;> rfl

theorem leftPerm_explicit (pre : List Nat) (sq sp : Nat) (post : List Nat) :
    leftPerm (K := K) (pre.length + 1) (pre ++ sq :: sp :: post)
      = .ok ⟨prodL pre * (sp * sq) * prodL post, prodL pre * (sq * sp) * prodL post,
             kron (kron (Mat.one : Mat K (prodL pre) (prodL pre)) (Kmat sp sq)) (Mat.one : Mat K (prodL post) (prodL post))⟩ := by
  obtain ⟨h2, h1, h3, h4⟩ := pair_at pre sq sp post
  rw [leftPerm_eq, Nat.add_sub_cancel, h1, h2, h3, h4]
  rfl

/-- invariant rule for the loop of `calc_permutation_matrix`: what holds of the start and is kept by every
executed iteration holds of the result, and the final order has no descent left -/
theorem calcPermLoop_inv (lp : Nat → List Nat → Except Err (DMat K)) (Inv : List Nat → List Nat → DMat K → Prop)
    (hstep : ∀ {order sizes perm pos left perm'}, checkCross order = some pos → lp pos sizes = .ok left →
      left.mul perm = .ok perm' → Inv order sizes perm → Inv (swapAt order pos) (swapAt sizes pos) perm')
    {fuel : Nat} {order sizes : List Nat} {perm P : DMat K} {o s : List Nat}
    (h : calcPermLoop lp fuel order sizes perm = .ok (P, o, s)) (h0 : Inv order sizes perm) :
    Inv o s P ∧ checkCross o = none := by
  induction fuel, order, sizes, perm using calcPermLoop.induct lp with
  | case1 => cases h
  | case2 _ _ _ _ hc => rw [calcPermLoop, hc] at h; cases h; exact ⟨h0, hc⟩
  | case3 _ _ _ _ _ hc _ hl => simp only [calcPermLoop, hc, hl] at h; cases h
  | case4 _ _ _ _ _ hc _ hl _ hm => simp only [calcPermLoop, hc, hl, hm] at h; cases h
  | case5 _ _ _ _ _ hc _ hl _ hm ih =>
    simp only [calcPermLoop, hc, hl, hm] at h
    exact ih h (hstep hc hl hm h0)

/-- total correctness: if moreover every iteration that starts in the invariant succeeds, the loop returns as soon as
the fuel exceeds the number of inversions (each swap removes one) -/
theorem calcPermLoop_terminates (lp : Nat → List Nat → Except Err (DMat K)) (Inv : List Nat → List Nat → DMat K → Prop)
    (hstep : ∀ order sizes perm pos, checkCross order = some pos → Inv order sizes perm →
      ∃ left perm', lp pos sizes = .ok left ∧ left.mul perm = .ok perm' ∧
        Inv (swapAt order pos) (swapAt sizes pos) perm')
    (fuel : Nat) (order sizes : List Nat) (perm : DMat K) (hf : inv order < fuel) (h0 : Inv order sizes perm) :
    ∃ P o s, calcPermLoop lp fuel order sizes perm = .ok (P, o, s) ∧ Inv o s P ∧ checkCross o = none := by
  induction fuel generalizing order sizes perm with
  | zero => exact absurd hf (Nat.not_lt_zero _)
  | succ f ih =>
    rw [calcPermLoop]
    cases hc : checkCross order with
    | none => exact ⟨_, _, _, rfl, h0, hc⟩
    | some pos =>
      obtain ⟨left, perm', hl, hm, h1⟩ := hstep _ _ _ _ hc h0
      simp only [hl, hm]
      exact ih _ _ _ (by have := (checkCross_swap _ _ hc).2; omega) h1

theorem calcPerm_eq_ok (order sizes : List Nat) (P : DMat K) :
    calcPerm order sizes = .ok P ↔ ∃ o s, calcPermLoop leftPerm (order.length * order.length + 1) order sizes
      (DMat.eye (prodL sizes)) = .ok (P, o, s) := by
  unfold calcPerm
  cases calcPermLoop (K := K) leftPerm (order.length * order.length + 1) order sizes (DMat.eye (prodL sizes)) with
  | error e => simp [Except.map]
  | ok r =>
    obtain ⟨P', o, s⟩ := r
    simp [Except.map]

end perm

/-! ## list-level Kronecker products and run-time-sized matrix–vector products -/
section listlevel
variable {K : Type} [CommSemiring K]

/-- `np.kron` of two 1-d arrays as lists (`kronL` of the model at any scalar type) -/
def kronLG (u v : List K) : List K := u.flatMap fun x => v.map fun y => x * y

theorem kronL_eq (u v : List Rat) : kronL u v = kronLG u v := rfl

theorem getElem?_flatMap_map' {α β γ : Type} (l : List α) (fs : List β) (g : α → β → γ)
    (i j : Nat) (a : α) (b : β) (hi : l[i]? = some a) (hj : fs[j]? = some b) :
    (l.flatMap fun a => fs.map (g a))[i * fs.length + j]? = some (g a b) := by
  obtain ⟨hi', rfl⟩ := List.getElem?_eq_some_iff.1 hi
  have hj' : j < fs.length := (List.getElem?_eq_some_iff.1 hj).1
  rw [QM.C16.flatMap_block l (fun a => fs.map (g a)) fs.length (fun _ _ => List.length_map _) i j hi' hj',
    List.getElem?_map, hj]
  rfl

theorem kronLG_length (u v : List K) : (kronLG u v).length = u.length * v.length :=
  QM.C16.length_flatMap_block u _ v.length fun _ _ => List.length_map _

theorem kronVec_toList {a b : Nat} (x : Vec K a) (y : Vec K b) :
    (kronVec x y).toList = kronLG x.toList y.toList := by
  refine List.ext_getElem? fun i => ?_
  by_cases hi : i < a * b
  · have hb : 0 < b := Nat.pos_of_ne_zero (by rintro rfl; simp at hi)
    have hq : i / b < a := Nat.div_lt_of_lt_mul (by rwa [Nat.mul_comm] at hi)
    have hr : i % b < b := Nat.mod_lt _ hb
    have := getElem?_flatMap_map' x.toList y.toList (fun p q => p * q) (i / b) (i % b) (x[i / b]'hq) (y[i % b]'hr)
      (by simp [hq]) (by simp [hr])
    rw [Vector.length_toList, Nat.div_add_mod'] at this
    rw [kronLG, this]
    simp [kronVec, Vec.ofFn, hi, fdiv, fmod, Vec.get]
  · rw [List.getElem?_eq_none (by simpa using hi), List.getElem?_eq_none (by rw [kronLG_length]; simpa using hi)]

theorem kronLG_assoc (a b c : List K) : kronLG (kronLG a b) c = kronLG a (kronLG b c) := by
  simp only [kronLG, List.flatMap_assoc, List.map_flatMap, List.flatMap_map]
  congr 1; funext x
  simp only [List.flatMap_def, List.map_map]
  congr 2; funext y
  congr 1; funext z
  simp [mul_assoc]

theorem kronLG_one_left (a : List K) : kronLG [1] a = a := by simp [kronLG]
theorem kronLG_one_right (a : List K) : kronLG a [1] = a := by
  simp [kronLG]

/-- `np.kron` of a list of 1-d arrays (left to right) -/
def kronAll : List (List K) → List K
  | [] => [1]
  | v :: vs => kronLG v (kronAll vs)

theorem kronAll_append (a b : List (List K)) : kronAll (a ++ b) = kronLG (kronAll a) (kronAll b) := by
  induction a with
  | nil => simp [kronAll, kronLG_one_left]
  | cons v vs ih => simp only [List.cons_append, kronAll, ih, kronLG_assoc]

theorem kronAll_length (vs : List (List K)) : (kronAll vs).length = prodL (vs.map List.length) := by
  induction vs with
  | nil => simp [kronAll, prodL]
  | cons v vs ih => simp only [kronAll, kronLG_length, ih, List.map_cons, prodL_cons]


/-- a list of the right length as a typed vector -/
def ofList (l : List K) (n : Nat) (h : l.length = n) : Vec K n := ⟨l.toArray, by simp [h]⟩

theorem ofList_toList (l : List K) (n : Nat) (h : l.length = n) : (ofList l n h).toList = l := by
  simp [ofList, Vector.toList]

theorem ofList_vec {n : Nat} (w : Vec K n) (h : w.toList.length = n) : ofList w.toList n h = w := by
  cases w; simp [ofList, Vector.toList]

theorem toList?_eq (l : List K) (n : Nat) (h : l.length = n) : DMat.toList? l n = some (ofList l n h) := by
  simp [DMat.toList?, h, ofList]

theorem mulVecL_of_length (A : DMat K) (l : List K) (h : l.length = A.c) :
    A.mulVecL l = .ok (A.m.mulVec (ofList l A.c h)).toList := by
  simp [DMat.mulVecL, toList?_eq l A.c h]

theorem mulVecL_toList (A : DMat K) (w : Vec K A.c) : A.mulVecL w.toList = .ok (A.m.mulVec w).toList := by
  rw [mulVecL_of_length _ _ (by simp), ofList_vec]

theorem eye_mulVecL {n : Nat} (l : List K) (h : l.length = n) : (DMat.eye n).mulVecL l = .ok l := by
  rw [mulVecL_of_length _ _ h]
  simp only [DMat.eye, Mat.one_mulVec, ofList_toList]

/-- `A @ v` succeeds only on a vector of `A.c` entries -/
theorem mulVecL_eq_ok {A : DMat K} {l y : List K} (h : A.mulVecL l = .ok y) :
    ∃ hl : l.length = A.c, y = (A.m.mulVec (ofList l A.c hl)).toList := by
  unfold DMat.mulVecL DMat.toList? at h
  split at h
  · rename_i w hw
    split at hw
    · rename_i hl
      cases hw; cases h
      exact ⟨hl, rfl⟩
    · cases hw
  · cases h

theorem mul_mulVecL (A B C : DMat K) (h : A.mul B = .ok C) (l y : List K) (hy : B.mulVecL l = .ok y) :
    C.mulVecL l = A.mulVecL y := by
  obtain ⟨ar, ac, am⟩ := A
  obtain ⟨br, bc, bm⟩ := B
  obtain ⟨hc, rfl⟩ := mul_eq_ok h
  obtain ⟨hl, rfl⟩ := mulVecL_eq_ok hy
  cases hc
  dsimp only at hl ⊢
  rw [mulVecL_of_length _ l hl, mulVecL_of_length ⟨ar, ac, am⟩ _ (by simp), ofList_vec]
  exact congrArg (fun v : Vec K ar => Except.ok v.toList) (Mat.mul_mulVec am bm _)

end listlevel
/-! ## change of scalars (the driver computes the permutation over ℤ and casts to ℚ) -/
section cast
variable {K L : Type} [CommSemiring K] [CommSemiring L] (φ : K →+* L)

theorem dmat_ext' {r c : Nat} (m1 m2 : Mat L r c) (h : ∀ i j, m1.get i j = m2.get i j) :
    (⟨r, c, m1⟩ : DMat L) = ⟨r, c, m2⟩ := by
  congr; exact Mat.ext' h

theorem map_eye (n : Nat) : (DMat.eye n : DMat K).map φ = DMat.eye n := by
  unfold DMat.map DMat.eye
  apply dmat_ext'
  intro i j
  simp only [Mat.get_ofFn, Mat.one]
  split <;> simp

theorem map_kron (A B : DMat K) : (A.kron B).map φ = (A.map φ).kron (B.map φ) := by
  unfold DMat.map DMat.kron
  apply dmat_ext'
  intro i j
  simp [kron]

theorem map_Kmat (a b : Nat) :
    (⟨a * b, b * a, Kmat a b⟩ : DMat K).map φ = ⟨a * b, b * a, Kmat a b⟩ := by
  unfold DMat.map
  apply dmat_ext'
  intro i j
  simp only [Mat.get_ofFn, Kmat_entry]
  split <;> simp

theorem map_leftPerm (pos : Nat) (sizes : List Nat) :
    (leftPerm (K := K) pos sizes).map (DMat.map φ) = leftPerm (K := L) pos sizes := by
  rw [leftPerm_eq, leftPerm_eq]
  cases sizes[pos]? <;> cases sizes[pos - 1]? <;> simp only [Except.map, map_kron, map_eye, map_Kmat]

theorem map_mul (A B : DMat K) :
    (A.mul B).map (DMat.map φ) = (A.map φ).mul (B.map φ) := by
  obtain ⟨ar, ac, am⟩ := A
  obtain ⟨br, bc, bm⟩ := B
  unfold DMat.mul DMat.map
  dsimp only
  split
  · rename_i h
    subst h
    refine congrArg Except.ok (dmat_ext' _ _ fun i j => ?_)
    simp only [Mat.mul, fsum_eq_sum, Mat.get_ofFn, map_sum, _root_.map_mul]
  · rfl

theorem map_calcPermLoop (fuel : Nat) (order sizes : List Nat) (perm : DMat K) :
    (calcPermLoop (K := K) leftPerm fuel order sizes perm).map (fun r => (r.1.map φ, r.2))
      = calcPermLoop (K := L) leftPerm fuel order sizes (perm.map φ) := by
  induction fuel generalizing order sizes perm with
  | zero => simp [calcPermLoop, Except.map]
  | succ f ih =>
    unfold calcPermLoop
    split
    · simp [Except.map]
    · rename_i pos _
      rw [← map_leftPerm φ pos sizes]
      cases hl : leftPerm (K := K) pos sizes with
      | error e => simp [Except.map]
      | ok left =>
        simp only [Except.map]
        rw [← map_mul φ left perm]
        cases hm : left.mul perm with
        | error e => simp [Except.map]
        | ok p' => simp only [Except.map]; exact ih _ _ _

/-- `calc_permutation_matrix` commutes with a change of scalars: computing the permutation matrix over `K` and casting
its entries is computing it over `L` -/
theorem map_calcPerm (order sizes : List Nat) :
    (calcPerm (K := K) order sizes).map (DMat.map φ) = calcPerm (K := L) order sizes := by
  unfold calcPerm
  rw [← map_eye φ, ← map_calcPermLoop φ]
  cases calcPermLoop (K := K) leftPerm (order.length * order.length + 1) order sizes (DMat.eye (prodL sizes)) <;>
    simp [Except.map]

end cast
/-! ## orthogonality of the vec-permutation matrices -/
section ortho
variable {K : Type} [CommSemiring K]

theorem kron_transpose {a b c d : Nat} (A : Mat K a b) (B : Mat K c d) :
    (kron A B).transpose = kron A.transpose B.transpose := by
  apply Mat.ext'; intro i j; simp [kron, Mat.transpose]

theorem kron_mul_kron {a b c d e f : Nat} (A : Mat K a b) (B : Mat K c d) (C : Mat K b e) (D : Mat K d f) :
    (kron A B).mul (kron C D) = kron (A.mul C) (B.mul D) := by
  apply Mat.ext'; intro i j
  simp only [Mat.mul, kron, Mat.get_ofFn, fsum_eq_sum]
  exact sum_pair_mul _ (fun p => C.get p (fdiv j)) _ (fun q => D.get q (fmod j))

theorem kron_one_one (a b : Nat) : kron (Mat.one : Mat K a a) (Mat.one : Mat K b b) = Mat.one := by
  apply Mat.ext'; intro i j
  have h : (fdiv i = fdiv j ∧ fmod i = fmod j) = (i = j) := by
    rw [← pair_eq_iff, pair_fdiv_fmod]
  simp only [kron, Mat.one, Mat.get_ofFn, ite_zero_mul_ite_zero, mul_one, h]

theorem Kmat_orthogonal (a b : Nat) : (Kmat (K := K) a b).transpose.mul (Kmat a b) = Mat.one := by
  apply Mat.ext'; intro c c'
  have e : ∀ r : Fin (a * b), (c = swapIdx r) = (r = swapIdx c) := fun r => propext (eq_swapIdx_comm r c)
  simp only [Mat.mul, Mat.transpose, Mat.get_ofFn, fsum_eq_sum, Kmat_entry, e, ite_mul, one_mul, zero_mul,
    Finset.sum_ite_eq', Finset.mem_univ, if_true, Mat.one, swapIdx_swapIdx, @eq_comm _ c c']

/-- `AᵀA = 1` for a run-time-sized matrix -/
def DMat.IsOrtho (A : DMat K) : Prop := A.m.transpose.mul A.m = Mat.one

theorem eye_ortho (n : Nat) : (DMat.eye n : DMat K).IsOrtho := by
  simp [DMat.IsOrtho, DMat.eye, Mat.one_transpose, Mat.one_mul]

theorem kron_ortho (A B : DMat K) (hA : A.IsOrtho) (hB : B.IsOrtho) : (A.kron B).IsOrtho := by
  unfold DMat.IsOrtho DMat.kron at *
  simp only
  rw [kron_transpose, kron_mul_kron, hA, hB, kron_one_one]

theorem mul_ortho (A B C : DMat K) (h : A.mul B = .ok C) (hA : A.IsOrtho) (hB : B.IsOrtho) : C.IsOrtho := by
  obtain ⟨ar, ac, am⟩ := A
  obtain ⟨br, bc, bm⟩ := B
  obtain ⟨hc, rfl⟩ := mul_eq_ok h
  cases hc
  show (am.mul bm).transpose.mul (am.mul bm) = Mat.one
  rw [Mat.transpose_mul, Mat.mul_assoc, ← Mat.mul_assoc am.transpose, hA, Mat.one_mul, hB]

end ortho

/-! ## conjugation with an orthogonal run-time-sized matrix, acting on lists -/
section intertwine
variable {K : Type} [CommSemiring K]

theorem transpose_mulVecL_of_ortho (P : DMat K) (hP : P.IsOrtho) (x y : List K) (h : P.mulVecL x = .ok y) :
    P.transpose.mulVecL y = .ok x := by
  obtain ⟨r, c, m⟩ := P
  obtain ⟨hl, rfl⟩ := mulVecL_eq_ok h
  rw [mulVecL_of_length (DMat.transpose ⟨r, c, m⟩) _ (by simp [DMat.transpose])]
  dsimp only [DMat.transpose]
  rw [ofList_vec, ← Mat.mul_mulVec, hP, Mat.one_mulVec, ofList_toList]

/-- conjugation with an orthogonal matrix intertwines: `(P T Pᵀ)(P x) = P (T x)` -/
theorem conj_mulVecL_of_ortho {P T PT R : DMat K} (hP : P.IsOrtho) (h1 : P.mul T = .ok PT)
    (h2 : PT.mul P.transpose = .ok R) (x y z : List K) (hy : P.mulVecL x = .ok y) (hz : T.mulVecL x = .ok z) :
    R.mulVecL y = P.mulVecL z := by
  rw [mul_mulVecL _ _ _ h2 y x (transpose_mulVecL_of_ortho _ hP x y hy)]
  exact mul_mulVecL _ _ _ h1 x z hz

end intertwine

end QM.C07
