import QModel.C01
import Mathlib.Tactic.Ring
import Mathlib.Tactic.Linarith
import Mathlib.Algebra.Order.Field.Rat
import Mathlib.Algebra.Order.AbsoluteValue.Basic
import Mathlib.Analysis.Matrix.PosDef
import Mathlib.Analysis.Matrix.Spectrum
import Mathlib.Algebra.BigOperators.Fin
import Mathlib.LinearAlgebra.Eigenspace.Matrix
/-!
# C01 — lemmas behind the property theorems: numpy closeness as an absolute-value inequality, monotonicity in `atol`,
model matrices entry by entry (`CMat.entry`), a lower bound on the eigenvalues as positive semidefiniteness of a shifted matrix,
the Mathlib matrix a model matrix denotes, origin objects
-/
open QGen.C01
namespace QM.C01

theorem rabs_eq_abs (q : Rat) : rabs q = |q| := by
  unfold rabs
  split
  · rename_i h; rw [abs_of_neg h]
  · rename_i h; rw [abs_of_nonneg (not_lt.mp h)]

theorem isClose_iff (a b atol rtol : Rat) : isClose a b atol rtol = true ↔ |a - b| ≤ atol + rtol * |b| := by
  rw [isClose, decide_eq_true_eq, rabs_eq_abs, rabs_eq_abs]

theorem isClose_zero_rtol (a b atol : Rat) : isClose a b atol 0 = true ↔ |a - b| ≤ atol := by
  rw [isClose_iff, zero_mul, add_zero]

theorem isClose_mono (a b atol atol' rtol : Rat) (h : atol ≤ atol') (hc : isClose a b atol rtol = true) :
    isClose a b atol' rtol = true := by
  rw [isClose_iff] at *; linarith

theorem isClose_self (x atol rtol : Rat) (h : 0 ≤ atol + rtol * |x|) : isClose x x atol rtol = true := by
  rw [isClose_iff, sub_self, abs_zero]; exact h

theorem sq_le_sq_iff_abs_le (x t : Rat) (ht : 0 ≤ t) : x * x ≤ t * t ↔ |x| ≤ t := by
  rw [← abs_mul_abs_self x]
  exact (mul_self_le_mul_self_iff (abs_nonneg x) ht).symm

theorem isCloseCR_iff (z : C) (b atol rtol : Rat) :
    isCloseCR z b atol rtol = true ↔
      0 ≤ atol + rtol * |b| ∧ (z.1 - b) * (z.1 - b) + z.2 * z.2 ≤ (atol + rtol * |b|) * (atol + rtol * |b|) := by
  rw [isCloseCR, Bool.and_eq_true, decide_eq_true_eq, decide_eq_true_eq, rabs_eq_abs]

theorem isCloseCR_real (a b atol rtol : Rat) : isCloseCR (a, 0) b atol rtol = isClose a b atol rtol := by
  rw [Bool.eq_iff_iff, isCloseCR_iff, isClose_iff, mul_zero, add_zero]
  exact ⟨fun h => (sq_le_sq_iff_abs_le _ _ h.1).1 h.2, fun h =>
    have h0 := (abs_nonneg _).trans h
    ⟨h0, (sq_le_sq_iff_abs_le _ _ h0).2 h⟩⟩

/-- exactness of a verdict `isCloseCR · 1 atol rtol` on real arguments (reference value 1) is equivalent to `rtol = 0` (for rtol ≥ 0) -/
theorem isCloseCR_exact_iff_rtol_zero (rtol : Rat) (hr : 0 ≤ rtol) :
    (∀ x atol : Rat, 0 ≤ atol → (isCloseCR (x, 0) 1 atol rtol = true ↔ |x - 1| ≤ atol)) ↔ rtol = 0 := by
  simp only [isCloseCR_real]
  refine ⟨fun h => le_antisymm ?_ hr, fun h a atol _ => h ▸ isClose_zero_rtol a 1 atol⟩
  -- `1 + rtol` is accepted at `atol = 0`, so its defect `rtol` is at most 0
  have := (h (1 + rtol) 0 le_rfl).1 (by
    rw [isClose_iff, add_sub_cancel_left, abs_one, mul_one, zero_add, abs_of_nonneg hr])
  rwa [add_sub_cancel_left, abs_of_nonneg hr] at this

theorem isCloseCR_zero_iff (z : C) (atol rtol : Rat) :
    isCloseCR z 0 atol rtol = true ↔ 0 ≤ atol ∧ z.1 * z.1 + z.2 * z.2 ≤ atol * atol := by
  rw [isCloseCR_iff, abs_zero, mul_zero, add_zero, sub_zero]

theorem isCloseCR_one_iff (z : C) (atol rtol : Rat) :
    isCloseCR z 1 atol rtol = true ↔
      0 ≤ atol + rtol ∧ (z.1 - 1) * (z.1 - 1) + z.2 * z.2 ≤ (atol + rtol) * (atol + rtol) := by
  rw [isCloseCR_iff, abs_one, mul_one]

/-- the complex tests compare a squared modulus with the squared threshold `t`, after `0 ≤ t`: both parts survive a larger `t` -/
theorem sq_threshold_mono {x t t' : Rat} (h : t ≤ t') (hc : 0 ≤ t ∧ x ≤ t * t) : 0 ≤ t' ∧ x ≤ t' * t' :=
  ⟨hc.1.trans h, hc.2.trans (mul_self_le_mul_self hc.1 h)⟩

theorem isCloseCR_mono (z : C) (b atol atol' rtol : Rat) (h : atol ≤ atol')
    (hc : isCloseCR z b atol rtol = true) : isCloseCR z b atol' rtol = true := by
  rw [isCloseCR_iff] at *
  exact sq_threshold_mono (add_le_add_left h _) hc

theorem isCloseCC_iff (a b : C) (atol : Rat) :
    isCloseCC a b atol 0 = some true ↔
      0 ≤ atol ∧ (a.1 - b.1) * (a.1 - b.1) + (a.2 - b.2) * (a.2 - b.2) ≤ atol * atol := by
  rw [isCloseCC, if_pos rfl, Option.some.injEq, Bool.and_eq_true, decide_eq_true_eq, decide_eq_true_eq]

theorem isCloseCC_mono (a b : C) (atol atol' rtol : Rat) (h : atol ≤ atol')
    (hc : isCloseCC a b atol rtol = some true) : isCloseCC a b atol' rtol = some true := by
  by_cases hr : rtol = 0
  · subst hr
    rw [isCloseCC_iff] at *
    exact sq_threshold_mono h hc
  · rw [isCloseCC, if_neg hr] at hc; cases hc

theorem isCloseCC_self (z : C) (a : Rat) (ha : 0 ≤ a) : isCloseCC z z a 0 = some true :=
  (isCloseCC_iff z z a).2 ⟨ha, by simp only [sub_self, mul_zero, add_zero]; exact mul_self_nonneg a⟩

theorem ite_none_mono {c : Prop} [Decidable c] {x y : Option Bool} (h : x = some true → y = some true)
    (hc : (if c then none else x) = some true) : (if c then none else y) = some true := by
  split at hc
  · cases hc
  · rw [if_neg ‹_›]; exact h hc

theorem all_mono {α : Type} {l : List α} {f g : α → Bool} (h : ∀ x ∈ l, f x = true → g x = true)
    (hc : l.all f = true) : l.all g = true :=
  List.all_eq_true.2 fun x hx => h x hx (List.all_eq_true.1 hc x hx)

theorem psdEig_mono (eigs : List Rat) (atol atol' : Rat) (h : atol ≤ atol')
    (hc : psdEig eigs atol = true) : psdEig eigs atol' = true :=
  all_mono (fun l _ hl => by
    rw [Bool.or_eq_true] at *
    exact hl.imp_left (isClose_mono _ _ _ _ _ h)) hc

theorem tpRow_mono (n : Nat) (hs : List Rat) (atol atol' : Rat) (h : atol ≤ atol')
    (hc : tpRow n hs atol = some true) : tpRow n hs atol' = some true := by
  refine ite_none_mono (fun h' => ?_) hc
  exact congrArg some (all_mono (fun p _ => isClose_mono _ _ _ _ _ h) (Option.some.inj h'))

theorem stateTraceOne_eq (rho : CMat) (atol : Rat) (z : C) (h : rho.trace = some z) :
    stateTraceOne rho atol = some (isCloseCR z 1 atol state_is_trace_one_rtol) := by
  rw [stateTraceOne, h]; rfl

theorem unit0_length (c : Rat) {N : Nat} (hN : 0 < N) : (unit0 c N).length = N := by
  rw [unit0, List.length_cons, List.length_replicate]; omega

theorem unit0_getD (c : Rat) (N j : Nat) : (unit0 c N).getD j 0 = if j = 0 then c else 0 := by
  cases j with
  | zero => rfl
  | succ j =>
    rw [unit0, List.getD_cons_succ, List.getD_eq_getElem?_getD, List.getElem?_replicate, if_neg (Nat.succ_ne_zero j)]
    split <;> rfl

theorem zipIdx_take_eq {α : Type} (l : List α) (d : α) {n : Nat} (h : n ≤ l.length) :
    (l.take n).zipIdx = (List.range n).map fun c => (l.getD c d, c) := by
  refine List.ext_getElem (by
    rw [List.length_zipIdx, List.length_take, List.length_map, List.length_range, Nat.min_eq_left h]) fun k h1 h2 => ?_
  have hk : k < n := by rwa [List.length_map, List.length_range] at h2
  rw [List.getElem_zipIdx, List.getElem_take, List.getElem_map, List.getElem_range, Nat.zero_add,
    List.getD_eq_getElem?_getD, List.getElem?_eq_getElem (hk.trans_le h), Option.getD_some]

/-- the first-row test on a well-sized HS matrix, entry by entry -/
theorem tpRow_eq (n : Nat) (hs : List Rat) (atol : Rat) (hl : hs.length = n * n) (hn : n ≠ 0) :
    tpRow n hs atol = some ((List.range n).all fun c =>
      isClose (hs.getD c 0) (if c = 0 then 1 else 0) atol gate_is_tp_row_rtol) := by
  have hle : n ≤ hs.length := hl ▸ Nat.le_mul_of_pos_left n (Nat.pos_of_ne_zero hn)
  rw [tpRow, if_neg (by simp [hl, hn]), zipIdx_take_eq hs 0 hle, List.all_map]
  rfl

theorem unit0_add (a b : Rat) (N : Nat) :
    List.zipWith (· + ·) (unit0 a N) (unit0 b N) = unit0 (a + b) N := by
  simp [unit0]

theorem foldl_unit0 (c : Rat) (N k : Nat) (a : Rat) :
    (List.replicate k (unit0 c N)).foldl (fun acc h => List.zipWith (· + ·) acc h) (unit0 a N) =
      unit0 (a + k * c) N := by
  induction k generalizing a with
  | zero => simp
  | succ k ih =>
    rw [List.replicate_succ, List.foldl_cons, unit0_add, ih]
    congr 1; push_cast; ring

theorem sumHss_origin (n m : Nat) (hn : 0 < n) (hm : 0 < m) : sumHss n (originMp n m) = originGate n := by
  have hnn := Nat.mul_pos hn hn
  unfold sumHss originMp originGate
  have h0 : List.replicate (n * n) (0 : Rat) = unit0 0 (n * n) := by
    obtain ⟨k, hk⟩ := Nat.exists_eq_succ_of_ne_zero hnn.ne'
    rw [hk]; rfl
  rw [h0, foldl_unit0]
  congr 1
  have : (m : Rat) ≠ 0 := by exact_mod_cast (Nat.pos_iff_ne_zero.mp hm)
  rw [zero_add, mul_one_div, div_self this]

/-! ## origin objects and the two TP branches: the definitions `scalarMat`, `onh0Traces` and closeness under scaling -/
/-- `c·1` as a model matrix (origin objects: `I/d`, `I/m`, Choi of the depolarising map `1/d`, …) -/
def scalarMat (d : Nat) (c : Rat) : CMat :=
  ⟨d, (List.range (d * d)).map fun k => if k / d = k % d then (c, 0) else (0, 0)⟩

theorem mapM_some_map {α β : Type} (l : List α) (h : α → Option β) (g : α → β)
    (H : ∀ a ∈ l, h a = some (g a)) : l.mapM h = some (l.map g) := by
  induction l with
  | nil => rfl
  | cons a l ih =>
    rw [List.mapM_cons, H a (by simp), ih (fun b hb => H b (by simp [hb]))]
    rfl

/-- traces `Tr B_α` of an orthonormal Hermitian identity-first basis: `(τ, 0, …, 0)`, `τ = Tr B₀` (`= √d`) -/
def onh0Traces (τ : Rat) (n : Nat) : List C := (τ, 0) :: List.replicate (n - 1) (0, 0)

/-- zero traces contribute nothing to either part of the accumulated trace (`g` = real or imaginary part) -/
theorem foldl_zip_zeros (g : C → Rat) (hg : g (0, 0) = 0) (l : List Rat) (k : Nat) (acc : Rat) :
    (l.zip (List.replicate k ((0, 0) : C))).foldl (fun acc (p : Rat × C) => acc + p.1 * g p.2) acc = acc := by
  induction l generalizing k acc with
  | nil => rfl
  | cons x l ih =>
    cases k with
    | zero => rfl
    | succ k => rw [List.replicate_succ, List.zip_cons_cons, List.foldl_cons, hg, mul_zero, add_zero, ih]

theorem isCloseCC_real_ref (a : C) (b atol : Rat) : isCloseCC a (b, 0) atol 0 = some (isCloseCR a b atol 0) := by
  rw [isCloseCC, if_pos rfl, isCloseCR, zero_mul, add_zero, sub_zero]

theorem isClose_scaled (x δ a τ : Rat) (hτ : 0 < τ) : isClose (x * τ) (τ * δ) (τ * a) 0 = isClose x δ a 0 := by
  rw [Bool.eq_iff_iff, isClose_zero_rtol, isClose_zero_rtol, mul_comm x, ← mul_sub, abs_mul, abs_of_pos hτ,
    mul_le_mul_iff_right₀ hτ]

/-! ## `allSome`: every verdict of a list is defined and true -/
theorem allSome_cons_some (b : Bool) (l : List (Option Bool)) :
    allSome (some b :: l) = (allSome l).map (b && ·) := by
  simp only [allSome, List.mapM_cons, id]
  cases l.mapM id <;> rfl

theorem allSome_true_iff (l : List (Option Bool)) : allSome l = some true ↔ ∀ x ∈ l, x = some true := by
  induction l with
  | nil => exact ⟨fun _ x hx => (nomatch hx), fun _ => rfl⟩
  | cons a l ih =>
    rw [List.forall_mem_cons, ← ih]
    cases a with
    | none => exact ⟨fun h => (nomatch h), fun h => (nomatch h.1)⟩
    | some b => rw [allSome_cons_some]; cases allSome l <;> cases b <;> simp

theorem allSome_map_true_iff {α : Type} (l : List α) (f : α → Option Bool) :
    allSome (l.map f) = some true ↔ ∀ a ∈ l, f a = some true := by
  rw [allSome_true_iff, List.forall_mem_map]

theorem allSome_map_some {α : Type} (l : List α) (g : α → Bool) :
    allSome (l.map fun a => some (g a)) = some (l.all g) := by
  unfold allSome
  rw [mapM_some_map (l.map fun a => some (g a)) id (fun o => o.getD false) (by
    intro o ho; rw [List.mem_map] at ho; obtain ⟨a, _, rfl⟩ := ho; rfl)]
  simp [List.all_map, Function.comp_def]

/-! ## entries of a model matrix: `adjoint`, `is_hermitian` and `np.trace` position by position -/

theorem idx_lt {d i j : Nat} (hi : i < d) (hj : j < d) : i * d + j < d * d :=
  calc i * d + j < i * d + d := Nat.add_lt_add_left hj _
    _ = (i + 1) * d := (Nat.succ_mul i d).symm
    _ ≤ d * d := Nat.mul_le_mul_right _ hi

theorem idx_div {d i j : Nat} (hj : j < d) : (i * d + j) / d = i := by
  rw [Nat.add_comm, Nat.add_mul_div_right _ _ (Nat.zero_lt_of_lt hj), Nat.div_eq_of_lt hj, Nat.zero_add]

theorem idx_mod {d i j : Nat} (hj : j < d) : (i * d + j) % d = j := by
  rw [Nat.add_comm, Nat.add_mul_mod_self_right, Nat.mod_eq_of_lt hj]

theorem div_lt_of_lt_sq {d k : Nat} (hk : k < d * d) : k / d < d := Nat.div_lt_of_lt_mul hk

theorem mod_lt_of_lt_sq {d k : Nat} (hk : k < d * d) : k % d < d :=
  Nat.mod_lt _ (Nat.pos_of_ne_zero (by rintro rfl; simp at hk))

/-- entry `(i, j)` of a model matrix (row-major; `(0, 0)` beyond the list) -/
def CMat.entry (M : CMat) (i j : Nat) : C := M.e.getD (i * M.d + j) (0, 0)

theorem CMat.length_eq {M : CMat} (hok : M.ok = true) : M.e.length = M.d * M.d := by
  simpa [CMat.ok] using hok

theorem CMat.getElem?_entry {M : CMat} (hok : M.ok = true) {i j : Nat} (hi : i < M.d) (hj : j < M.d) :
    M.e[i * M.d + j]? = some (M.entry i j) := by
  have h : i * M.d + j < M.e.length := by rw [CMat.length_eq hok]; exact idx_lt hi hj
  rw [CMat.entry, List.getD_eq_getElem?_getD, List.getElem?_eq_getElem h]; rfl

theorem adjoint_eq (M : CMat) (hok : M.ok = true) :
    M.adjoint = some ((List.range (M.d * M.d)).map fun k =>
      ((M.entry (k % M.d) (k / M.d)).1, -(M.entry (k % M.d) (k / M.d)).2)) := by
  apply mapM_some_map
  intro k hk
  rw [List.mem_range] at hk
  rw [CMat.getElem?_entry hok (mod_lt_of_lt_sq hk) (div_lt_of_lt_sq hk)]; rfl

theorem zip_range_map {α β : Type} (l : List α) (d : α) (g : Nat → β) :
    l.zip ((List.range l.length).map g) = (List.range l.length).map fun k => (l.getD k d, g k) := by
  refine List.ext_getElem (by
    simp only [List.length_zip, List.length_map, List.length_range, Nat.min_self]) fun k h1 h2 => ?_
  have hk : k < l.length := by rwa [List.length_map, List.length_range] at h2
  rw [List.getElem_zip, List.getElem_map, List.getElem_map, List.getElem_range, List.getD_eq_getElem?_getD,
    List.getElem?_eq_getElem hk, Option.getD_some]

/-- `is_hermitian` compares entry `(i, j)` with the conjugate of entry `(j, i)`, for every position -/
theorem isHermitian_iff (M : CMat) (a : Rat) (hok : M.ok = true) :
    isHermitian M a = some true ↔ ∀ i j, i < M.d → j < M.d →
      isCloseCC (M.entry i j) ((M.entry j i).1, -(M.entry j i).2) a 0 = some true := by
  have hr : mutil_is_hermitian_rtol = 0 := rfl
  have hz := zip_range_map M.e (0, 0) fun k => ((M.entry (k % M.d) (k / M.d)).1, -(M.entry (k % M.d) (k / M.d)).2)
  rw [CMat.length_eq hok] at hz
  rw [isHermitian, hok, hr]
  simp only [Bool.not_true, Bool.false_eq_true, if_false, adjoint_eq M hok, Option.bind_eq_bind, Option.bind_some,
    hz, List.map_map, allSome_true_iff, List.mem_map, List.mem_range, Function.comp_apply]
  constructor
  · intro h i j hi hj
    have := h _ ⟨i * M.d + j, idx_lt hi hj, rfl⟩
    rw [idx_div hj, idx_mod hj] at this
    exact this
  · rintro h x ⟨k, hk, rfl⟩
    have := h (k / M.d) (k % M.d) (div_lt_of_lt_sq hk) (mod_lt_of_lt_sq hk)
    rwa [CMat.entry, Nat.div_add_mod' k M.d] at this

theorem isHermitian_mono (M : CMat) (a a' : Rat) (h : a ≤ a') (hc : isHermitian M a = some true) :
    isHermitian M a' = some true := by
  by_cases hok : M.ok = true
  · rw [isHermitian_iff _ _ hok] at *
    exact fun i j hi hj => isCloseCC_mono _ _ _ _ _ h (hc i j hi hj)
  · simp [isHermitian, hok] at hc

/-- `np.trace`: the sum of the diagonal entries, real and imaginary parts separately -/
theorem CMat.trace_eq (M : CMat) (hok : M.ok = true) :
    M.trace = some (((List.range M.d).map fun i => (M.entry i i).1).sum,
                    ((List.range M.d).map fun i => (M.entry i i).2).sum) := by
  rw [CMat.trace, mapM_some_map (List.range M.d) _ (fun i => M.entry i i) fun i hi =>
    CMat.getElem?_entry hok (List.mem_range.1 hi) (List.mem_range.1 hi)]
  simp only [Option.map_some, List.sum_eq_foldl, List.foldl_map]

/-! ## the scalar matrix `c·1`: entries, Hermiticity, trace -/
theorem scalarMat_ok (d : Nat) (c : Rat) : (scalarMat d c).ok = true := by simp [CMat.ok, scalarMat]

theorem scalarMat_entry (d : Nat) (c : Rat) {i j : Nat} (hi : i < d) (hj : j < d) :
    (scalarMat d c).entry i j = if i = j then (c, 0) else (0, 0) := by
  have h : (scalarMat d c).e[i * d + j]? = some (if i = j then (c, 0) else (0, 0)) := by
    rw [scalarMat, List.getElem?_map, List.getElem?_range (idx_lt hi hj), Option.map_some, idx_div hj, idx_mod hj]
  rw [CMat.entry, List.getD_eq_getElem?_getD]
  exact congrArg (Option.getD · (0, 0)) h

theorem isHermitian_scalar (d : Nat) (c atol : Rat) (ha : 0 ≤ atol) :
    isHermitian (scalarMat d c) atol = some true := by
  rw [isHermitian_iff _ _ (scalarMat_ok d c)]
  intro i j hi hj
  rw [scalarMat_entry d c hi hj, scalarMat_entry d c hj hi]
  by_cases h : i = j
  · rw [if_pos h, if_pos h.symm, neg_zero]; exact isCloseCC_self _ _ ha
  · rw [if_neg h, if_neg (Ne.symm h), neg_zero]; exact isCloseCC_self _ _ ha

theorem scalarMat_trace (d : Nat) (c : Rat) : (scalarMat d c).trace = some ((d : Rat) * c, 0) := by
  rw [CMat.trace_eq _ (scalarMat_ok d c)]
  have h : ∀ i ∈ List.range d, (scalarMat d c).entry i i = (c, 0) := fun i hi => by
    rw [scalarMat_entry d c (List.mem_range.1 hi) (List.mem_range.1 hi), if_pos rfl]
  have hd : (scalarMat d c).d = d := rfl
  rw [hd, List.map_congr_left fun i hi => congrArg Prod.fst (h i hi),
    List.map_congr_left fun i hi => congrArg Prod.snd (h i hi)]
  simp

/-! ## composite verdicts: iff forms and monotonicity -/
theorem psdVerdict_true_iff (M : CMat) (eigs : List Rat) (a : Rat) :
    psdVerdict M eigs a = some true ↔ eigs.length = M.d ∧ isHermitian M a = some true ∧ psdEig eigs a = true := by
  unfold psdVerdict
  by_cases hl : eigs.length = M.d
  · simp only [hl, ne_eq, not_true_eq_false, ↓reduceIte, true_and]
    cases hh : isHermitian M a with
    | none => simp
    | some b => cases b <;> simp
  · simp [hl]

theorem psdVerdict_mono (M : CMat) (eigs : List Rat) (a a' : Rat) (h : a ≤ a')
    (hc : psdVerdict M eigs a = some true) : psdVerdict M eigs a' = some true := by
  rw [psdVerdict_true_iff] at *
  exact ⟨hc.1, isHermitian_mono M a a' h hc.2.1, psdEig_mono eigs a a' h hc.2.2⟩

theorem povmPsd_true_iff (Ms : List CMat) (eigss : List (List Rat)) (a : Rat) :
    povmPsd Ms eigss a = some true ↔
      Ms.length = eigss.length ∧ ∀ p ∈ Ms.zip eigss, psdVerdict p.1 p.2 a = some true := by
  rw [povmPsd]
  by_cases hl : Ms.length = eigss.length
  · rw [if_neg (not_not.2 hl), allSome_map_true_iff]; exact (and_iff_right hl).symm
  · rw [if_pos hl]; exact ⟨fun h => (nomatch h), fun h => absurd h.1 hl⟩

theorem povmPsd_mono (Ms : List CMat) (eigss : List (List Rat)) (a a' : Rat) (h : a ≤ a')
    (hc : povmPsd Ms eigss a = some true) : povmPsd Ms eigss a' = some true := by
  rw [povmPsd_true_iff] at *
  exact ⟨hc.1, fun p hp => psdVerdict_mono _ _ a a' h (hc.2 p hp)⟩

/-- `Tr[A(B_a)] = Σ_b hs[b][a]·Tr B_b` as the code accumulates it (real and imaginary part), `none` if an index is out of range -/
def traceAfter (n : Nat) (t : List C) (hs : List Rat) (a : Nat) : Option C :=
  ((List.range n).mapM fun b => hs[b * n + a]?).map fun col =>
    ((col.zip t).foldl (fun acc (p : Rat × C) => acc + p.1 * p.2.1) 0,
     (col.zip t).foldl (fun acc (p : Rat × C) => acc + p.1 * p.2.2) 0)

/-- the basis-generic TP test, column by column: `traceAfter` against the trace before -/
theorem tpTrace_eq (n : Nat) (t : List C) (hs : List Rat) (atol : Rat) :
    tpTrace n t hs atol = if hs.length ≠ n * n || t.length ≠ n then none
      else allSome ((List.range n).map fun a => (traceAfter n t hs a).bind fun after =>
        (t[a]?).bind fun before => isCloseCC after before atol gate_is_tp_trace_rtol) := by
  rw [tpTrace]
  refine if_congr Iff.rfl rfl (congrArg allSome (List.map_congr_left fun a _ => ?_))
  rw [traceAfter]
  cases (List.range n).mapM fun b => hs[b * n + a]? <;> rfl

theorem tpTrace_true_iff (n : Nat) (t : List C) (hs : List Rat) (atol : Rat) :
    tpTrace n t hs atol = some true ↔
      hs.length = n * n ∧ t.length = n ∧ ∀ a, a < n → ∃ after before, traceAfter n t hs a = some after ∧
        t[a]? = some before ∧ isCloseCC after before atol gate_is_tp_trace_rtol = some true := by
  rw [tpTrace_eq]
  by_cases hg : hs.length = n * n ∧ t.length = n
  · rw [if_neg (by simp [hg.1, hg.2]), allSome_map_true_iff]
    simp only [hg.1, hg.2, true_and, List.mem_range, Option.bind_eq_some_iff, exists_and_left]
  · rw [if_pos (by rw [Bool.or_eq_true, decide_eq_true_eq, decide_eq_true_eq]; exact not_and_or.1 hg)]
    exact ⟨fun h => (nomatch h), fun h => absurd ⟨h.1, h.2.1⟩ hg⟩

theorem tpTrace_mono (n : Nat) (t : List C) (hs : List Rat) (a a' : Rat) (h : a ≤ a')
    (hc : tpTrace n t hs a = some true) : tpTrace n t hs a' = some true := by
  rw [tpTrace_true_iff] at *
  exact ⟨hc.1, hc.2.1, fun k hk =>
    let ⟨x, y, h1, h2, h3⟩ := hc.2.2 k hk
    ⟨x, y, h1, h2, isCloseCC_mono _ _ _ _ _ h h3⟩⟩

theorem getElem?_onh0Traces (τ : Rat) {n c : Nat} (hc : c < n) :
    (onh0Traces τ n)[c]? = some (τ * (if c = 0 then 1 else 0), 0) := by
  cases c with
  | zero => rw [if_pos rfl, mul_one]; rfl
  | succ c =>
    rw [onh0Traces, List.getElem?_cons_succ, List.getElem?_replicate, if_pos (by omega), if_neg (Nat.succ_ne_zero c),
      mul_zero]

/-- with traces `(τ, 0, …, 0)` only the first row of the HS matrix enters the trace after the map -/
theorem traceAfter_onh0 (τ : Rat) {n c : Nat} (hs : List Rat) (hl : hs.length = n * n) (hc : c < n) :
    traceAfter n (onh0Traces τ n) hs c = some (hs.getD c 0 * τ, 0) := by
  have hcol : (List.range n).mapM (fun b => hs[b * n + c]?) = some ((List.range n).map fun b => hs.getD (b * n + c) 0) :=
    mapM_some_map _ _ _ fun b hb => by
      have : b * n + c < hs.length := hl ▸ idx_lt (List.mem_range.1 hb) hc
      rw [List.getD_eq_getElem?_getD, List.getElem?_eq_getElem this]; rfl
  obtain ⟨k, rfl⟩ : ∃ k, n = k + 1 := ⟨n - 1, by omega⟩
  rw [traceAfter, hcol]
  simp only [Option.map_some, List.range_succ_eq_map, List.map_cons, onh0Traces, Nat.add_sub_cancel,
    List.zip_cons_cons, List.foldl_cons, foldl_zip_zeros Prod.fst rfl, foldl_zip_zeros Prod.snd rfl, Nat.zero_mul, mul_zero,
    add_zero, zero_add]

theorem isTp_mono (onh0 : Bool) (n : Nat) (t : List C) (hs : List Rat) (a a' : Rat) (h : a ≤ a')
    (hc : isTp onh0 n t hs a = some true) : isTp onh0 n t hs a' = some true := by
  unfold isTp at *
  cases onh0
  exacts [tpTrace_mono n t hs a a' h hc, tpRow_mono n hs a a' h hc]

theorem mpSumTp_mono (onh0 : Bool) (n : Nat) (t : List C) (hss : List (List Rat)) (a a' : Rat) (h : a ≤ a')
    (hc : mpSumTp onh0 n t hss a = some true) : mpSumTp onh0 n t hss a' = some true :=
  ite_none_mono (isTp_mono onh0 n t _ a a' h) hc

theorem physical_do_iff (x y : Option Bool) :
    (do let a ← x; let b ← y; some (physical a b)) = some true ↔ x = some true ∧ y = some true := by
  rcases x with _ | _ | _ <;> rcases y with _ | _ | _ <;> decide

theorem physical_do_mono {x x' y y' : Option Bool} (hx : x = some true → x' = some true)
    (hy : y = some true → y' = some true)
    (h : (do let a ← x; let b ← y; some (physical a b)) = some true) :
    (do let a ← x'; let b ← y'; some (physical a b)) = some true :=
  (physical_do_iff _ _).2 (((physical_do_iff _ _).1 h).imp hx hy)

/-! ## eigenvalues ≥ −a ⇔ `A + a•1` positive semidefinite (Mathlib spectral theorem) -/
section spectral
open Matrix Unitary
open scoped ComplexOrder
variable {n : Type*} [Fintype n] [DecidableEq n]
/-- conjugating `diag(λ + a)` by the eigenvector unitary of `A` gives `A + a•1`, and positivity is read off the diagonal -/
theorem eigenvalues_ge_neg_iff_posSemidef {A : Matrix n n ℂ} (hA : A.IsHermitian) (a : ℝ) :
    (∀ i, -a ≤ hA.eigenvalues i) ↔ (A + (a : ℂ) • (1 : Matrix n n ℂ)).PosSemidef := by
  have hU := hA.spectral_theorem
  rw [conjStarAlgAut_apply] at hU
  have h : A + (a : ℂ) • (1 : Matrix n n ℂ) = (hA.eigenvectorUnitary : Matrix n n ℂ) *
      diagonal (fun i => ((hA.eigenvalues i + a : ℝ) : ℂ)) * star (hA.eigenvectorUnitary : Matrix n n ℂ) := by
    have h1 : (diagonal (fun i => ((hA.eigenvalues i + a : ℝ) : ℂ)) : Matrix n n ℂ) =
        diagonal (RCLike.ofReal ∘ hA.eigenvalues) + (a : ℂ) • (1 : Matrix n n ℂ) := by
      rw [smul_one_eq_diagonal, diagonal_add]
      congr 1; funext i; exact Complex.ofReal_add _ _
    rw [h1, Matrix.mul_add, Matrix.add_mul, ← hU, Matrix.mul_smul, Matrix.mul_one, Matrix.smul_mul,
      Unitary.mul_star_self_of_mem hA.eigenvectorUnitary.2]
  rw [h, isUnit_coe.posSemidef_star_right_conjugate_iff, posSemidef_diagonal_iff]
  simp only [Complex.zero_le_real, neg_le_iff_add_nonneg]

/-- the contract of `np.linalg.eigvalsh` up to accuracy `ε`: every eigenvalue of `M` is within `ε` of a list entry and
every list entry is within `ε` of an eigenvalue -/
def EigApprox {M : Matrix n n ℂ} (hM : M.IsHermitian) (eigs : List ℚ) (ε : ℝ) : Prop :=
  (∀ i, ∃ l ∈ eigs, |((l : ℚ) : ℝ) - hM.eigenvalues i| ≤ ε) ∧
  (∀ l ∈ eigs, ∃ i, |((l : ℚ) : ℝ) - hM.eigenvalues i| ≤ ε)

theorem eigenvalues_range_diagonal (r : n → ℝ) (h : (diagonal fun i => ((r i : ℝ) : ℂ)).IsHermitian) :
    Set.range h.eigenvalues = Set.range r := by
  have h1 := h.spectrum_eq_image_range (𝕜 := ℂ)
  rw [spectrum_diagonal] at h1
  have h2 : RCLike.ofReal '' Set.range r = (RCLike.ofReal '' Set.range h.eigenvalues : Set ℂ) :=
    (Set.range_comp _ r).symm.trans h1
  exact (Set.image_injective.2 RCLike.ofReal_injective h2).symm

/-- a diagonal matrix meets the `eigvalsh` contract with any list that is `ε`-close to its diagonal, both ways -/
theorem eigApprox_diagonal (r : n → ℚ) {M : Matrix n n ℂ} (hM : M.IsHermitian)
    (e : M = diagonal fun i => (((r i : ℚ) : ℝ) : ℂ)) (eigs : List ℚ) (ε : ℚ)
    (h1 : ∀ i, ∃ l ∈ eigs, |l - r i| ≤ ε) (h2 : ∀ l ∈ eigs, ∃ i, |l - r i| ≤ ε) :
    EigApprox hM eigs ((ε : ℚ) : ℝ) := by
  subst e
  have hr := eigenvalues_range_diagonal (fun i => ((r i : ℚ) : ℝ)) hM
  constructor
  · intro i
    obtain ⟨j, hj⟩ : hM.eigenvalues i ∈ Set.range fun i => ((r i : ℚ) : ℝ) := hr ▸ ⟨i, rfl⟩
    obtain ⟨l, hl, h⟩ := h1 j
    exact ⟨l, hl, by rw [← hj]; show |(l : ℝ) - ((r j : ℚ) : ℝ)| ≤ _; exact_mod_cast h⟩
  · intro l hl
    obtain ⟨j, h⟩ := h2 l hl
    obtain ⟨i, hi⟩ : ((r j : ℚ) : ℝ) ∈ Set.range hM.eigenvalues := hr ▸ ⟨j, rfl⟩
    exact ⟨i, by rw [hi]; exact_mod_cast h⟩

end spectral

/-! ## the Mathlib matrix a model matrix denotes -/
section bridge
open Matrix
/-- the complex number a model entry denotes -/
noncomputable def toC (z : C) : ℂ := ((z.1 : ℝ) : ℂ) + ((z.2 : ℝ) : ℂ) * Complex.I

/-- the Mathlib matrix a model matrix denotes (row-major) -/
noncomputable def CMat.toMatrix (M : CMat) : Matrix (Fin M.d) (Fin M.d) ℂ :=
  Matrix.of fun i j => toC (M.e.getD (i.val * M.d + j.val) (0, 0))

theorem toC_eq_star_iff (a b : C) : toC a = star (toC b) ↔ a = (b.1, -b.2) := by
  unfold toC
  rw [Complex.ext_iff]
  simp only [Complex.add_re, Complex.ofReal_re, Complex.mul_re, Complex.I_re, mul_zero, Complex.ofReal_im,
    Complex.I_im, mul_one, sub_self, add_zero, Complex.add_im, Complex.mul_im, zero_add, Complex.star_def,
    Complex.conj_re, Complex.conj_im]
  constructor
  · rintro ⟨h1, h2⟩
    have h1' : a.1 = b.1 := by exact_mod_cast h1
    have h2' : a.2 = -b.2 := by exact_mod_cast h2
    exact Prod.ext h1' h2'
  · intro h; rw [h]; simp

theorem toMatrix_isHermitian_iff (M : CMat) :
    M.toMatrix.IsHermitian ↔ ∀ i j, i < M.d → j < M.d → M.entry i j = ((M.entry j i).1, -(M.entry j i).2) := by
  rw [Matrix.IsHermitian.ext_iff]
  exact ⟨fun h i j hi hj => (toC_eq_star_iff _ _).1 (h ⟨i, hi⟩ ⟨j, hj⟩).symm,
    fun h i j => ((toC_eq_star_iff _ _).2 (h i j i.2 j.2)).symm⟩

theorem isHermitian_of_toMatrix (M : CMat) (atol : Rat) (hok : M.ok = true) (ha : 0 ≤ atol)
    (hH : M.toMatrix.IsHermitian) : isHermitian M atol = some true := by
  rw [isHermitian_iff _ _ hok]
  intro i j hi hj
  rw [← (toMatrix_isHermitian_iff M).1 hH i j hi hj]
  exact isCloseCC_self _ _ ha

theorem toMatrix_eq_diagonal (M : CMat) (r : Fin M.d → ℚ)
    (h : ∀ i j : Fin M.d, M.entry i j = if i = j then (r i, 0) else (0, 0)) :
    M.toMatrix = diagonal fun i => (((r i : ℚ) : ℝ) : ℂ) := by
  ext i j
  show toC (M.entry i j) = _
  rw [h i j, diagonal_apply]
  split <;> simp [toC]

theorem zeroMat_toMatrix : (⟨2, [(0,0),(0,0),(0,0),(0,0)]⟩ : CMat).toMatrix = 0 := by
  rw [toMatrix_eq_diagonal _ (fun _ => 0) (by decide +kernel)]
  simp

/-! a concrete instance for the sandwich theorems: the qubit state diag(2/3, 1/3) -/
abbrev exRho : CMat := ⟨2, [(2/3, 0), (0, 0), (0, 0), (1/3, 0)]⟩
def exDiag : Fin 2 → ℚ := ![2/3, 1/3]

theorem exRho_toMatrix : exRho.toMatrix = diagonal fun i => (((exDiag i : ℚ) : ℝ) : ℂ) :=
  toMatrix_eq_diagonal exRho exDiag (by decide +kernel)

theorem exRho_hermitian : exRho.toMatrix.IsHermitian := by
  rw [exRho_toMatrix]
  exact isHermitian_diagonal_of_self_adjoint _ (by ext i; simp)

theorem exRho_eigApprox : EigApprox exRho_hermitian [333/1000, 667/1000] (1/1000) := by
  have := eigApprox_diagonal exDiag exRho_hermitian exRho_toMatrix [333/1000, 667/1000] (1/1000)
    (by decide +kernel) (by decide +kernel)
  rwa [show ((1/1000 : ℚ) : ℝ) = 1/1000 by norm_num] at this

end bridge

/-! ## exact Hermiticity and trace -/
section bridge2
open Matrix
theorem closeCC_zero_iff (a b : C) : isCloseCC a b 0 0 = some true ↔ a = b := by
  rw [isCloseCC_iff]
  constructor
  · rintro ⟨_, h⟩
    have h0 := le_antisymm (h.trans_eq (mul_zero 0)) (add_nonneg (mul_self_nonneg _) (mul_self_nonneg _))
    obtain ⟨h1, h2⟩ := mul_self_add_mul_self_eq_zero.1 h0
    exact Prod.ext (sub_eq_zero.1 h1) (sub_eq_zero.1 h2)
  · rintro rfl; simp

theorem toC_add (a b : C) : toC (a.1 + b.1, a.2 + b.2) = toC a + toC b := by
  unfold toC; push_cast; ring

theorem toC_sum (l : List C) : toC ((l.map (·.1)).sum, (l.map (·.2)).sum) = (l.map toC).sum := by
  induction l with
  | nil => simp [toC]
  | cons x l ih =>
    simp only [List.map_cons, List.sum_cons]
    rw [← ih, ← toC_add]

theorem trace_real_of_hermitian (M : CMat) (hok : M.ok = true) (hH : M.toMatrix.IsHermitian) :
    ∃ x : Rat, M.trace = some (x, 0) := by
  refine ⟨_, (CMat.trace_eq M hok).trans (congrArg some (Prod.ext rfl ?_))⟩
  apply List.sum_eq_zero
  intro x hx
  obtain ⟨i, hi, rfl⟩ := List.mem_map.1 hx
  have h := congrArg Prod.snd ((toMatrix_isHermitian_iff M).1 hH i i (List.mem_range.1 hi) (List.mem_range.1 hi))
  exact self_eq_neg.1 h

end bridge2

end QM.C01
