import QProps.C04
import QProofs.C05
import Mathlib.Analysis.Matrix.Spectrum
/-! the genuine PSD projection `psdProj` on parameter vectors (model's `projIneqCore` fed with Mathlib's spectral decomposition),
used by QProps.C05 to connect the executed Dykstra loop (tapped eigh results) with the `IsProj` theorems. -/
open Matrix Finset QM QM.C04 QM.C05 QM.Psd
open scoped ComplexOrder
set_option linter.unusedSectionVars false
namespace QM.C04
variable {d : Nat}

theorem synth_isHermitian (B : Vector (Mat ℂ d d) (d * d)) (hH : HermB B) (v : Vec ℝ (d * d)) :
    (matOfVec B v).toM.IsHermitian := by
  rw [toM_matOfVec]
  exact isSelfAdjoint_sum _ fun a _ => IsSelfAdjoint.smul (RCLike.conj_ofReal _) (hH a)

/-- eigenvector matrix / eigenvalues of the operator of `v` (Mathlib's spectral theorem), as model objects -/
noncomputable def eigU (B : Vector (Mat ℂ d d) (d * d)) (hH : HermB B) (v : Vec ℝ (d * d)) : Mat ℂ d d :=
  Mat.ofFn fun i j => ((synth_isHermitian B hH v).eigenvectorUnitary : Matrix (Fin d) (Fin d) ℂ) i j
noncomputable def eigLam (B : Vector (Mat ℂ d d) (d * d)) (hH : HermB B) (v : Vec ℝ (d * d)) : Vec ℝ d :=
  Vec.ofFn fun i => (synth_isHermitian B hH v).eigenvalues i

theorem eigU_toM (B : Vector (Mat ℂ d d) (d * d)) (hH : HermB B) (v : Vec ℝ (d * d)) :
    (eigU B hH v).toM = ((synth_isHermitian B hH v).eigenvectorUnitary : Matrix (Fin d) (Fin d) ℂ) := by
  ext i j; simp [eigU]

theorem eig_contract (B : Vector (Mat ℂ d d) (d * d)) (hH : HermB B) (v : Vec ℝ (d * d)) :
    (eigU B hH v).toMᴴ * (eigU B hH v).toM = 1 ∧ matOfVec B v = rebuild (eigU B hH v) (eigLam B hH v) := by
  constructor
  · rw [eigU_toM]
    exact Unitary.coe_star_mul_self _
  · apply Mat.toM_injective
    rw [toM_rebuild, eigU_toM]
    have h := (synth_isHermitian B hH v).spectral_theorem
    rw [Unitary.conjStarAlgAut_apply] at h
    have e1 : (diagonal fun i => (((eigLam B hH v).get i : ℝ) : ℂ))
        = diagonal (RCLike.ofReal ∘ (synth_isHermitian B hH v).eigenvalues) := by
      congr 1; funext i; simp [eigLam]
    rw [e1, ← Matrix.star_eq_conjTranspose]
    exact h

/-- the genuine metric projection onto `{v | operator of v is PSD}`, defined for EVERY parameter vector: the model's
`projIneqCore` fed with Mathlib's spectral decomposition of the operator of `v` -/
noncomputable def psdProj (B : Vector (Mat ℂ d d) (d * d)) (hB : OrthoN (basisM B)) (hH : HermB B) (v : Vec ℝ (d * d)) :
    Vec ℝ (d * d) :=
  Classical.choose (projIneqCore_ok B hB hH (eigLam B hH v) (eigU B hH v))

theorem psdProj_spec (B : Vector (Mat ℂ d d) (d * d)) (hB : OrthoN (basisM B)) (hH : HermB B) (v : Vec ℝ (d * d)) :
    projIneqCore B (0 : ℝ) (eigLam B hH v) (eigU B hH v) = .ok (psdProj B hB hH v) ∧
      matOfVec B (psdProj B hB hH v) = clipMat (eigU B hH v) (eigLam B hH v) :=
  Classical.choose_spec (projIneqCore_ok B hB hH (eigLam B hH v) (eigU B hH v))

end QM.C04

namespace QM.C05
open QM.C04
variable {d : Nat}
/-- block-wise PSD projection on the flat vector of `m` operators (POVM elements; m-process outcomes through the Choi basis) -/
noncomputable def psdProjBlocks (B : Vector (Mat ℂ d d) (d * d)) (hB : OrthoN (basisM B)) (hH : HermB B) (m : Nat)
    (v : Vec ℝ (m * (d * d))) : Vec ℝ (m * (d * d)) :=
  flatten (Vector.ofFn fun k : Fin m => psdProj B hB hH (unflatten v)[k] : Mat ℝ m (d * d))
end QM.C05
