import QProofs.C07
import Mathlib.Analysis.Matrix.Order
import Mathlib.Analysis.Matrix.PosDef
/-! helper lemmas for C07: the qutrit → qubit embedding as conjugation with an isometry -/
open Matrix
namespace QM.C07

section iso
variable {t N : Nat} {R : Type} [CommRing R] [StarRing R]

/-- the isometry `V|p⟩ = |ι p⟩` of an injective map of basis labels -/
def isoV (R : Type) [CommRing R] (ι : Fin t → Fin N) : Matrix (Fin N) (Fin t) R := fun i p => if i = ι p then 1 else 0

/-- the projector onto the orthogonal complement of the embedded subspace -/
def isoQ (R : Type) [CommRing R] [StarRing R] (ι : Fin t → Fin N) : Matrix (Fin N) (Fin N) R :=
  1 - isoV R ι * (isoV R ι)ᴴ

/-- `V M Vᴴ + c·(1 − V Vᴴ)`: `M` on the embedded subspace, `c` on its orthogonal complement -/
def embIso (ι : Fin t → Fin N) (M : Matrix (Fin t) (Fin t) R) (c : R) : Matrix (Fin N) (Fin N) R :=
  isoV R ι * M * (isoV R ι)ᴴ + c • isoQ R ι

variable (ι : Fin t → Fin N) (hι : Function.Injective ι)
include hι

omit hι in
/-- a matrix as the `Nat`-indexed function `_calc_matrix_from_qutrits_to_qubits` reads -/
def natFn {t : Nat} (M : Matrix (Fin t) (Fin t) R) (p q : Nat) : R :=
  if h : p < t ∧ q < t then M ⟨p, h.1⟩ ⟨q, h.2⟩ else 0

omit hι in
theorem isoVh_apply (p : Fin t) (i : Fin N) : (isoV R ι)ᴴ p i = if i = ι p then 1 else 0 := by
  rw [conjTranspose_apply, isoV, apply_ite star, star_one, star_zero]

theorem isoV_isometry : (isoV R ι)ᴴ * isoV R ι = 1 := by
  ext p q
  simp only [mul_apply, isoVh_apply, isoV, ite_mul, one_mul, zero_mul, Finset.sum_ite_eq', Finset.mem_univ, if_true,
    one_apply, hι.eq_iff]

theorem isoVh_Q : (isoV R ι)ᴴ * isoQ R ι = 0 := by
  rw [isoQ, Matrix.mul_sub, Matrix.mul_one, ← Matrix.mul_assoc, isoV_isometry ι hι, Matrix.one_mul, sub_self]

theorem isoQ_V : isoQ R ι * isoV R ι = 0 := by
  rw [isoQ, Matrix.sub_mul, Matrix.one_mul, Matrix.mul_assoc, isoV_isometry ι hι, Matrix.mul_one, sub_self]

theorem isoQ_idem : isoQ R ι * isoQ R ι = isoQ R ι := by
  nth_rewrite 1 [isoQ]
  rw [Matrix.sub_mul, Matrix.one_mul, Matrix.mul_assoc, isoVh_Q ι hι, Matrix.mul_zero, sub_zero]

omit hι in
theorem isoQ_herm : (isoQ R ι)ᴴ = isoQ R ι := by
  simp [isoQ, conjTranspose_sub, conjTranspose_mul]

/-- embedding is multiplicative: `emb(A,a)·emb(B,b) = emb(AB, ab)` -/
theorem embIso_mul (A B : Matrix (Fin t) (Fin t) R) (a b : R) :
    embIso ι A a * embIso ι B b = embIso ι (A * B) (a * b) := by
  simp only [embIso, add_mul, mul_add, smul_mul_assoc, mul_smul_comm]
  -- the cross terms vanish (`Vᴴ Q = 0 = Q V`), `Q Q = Q`, and `Vᴴ V = 1` inside the first term
  rw [Matrix.mul_assoc _ _ (isoQ R ι), isoVh_Q ι hι, Matrix.mul_zero, ← Matrix.mul_assoc (isoQ R ι),
    ← Matrix.mul_assoc (isoQ R ι), isoQ_V ι hι, Matrix.zero_mul, Matrix.zero_mul, isoQ_idem ι hι]
  rw [smul_zero, add_zero, zero_add, smul_smul, mul_comm b a, Matrix.mul_assoc (isoV R ι * A),
    ← Matrix.mul_assoc (isoV R ι)ᴴ, ← Matrix.mul_assoc (isoV R ι)ᴴ, isoV_isometry ι hι, Matrix.one_mul,
    ← Matrix.mul_assoc, Matrix.mul_assoc (isoV R ι) A B]

omit hι in
theorem embIso_conjTranspose (M : Matrix (Fin t) (Fin t) R) (c : R) :
    (embIso ι M c)ᴴ = embIso ι Mᴴ (star c) := by
  rw [embIso, conjTranspose_add, conjTranspose_smul, isoQ_herm, conjTranspose_mul, conjTranspose_mul,
    conjTranspose_conjTranspose, ← Matrix.mul_assoc]
  rfl

omit hι in
theorem embIso_add (A B : Matrix (Fin t) (Fin t) R) (a b : R) :
    embIso ι A a + embIso ι B b = embIso ι (A + B) (a + b) := by
  simp only [embIso, Matrix.mul_add, Matrix.add_mul, add_smul]; abel

omit hι in
theorem embIso_one : embIso ι (1 : Matrix (Fin t) (Fin t) R) 1 = 1 := by
  simp [embIso, isoQ]

theorem embIso_trace (M : Matrix (Fin t) (Fin t) R) (c : R) :
    (embIso ι M c).trace = M.trace + c * ((N : R) - (t : R)) := by
  have h1 := isoV_isometry (R := R) ι hι
  simp only [embIso, isoQ, trace_add, trace_smul, trace_sub, trace_one, Fintype.card_fin, smul_eq_mul]
  rw [Matrix.trace_mul_comm, ← Matrix.mul_assoc, h1, Matrix.one_mul, Matrix.trace_mul_comm (isoV R ι), h1,
    trace_one, Fintype.card_fin]

omit hι in
theorem embIso_zero : embIso ι (0 : Matrix (Fin t) (Fin t) R) 0 = 0 := by simp [embIso]

omit hι in
/-- embedding a list of matrices, each with the same complement coefficient, and summing -/
theorem embIso_list_sum (l : List (Matrix (Fin t) (Fin t) R)) (c : R) :
    (l.map fun M => embIso ι M c).sum = embIso ι l.sum ((l.length : R) * c) := by
  induction l with
  | nil => simp [embIso_zero]
  | cons M l ih =>
    simp only [List.map_cons, List.sum_cons, ih, embIso_add, List.length_cons, Nat.cast_add, Nat.cast_one]
    congr 1; ring

omit hι in
/-- entries of the embedded matrix, with `r` inverting `ι` (`r i = p` exactly when `i = ι p`, so `r i ≥ t` off the
embedded subspace): the input entry between embedded basis states, `c` on the rest of the diagonal, 0 elsewhere -/
theorem embIso_apply (r : Fin N → Nat) (hr : ∀ i p, r i = p.val ↔ ι p = i)
    (M : Matrix (Fin t) (Fin t) R) (c : R) (i j : Fin N) :
    embIso ι M c i j = if r i < t ∧ r j < t then natFn M (r i) (r j) else if i = j then c else 0 := by
  have e : ∀ i p, (i = ι p) = (r i = p.val) := fun i p => by rw [hr]; exact propext eq_comm
  -- every sum over `p` carries a factor `if r i = p then 1 else 0` and collapses once `r i < t` is decided
  simp only [embIso, isoQ, Matrix.add_apply, Matrix.smul_apply, Matrix.sub_apply, mul_apply, isoVh_apply,
    one_apply, isoV, e]
  by_cases h1 : r i < t
  · by_cases h2 : r j < t
    · have e1 : ∀ p : Fin t, (r i = p.val) = (⟨r i, h1⟩ = p) := fun p => by rw [Fin.ext_iff]
      have e2 : ∀ p : Fin t, (r j = p.val) = (⟨r j, h2⟩ = p) := fun p => by rw [Fin.ext_iff]
      have hij : i = j ↔ r i = r j :=
        ⟨fun h => h ▸ rfl, fun h => ((hr i ⟨r i, h1⟩).1 rfl).symm.trans ((hr j ⟨r i, h1⟩).1 h.symm)⟩
      simp only [e1, ite_mul, one_mul, zero_mul, Finset.sum_ite_eq, Finset.mem_univ, ↓reduceIte, e2, mul_ite,
        mul_one, mul_zero, hij, Fin.mk.injEq, sub_self, smul_eq_mul, add_zero, h1, h2, and_self, natFn, ↓reduceDIte]
    · have hq : ∀ q : Fin t, r j ≠ q.val := fun q h => h2 (h ▸ q.isLt)
      have hij : i ≠ j := fun h => h2 (h ▸ h1)
      simp only [ite_mul, one_mul, zero_mul, hq, ↓reduceIte, mul_zero, Finset.sum_const_zero, hij, sub_self,
        smul_eq_mul, add_zero, h2, and_false]
  · have hp : ∀ p : Fin t, r i ≠ p.val := fun p h => h1 (h ▸ p.isLt)
    simp only [hp, ↓reduceIte, zero_mul, Finset.sum_const_zero, mul_ite, mul_one, mul_zero, ite_self, sub_zero,
      smul_eq_mul, zero_add, h1, false_and]

end iso

section psd
open scoped ComplexOrder
variable {t N : Nat} (ι : Fin t → Fin N) (hι : Function.Injective ι)
include hι

/-- the embedding of a PSD matrix with a non-negative complement coefficient is PSD -/
theorem embIso_posSemidef (M : Matrix (Fin t) (Fin t) ℂ) (hM : M.PosSemidef) (c : ℂ) (hc : 0 ≤ c) :
    (embIso ι M c).PosSemidef := by
  have hQ : (isoQ ℂ ι).PosSemidef := by
    have := posSemidef_conjTranspose_mul_self (isoQ ℂ ι)
    rwa [isoQ_herm, isoQ_idem ι hι] at this
  exact (hM.mul_mul_conjTranspose_same _).add (hQ.smul hc)

end psd

/-! ### the relabellings for one and two qutrits: `V|a b⟩ = |a⟩|b⟩`, each qutrit in the first three levels of two qubits -/

def iota1 : Fin 3 → Fin 4 := fun p => ⟨p.val, by omega⟩
def iota2 : Fin 9 → Fin 16 := fun p => ⟨4 * (p.val / 3) + p.val % 3, by omega⟩

theorem iota1_inj : Function.Injective iota1 := by decide
theorem iota2_inj : Function.Injective iota2 := by decide

end QM.C07
