import QModel.C17
import QProofs.C18
import QProofs.Psd
import Mathlib.Analysis.Matrix.Spectrum
/-! For the certificate checkers of C17: a Hermitian matrix of Frobenius norm ≤ ε is ≥ −ε·1 (spectral theorem); the squared
Frobenius norm `frob2` of the executed model carried to `ℂ`; the Choi matrix of `ρ ↦ KρKᴴ`; membership in the generated name lists. -/
open Matrix
namespace QM.C17
open QM QM.C18
open scoped ComplexOrder

variable {n : Type} [Fintype n] [DecidableEq n]

theorem herm_add_eps_psd (R : Matrix n n ℂ) (hR : R.IsHermitian) (ε : ℝ) (hε : 0 ≤ ε)
    (h : (R * R).trace.re ≤ ε ^ 2) : (R + (ε : ℂ) • (1 : Matrix n n ℂ)).PosSemidef := by
  set U : Matrix n n ℂ := (hR.eigenvectorUnitary : Matrix n n ℂ) with hUdef
  have hU1 : Uᴴ * U = 1 := Matrix.mem_unitaryGroup_iff'.mp hR.eigenvectorUnitary.2
  have hU2 : U * Uᴴ = 1 := Matrix.mem_unitaryGroup_iff.mp hR.eigenvectorUnitary.2
  set lam := hR.eigenvalues with hlam
  have hspec : R = U * diagonal (fun i => ((lam i : ℝ) : ℂ)) * Uᴴ := by
    have := hR.spectral_theorem
    rwa [Unitary.conjStarAlgAut_apply] at this
  -- `tr R² = Σ λᵢ²`, so every `λᵢ² ≤ ε²`
  have htr : (R * R).trace.re = ∑ i, (lam i) ^ 2 := by
    conv_lhs => rw [hspec]
    rw [QM.Psd.conj_diag_mul U hU1, Matrix.trace_mul_cycle, hU1, Matrix.one_mul, Matrix.trace_diagonal,
      Complex.re_sum]
    refine Finset.sum_congr rfl fun i _ => ?_
    rw [← Complex.ofReal_mul, Complex.ofReal_re, pow_two]
  have hl : ∀ i, 0 ≤ lam i + ε := by
    intro i
    have h1 : (lam i) ^ 2 ≤ ε ^ 2 :=
      le_trans (Finset.single_le_sum (f := fun i => (lam i) ^ 2) (fun j _ => sq_nonneg _) (Finset.mem_univ i))
        (htr ▸ h)
    exact neg_le_iff_add_nonneg.mp (neg_le_of_abs_le (abs_le_of_sq_le_sq h1 hε))
  have hd : diagonal (fun i => (((lam i + ε : ℝ)) : ℂ))
      = diagonal (fun i => ((lam i : ℝ) : ℂ)) + (ε : ℂ) • (1 : Matrix n n ℂ) := by
    ext i j
    by_cases hij : i = j
    · subst hij; simp
    · simp [hij]
  have heq : R + (ε : ℂ) • (1 : Matrix n n ℂ) = U * diagonal (fun i => (((lam i + ε : ℝ)) : ℂ)) * Uᴴ := by
    rw [hd, Matrix.mul_add, Matrix.add_mul, ← hspec, Matrix.mul_smul, Matrix.smul_mul, Matrix.mul_one, hU2]
  rw [heq]
  exact QM.Psd.conj_diag_psd (𝕜 := ℂ) U (fun i => lam i + ε) hl


section certbridge
open scoped ComplexOrder
variable {n : Nat}

/-- squared Frobenius norm of a complex matrix: `tr(RᴴR)` (a non-negative real) -/
noncomputable def frobSq {m k : Nat} (R : Matrix (Fin m) (Fin k) ℂ) : ℝ := (Rᴴ * R).trace.re

theorem frobSq_eq_zero {m k : Nat} (R : Matrix (Fin m) (Fin k) ℂ) (h : frobSq R ≤ 0) : R = 0 := by
  have hpsd := Matrix.posSemidef_conjTranspose_mul_self R
  have hnn : 0 ≤ (Rᴴ * R).trace := hpsd.trace_nonneg
  have hre : (Rᴴ * R).trace.re = 0 := le_antisymm h (Complex.nonneg_iff.mp hnn).1
  have him : (Rᴴ * R).trace.im = 0 := ((Complex.nonneg_iff.mp hnn).2).symm
  have : (Rᴴ * R).trace = 0 := Complex.ext hre him
  exact Matrix.trace_conjTranspose_mul_self_eq_zero_iff.mp this

/-- Matrix-level core of `psdCert` soundness -/
theorem psd_of_cert_matrix (M V : Matrix (Fin n) (Fin n) ℂ) (dg : Fin n → ℝ) (hd : ∀ i, 0 ≤ dg i) (ε : ℝ) (hε : 0 ≤ ε)
    (hM : Mᴴ = M) (h : frobSq (M - V * diagonal (fun i => ((dg i : ℝ) : ℂ)) * Vᴴ) ≤ ε ^ 2) :
    (M + (ε : ℂ) • (1 : Matrix (Fin n) (Fin n) ℂ)).PosSemidef := by
  set P : Matrix (Fin n) (Fin n) ℂ := V * diagonal (fun i => ((dg i : ℝ) : ℂ)) * Vᴴ with hP
  have hPpsd : P.PosSemidef := QM.Psd.conj_diag_psd (𝕜 := ℂ) V dg hd
  have hRh : (M - P).IsHermitian := by
    unfold Matrix.IsHermitian
    rw [Matrix.conjTranspose_sub, hM, hPpsd.isHermitian.eq]
  have hR := herm_add_eps_psd (M - P) hRh ε hε (by
    unfold frobSq at h
    rw [hRh.eq] at h
    exact h)
  have : M + (ε : ℂ) • (1 : Matrix (Fin n) (Fin n) ℂ) = P + (M - P + (ε : ℂ) • 1) := by abel
  rw [this]
  exact hPpsd.add hR

/-- `frob2` of the executed model is `tr(AᴴA)` (any field with involution, in particular `CRat`) -/
theorem frob2_eq_trace {K : Type} [Field K] [StarRing K] {m k : Nat} (A : Mat K m k) :
    frob2 A = (A.toMᴴ * A.toM).trace := by
  simp only [frob2, fsum_eq_sum, Matrix.trace, Matrix.diag_apply, Matrix.mul_apply,
    Matrix.conjTranspose_apply, Mat.toM_apply, conj_eq_star]
  rw [Finset.sum_comm]

theorem frob2_re_cast {m k : Nat} (A : Mat CRat m k) : (((frob2 A).re : ℚ) : ℝ) = frobSq (mapC A) := by
  unfold frobSq
  rw [show (((frob2 A).re : ℚ) : ℝ) = (CRat.toC (frob2 A)).re from rfl]
  congr 1
  have h := frob2_eq_trace A
  have hconj : (mapC A)ᴴ = (A.toMᴴ).map CRat.toC := by
    ext i j; simp [mapC, Matrix.conjTranspose_apply, CRat.toC_star]
  rw [h, hconj, mapC, ← Matrix.map_mul, ← AddMonoidHom.map_trace]

/-- a rational bound `x ≤ ε·ε`, as the deciders test it, read in `ℝ` -/
theorem cast_le_sq {x eps : ℚ} (h : x ≤ eps * eps) : (x : ℝ) ≤ ((eps : ℚ) : ℝ) ^ 2 := by
  rw [pow_two]; exact_mod_cast h

/-- what a passed Frobenius-norm test of the executed deciders says about the embedded matrix -/
theorem frobSq_le_of_frob2 {m k : Nat} (A : Mat CRat m k) (eps : ℚ) (h : (frob2 A).re ≤ eps * eps) :
    frobSq (mapC A) ≤ ((eps : ℚ) : ℝ) ^ 2 := by
  rw [← frob2_re_cast]; exact cast_le_sq h

theorem mapC_diag (v : Vec CRat n) : mapC (diag v) = diagonal (fun i => CRat.toC (v.get i)) := by
  ext i j
  by_cases h : i = j
  · subst h; simp [mapC, diag]
  · simp [mapC, diag, h]

theorem toC_clipPos (lam : Vec Rat n) (i : Fin n) :
    CRat.toC ((clipPos lam).get i) = (((max ((lam.get i : ℚ) : ℝ) 0 : ℝ)) : ℂ) := by
  simp only [clipPos, Vec.get_ofFn, toC_ofRat_clip]

theorem mapC_sumResid (Ms : List (Mat CRat n n)) : mapC (sumResid Ms) = (Ms.map mapC).sum - 1 := by
  unfold sumResid
  rw [mapC_sub, map_foldl_add Mat.add mapC mapC_add, mapC_zero, zero_add, mapC_one]

/-- the model's `hsOfUnitary`, entrywise in `ℂ`: `tr(B_aᴴ · U B_b Uᴴ)` -/
theorem mapC_hsOfUnitary {d : Nat} (B : Basis CRat d) (U : Mat CRat d d) (a b : Fin (d * d)) :
    mapC (hsOfUnitary B U) a b
      = ((mapC (B.get a))ᴴ * (mapC U * mapC (B.get b) * (mapC U)ᴴ)).trace := by
  rw [mapC_apply]
  simp only [hsOfUnitary, Mat.get_ofFn]
  rw [trMul_eq_trace, ← mapC_adj, ← mapC_adj, ← mapC_mul, ← mapC_mul, ← mapC_mul]
  simp only [mapC, ← AddMonoidHom.map_trace, Mat.toM_mul]
end certbridge

/-- `tr Σ K X Kᴴ = tr (Σ KᴴK) X` for Kraus operators given as a list -/
theorem trace_list_conj {α R n : Type} [CommRing R] [StarRing R] [Fintype n] (f : α → Matrix n n R) (X : Matrix n n R)
    (l : List α) :
    ((l.map fun k => f k * X * (f k)ᴴ).sum).trace = ((l.map fun k => (f k)ᴴ * f k).sum * X).trace := by
  induction l with
  | nil => simp
  | cons k l ih =>
    simp only [List.map_cons, List.sum_cons, Matrix.trace_add, Matrix.add_mul, ih]
    rw [Matrix.trace_mul_cycle]

section gentables
open QGen.C17

/-- one test of a chain `if c then True else …` -/
theorem ite_true_eq_true (c : Prop) [Decidable c] (b : Bool) : (if c then true else b) = true ↔ c ∨ b = true := by
  split_ifs with h <;> simp [h]

theorem prodTuples_two_join (A B : List String) :
    (prodTuples [A, B]).map String.join = A.flatMap fun a => B.map fun b => a ++ b := by
  simp only [prodTuples, List.map_flatMap, List.flatMap_map, List.map_map, List.flatMap_cons, List.flatMap_nil,
    List.map_cons, List.map_nil, List.append_nil]
  simp [String.join, List.map_eq_flatMap]

theorem mem_prodTuples_two_join {A B : List String} {name : String} :
    name ∈ (prodTuples [A, B]).map String.join ↔ ∃ b ∈ A, ∃ a ∈ B, name = b ++ a := by
  simp only [prodTuples_two_join, List.mem_flatMap, List.mem_map, eq_comm (a := name)]

/-- the comprehension `[n1 + "_" + n2 for n1 in L for n2 in L if n1 != n2]` -/
theorem mem_distinct_pairs {L : List String} {name : String} :
    name ∈ (L.flatMap fun n1 => (L.filter fun n2 => n1 != n2).map fun n2 => n1 ++ "_" ++ n2) ↔
      ∃ n1 ∈ L, ∃ n2 ∈ L, n1 ≠ n2 ∧ name = n1 ++ "_" ++ n2 := by
  simp only [List.mem_flatMap, List.mem_map, List.mem_filter, bne_iff_ne, ne_eq, and_assoc, eq_comm (a := name)]
end gentables

section certhelpers
variable {n : Nat}
theorem toM_diag (v : Vec ℂ n) : (diag v).toM = diagonal (fun i => v.get i) := by
  ext i j
  by_cases h : i = j
  · subst h; simp [diag]
  · simp [diag, h]

end certhelpers

section choihelpers
variable {n : Type} [Fintype n] [DecidableEq n]
/-- Choi matrix `Σ_ij E_ij ⊗ Φ(E_ij)` of a map on matrices -/
def choi (Φ : Matrix n n ℂ → Matrix n n ℂ) : Matrix (n × n) (n × n) ℂ :=
  fun p q => Φ (Matrix.single p.1 q.1 1) p.2 q.2

/-- Choi matrix of `ρ ↦ KρKᴴ` is the rank-one matrix `|vec K⟩⟩⟨⟨vec K|` -/
theorem choi_conj (K : Matrix n n ℂ) :
    choi (fun ρ => K * ρ * Kᴴ) = vecMulVec (fun p : n × n => K p.2 p.1) (star fun p : n × n => K p.2 p.1) := by
  ext p q
  simp [choi, vecMulVec_apply, Matrix.mul_apply, Matrix.single_apply, Matrix.conjTranspose_apply,
    Finset.sum_mul, ite_and]

end choihelpers

end QM.C17
