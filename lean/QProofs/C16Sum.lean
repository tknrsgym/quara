import QProofs.C16
import Mathlib.Data.List.Nodup
import Mathlib.Data.List.Forall2
import Mathlib.Algebra.BigOperators.Group.List.Basic
import Mathlib.Tactic.Ring
import Mathlib.Algebra.Order.Field.Rat
/-! helper lemmas for the marginal / conditional theorems of C16 (Mathlib lists): sums grouped by a key, `allMulti`,
projections, and `matchesCond mi idxs vals` as the test `project mi idxs = vals` for strictly ascending in-range `idxs` -/
namespace QM.C16

theorem rsum_nil : rsum [] = 0 := rfl
theorem rsum_cons (a : Rat) (l : List Rat) : rsum (a :: l) = a + rsum l := rfl

/-- `rsum` is the library's `List.sum` -/
theorem rsum_eq_sum (l : List Rat) : rsum l = l.sum := rfl

theorem sum_map_ite_eq {β : Type} [DecidableEq β] (os : List β) (hnd : os.Nodup) (b : β) (c : Rat) :
    (os.map fun o => if b = o then c else 0).sum = if b ∈ os then c else 0 := by
  induction os with
  | nil => rfl
  | cons o os ih =>
    have hnd' := List.nodup_cons.1 hnd
    simp only [List.map_cons, List.sum_cons, ih hnd'.2, List.mem_cons]
    by_cases hbo : b = o
    · subst hbo; simp [hnd'.1]
    · simp [hbo]

/-- grouping a list of weighted items by a key and summing the groups preserves the total -/
theorem rsum_partition {α β : Type} [DecidableEq β] (xs : List α) (f : α → β) (v : α → Rat)
    (os : List β) (hnd : os.Nodup) (hmem : ∀ x ∈ xs, f x ∈ os) :
    rsum (os.map fun o => rsum (xs.filterMap fun x => if f x = o then some (v x) else none))
      = rsum (xs.map v) := by
  simp only [rsum_eq_sum]
  induction xs with
  | nil => exact List.sum_map_zero
  | cons x xs ih =>
    have h1 : ∀ o, ((x :: xs).filterMap fun x => if f x = o then some (v x) else none).sum
        = (if f x = o then v x else 0) + (xs.filterMap fun x => if f x = o then some (v x) else none).sum := by
      intro o
      by_cases h : f x = o <;> simp [h]
    simp only [h1, List.sum_map_add, List.map_cons, List.sum_cons]
    rw [sum_map_ite_eq os hnd, if_pos (hmem x List.mem_cons_self), ih fun y hy => hmem y (List.mem_cons_of_mem _ hy)]

/-! ### multi-indices -/

theorem mem_allMulti {shape mi : List Nat} :
    mi ∈ allMulti shape ↔ List.Forall₂ (· < ·) mi shape := by
  induction shape generalizing mi with
  | nil => cases mi <;> simp [allMulti]
  | cons l ls ih =>
    simp only [allMulti, List.mem_flatMap, List.mem_range, List.mem_map]
    constructor
    · rintro ⟨i, hi, t, ht, rfl⟩
      exact List.Forall₂.cons hi (ih.1 ht)
    · intro h
      cases h with
      | cons hi ht => exact ⟨_, hi, _, ih.2 ht, rfl⟩

theorem allMulti_nodup (shape : List Nat) : (allMulti shape).Nodup := by
  induction shape with
  | nil => simp [allMulti]
  | cons l ls ih =>
    simp only [allMulti]
    rw [List.nodup_flatMap]
    refine ⟨fun i _ => ih.map (fun a b h => by simpa using h), ?_⟩
    refine List.Pairwise.imp_of_mem ?_ (List.nodup_range (n := l))
    intro a b _ _ hab
    simp only [Function.onFun, List.disjoint_left, List.mem_map]
    rintro x ⟨t, _, rfl⟩ ⟨t', _, h⟩
    simp at h
    exact hab h.1.symm

theorem length_of_mem_allMulti {shape mi : List Nat} (h : mi ∈ allMulti shape) :
    mi.length = shape.length :=
  (mem_allMulti.1 h).length_eq

theorem allMulti_single (n : Nat) : allMulti [n] = (List.range n).map fun i => [i] := by
  simp only [allMulti, List.map_cons, List.map_nil]
  induction n with
  | zero => simp
  | succ n ih => simp [List.range_succ, ih]

/-! ### projections -/

/-- projection with an explicit start offset of the position counter -/
def projectFrom {α : Type} (k : Nat) (l : List α) (keep : List Nat) : List α :=
  ((l.zipIdx k).filter fun xp => keep.contains xp.2).map (·.1)

theorem project_eq_projectFrom {α : Type} (l : List α) (keep : List Nat) :
    project l keep = projectFrom 0 l keep := rfl

theorem projectFrom_cons {α : Type} (k : Nat) (a : α) (l : List α) (keep : List Nat) :
    projectFrom k (a :: l) keep =
      if keep.contains k then a :: projectFrom (k + 1) l keep else projectFrom (k + 1) l keep := by
  simp only [projectFrom, List.zipIdx_cons, List.filter_cons]
  split <;> simp

theorem forall₂_projectFrom {R : Nat → Nat → Prop} {a b : List Nat} (h : List.Forall₂ R a b)
    (k : Nat) (keep : List Nat) : List.Forall₂ R (projectFrom k a keep) (projectFrom k b keep) := by
  induction h generalizing k with
  | nil => simp [projectFrom]
  | cons hab _ ih =>
    rw [projectFrom_cons, projectFrom_cons]
    split
    · exact List.Forall₂.cons hab (ih (k + 1))
    · exact ih (k + 1)

theorem project_mem_allMulti {shape mi : List Nat} (h : mi ∈ allMulti shape) (keep : List Nat) :
    project mi keep ∈ allMulti (project shape keep) := by
  rw [mem_allMulti] at *
  exact forall₂_projectFrom h 0 keep

theorem projectFrom_nil_keep {α : Type} (k : Nat) (l : List α) : projectFrom k l [] = [] := by
  simp [projectFrom]

theorem projectFrom_nil {α : Type} (k : Nat) (keep : List Nat) :
    projectFrom k ([] : List α) keep = [] := by
  simp [projectFrom]

/-- positions below the start offset are never selected -/
theorem projectFrom_cons_lt {α : Type} (k i : Nat) (l : List α) (keep : List Nat) (h : i < k) :
    projectFrom k l (i :: keep) = projectFrom k l keep := by
  induction l generalizing k with
  | nil => simp [projectFrom]
  | cons a l ih =>
    rw [projectFrom_cons, projectFrom_cons, ih (k + 1) (by omega)]
    have hne : ¬ k = i := by omega
    simp [hne]

theorem projectFrom_single {α : Type} (k i : Nat) (l : List α) (hk : k ≤ i) :
    projectFrom k l [i] = (l[i - k]?).toList := by
  induction l generalizing k with
  | nil => rfl
  | cons a l ih =>
    rw [projectFrom_cons]
    by_cases h : k = i
    · subst h
      rw [if_pos (by simp), projectFrom_cons_lt _ _ _ _ (Nat.lt_succ_self k), projectFrom_nil_keep, Nat.sub_self]
      rfl
    · rw [if_neg (by simpa using h), ih (k + 1) (by omega), show i - k = (i - (k + 1)) + 1 by omega]
      rfl

theorem project_single {α : Type} (i : Nat) (l : List α) (h : i < l.length) :
    project l [i] = [l[i]] := by
  rw [project_eq_projectFrom, projectFrom_single 0 i l (Nat.zero_le _), Nat.sub_zero, List.getElem?_eq_getElem h]
  rfl

/-! ### `condValue` / `condOk` on a cons pair -/

/-- the reversed `find?` looks at the tail first, the head pair is the fallback -/
theorem condValue_cons (i v pos : Nat) (is vs : List Nat) :
    condValue (i :: is) (v :: vs) pos =
      (condValue is vs pos).or (if i = pos then some v else none) := by
  unfold condValue
  rw [List.zip_cons_cons, List.reverse_cons, List.find?_append, Option.map_or]
  congr 1
  by_cases h : i = pos <;> simp [h]

theorem condValue_of_not_mem (idxs vals : List Nat) (pos : Nat) (h : pos ∉ idxs) :
    condValue idxs vals pos = none := by
  unfold condValue
  rw [Option.map_eq_none_iff, List.find?_eq_none]
  rintro ⟨a, b⟩ hx
  have hmem := (List.of_mem_zip (List.mem_reverse.1 hx)).1
  simp only [decide_eq_true_eq]
  rintro rfl
  exact h hmem

theorem condOk_of_not_mem (idxs vals : List Nat) (x pos : Nat) (h : pos ∉ idxs) :
    condOk idxs vals x pos = true := by
  rw [condOk, condValue_of_not_mem idxs vals pos h]

theorem condOk_cons_ne (i v x pos : Nat) (is vs : List Nat) (h : i ≠ pos) :
    condOk (i :: is) (v :: vs) x pos = condOk is vs x pos := by
  rw [condOk, condOk, condValue_cons, if_neg h, Option.or_none]

theorem condOk_cons_eq (i v x : Nat) (is vs : List Nat) (h : i ∉ is) :
    condOk (i :: is) (v :: vs) x i = decide (x = v) := by
  rw [condOk, condValue_cons, condValue_of_not_mem is vs i h, if_pos rfl]
  rfl

/-! ### the conditioning test is a projection test -/

/-- a selection inside the window `[k, k + (n + 1))` that misses `k` lies inside `[k + 1, k + 1 + n)` -/
theorem window_succ {k n : Nat} {l : List Nat} (hr : ∀ j ∈ l, k ≤ j ∧ j < k + (n + 1)) (hk : k ∉ l) :
    ∀ j ∈ l, k + 1 ≤ j ∧ j < k + 1 + n := fun j hj => by
  have := hr j hj
  have : j ≠ k := fun e => hk (e ▸ hj)
  omega

/-- over a strictly ascending in-range selection, the conditioning test on the entries from position `k` on says that
the selected entries are `vals` (in particular there are as many) -/
theorem zipIdx_all_condOk (mi : List Nat) (k : Nat) (idxs vals : List Nat)
    (hasc : idxs.Pairwise (· < ·)) (hr : ∀ i ∈ idxs, k ≤ i ∧ i < k + mi.length) :
    (((mi.zipIdx k).all fun xp => condOk idxs vals xp.1 xp.2) = true ∧ vals.length = idxs.length) ↔
      projectFrom k mi idxs = vals := by
  induction mi generalizing k idxs vals with
  | nil =>
    obtain rfl : idxs = [] := List.eq_nil_iff_forall_not_mem.2 fun i hi => by have := hr i hi; simp at this; omega
    rw [projectFrom_nil]
    exact ⟨fun h => (List.length_eq_zero_iff.1 h.2).symm, fun h => ⟨rfl, by rw [← h]⟩⟩
  | cons a l ih =>
    rw [projectFrom_cons, List.zipIdx_cons, List.all_cons]
    by_cases hk : k ∈ idxs
    · -- ascending and bounded below by `k`: a selected `k` is the head
      obtain ⟨is, rfl⟩ : ∃ is, idxs = k :: is := by
        cases idxs with
        | nil => cases hk
        | cons i is =>
          rcases List.mem_cons.1 hk with rfl | h
          · exact ⟨is, rfl⟩
          · have := (List.pairwise_cons.1 hasc).1 k h; have := (hr i List.mem_cons_self).1; omega
      obtain ⟨hlt, hasc'⟩ := List.pairwise_cons.1 hasc
      have hnm : k ∉ is := fun hm => Nat.lt_irrefl _ (hlt k hm)
      rw [if_pos (by simp), projectFrom_cons_lt (k + 1) k l is (Nat.lt_succ_self k)]
      cases vals with
      | nil => simp
      | cons v vs =>
        have hrest : ((l.zipIdx (k + 1)).all fun xp => condOk (k :: is) (v :: vs) xp.1 xp.2)
            = ((l.zipIdx (k + 1)).all fun xp => condOk is vs xp.1 xp.2) := by
          rw [Bool.eq_iff_iff, List.all_eq_true, List.all_eq_true]
          refine forall_congr' fun xp => forall_congr' fun hxp => ?_
          have := List.le_snd_of_mem_zipIdx hxp
          rw [condOk_cons_ne k v xp.1 xp.2 is vs (by omega)]
        rw [hrest, condOk_cons_eq k v a is vs hnm, List.cons.injEq, ← ih (k + 1) is vs hasc'
          (window_succ (fun j hj => hr j (List.mem_cons_of_mem _ hj)) hnm)]
        simp [and_assoc]
    · rw [if_neg (by simpa using hk), condOk_of_not_mem _ _ a k hk, ← ih (k + 1) idxs vals hasc (window_succ hr hk)]
      simp

/-- for a strictly ascending, in-range list of conditioning variables the event test of
`conditionalize` on as many values is "the projection onto the conditioning variables equals `vals`" -/
theorem matchesCond_iff_project (mi idxs vals : List Nat)
    (hasc : idxs.Pairwise (· < ·)) (hr : ∀ i ∈ idxs, i < mi.length) :
    (matchesCond mi idxs vals = true ∧ vals.length = idxs.length) ↔ project mi idxs = vals :=
  zipIdx_all_condOk mi 0 idxs vals hasc fun i hi => ⟨Nat.zero_le _, by simpa using hr i hi⟩

theorem project_length (l idxs : List Nat) (hasc : idxs.Pairwise (· < ·)) (hr : ∀ i ∈ idxs, i < l.length) :
    (project l idxs).length = idxs.length :=
  ((matchesCond_iff_project l idxs _ hasc hr).2 rfl).2

/-- for a strictly ascending, in-range list of conditioning variables the slice of `conditionalize` consists of the
entries whose multi-index projects onto the conditioning assignment -/
theorem conditionalRaw_eq_filter (ps : List Rat) (shape idxs vals : List Nat) (hasc : idxs.Pairwise (· < ·))
    (hr : ∀ i ∈ idxs, i < shape.length) (hvl : vals.length = idxs.length) :
    (conditionalRaw ps shape idxs vals).2 =
      ((allMulti shape).zip ps).filterMap fun x => if project x.1 idxs = vals then some x.2 else none := by
  apply List.filterMap_congr
  intro x hx
  have hl : ∀ i ∈ idxs, i < x.1.length := fun i hi => by
    rw [length_of_mem_allMulti (List.of_mem_zip hx).1]; exact hr i hi
  have hiff := matchesCond_iff_project x.1 idxs vals hasc hl
  by_cases h : project x.1 idxs = vals
  · rw [if_pos h]; exact if_pos (hiff.2 h).1
  · rw [if_neg h]; exact if_neg fun hm => h (hiff.1 ⟨hm, hvl⟩)

end QM.C16
