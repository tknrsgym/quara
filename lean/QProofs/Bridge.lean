import QModel.Core
import Mathlib.Data.Matrix.Mul
import Mathlib.Algebra.BigOperators.Fin
import Mathlib.LinearAlgebra.Matrix.Trace
/-!
# Bridge from the executable `QM.Mat`/`QM.Vec` model to Mathlib matrices

`toM`/`toV` are the obvious maps; every executable operation is a homomorphism, so after
`simp [toM_mul, …]` a statement about the executed definitions is a statement about Mathlib's.
-/
open Matrix
namespace QM

theorem lsum_eq_sum {K : Type} [AddCommMonoid K] (l : List K) : lsum l = l.sum := by
  induction l with
  | nil => rfl
  | cons a l ih => simp [lsum] at *; rw [← ih]

theorem fsum_eq_sum {K : Type} [AddCommMonoid K] (n : Nat) (f : Fin n → K) :
    fsum n f = ∑ i, f i := by
  simp [fsum, lsum_eq_sum, Fin.sum_univ_def]

namespace Vec
variable {K : Type} {n : Nat}
def toV (v : Vec K n) : Fin n → K := fun i => v.get i
@[simp] theorem get_ofFn (f : Fin n → K) (i : Fin n) : (ofFn f).get i = f i := by simp [ofFn, get]
@[simp] theorem toV_ofFn (f : Fin n → K) : toV (ofFn f) = f := by funext i; simp [toV]
theorem ext' {u v : Vec K n} (h : ∀ i, u.get i = v.get i) : u = v := by
  apply Vector.ext; intro i hi; exact h ⟨i, hi⟩
theorem toV_injective : Function.Injective (toV : Vec K n → Fin n → K) := by
  intro u v h; apply ext'; intro i; exact congrFun h i
@[simp] theorem toV_add [Add K] (u v : Vec K n) : toV (u.add v) = toV u + toV v := by
  funext i; simp [toV, add]
@[simp] theorem toV_sub [Sub K] (u v : Vec K n) : toV (u.sub v) = toV u - toV v := by
  funext i; simp [toV, sub]
@[simp] theorem toV_smul [Mul K] (c : K) (v : Vec K n) : toV (v.smul c) = c • toV v := by
  funext i; simp [toV, smul]
@[simp] theorem toV_zero [Zero K] : toV (zero : Vec K n) = 0 := by funext i; simp [toV, zero]
theorem dot_eq [NonUnitalNonAssocSemiring K] (u v : Vec K n) : u.dot v = toV u ⬝ᵥ toV v := by
  simp [dot, fsum_eq_sum, dotProduct, toV]
end Vec

namespace Mat
variable {K : Type} {m n p : Nat}
def toM (A : Mat K m n) : Matrix (Fin m) (Fin n) K := Matrix.of fun i j => A.get i j
@[simp] theorem get_ofFn (f : Fin m → Fin n → K) (i : Fin m) (j : Fin n) : (ofFn f).get i j = f i j := by
  simp [ofFn, get]
@[simp] theorem toM_apply (A : Mat K m n) (i : Fin m) (j : Fin n) : A.toM i j = A.get i j := rfl
@[simp] theorem toM_ofFn (f : Fin m → Fin n → K) : toM (ofFn f) = Matrix.of f := by ext i j; simp
theorem ext' {A B : Mat K m n} (h : ∀ i j, A.get i j = B.get i j) : A = B := by
  apply Vector.ext; intro i hi; apply Vector.ext; intro j hj; exact h ⟨i, hi⟩ ⟨j, hj⟩
theorem toM_injective : Function.Injective (toM : Mat K m n → Matrix (Fin m) (Fin n) K) := by
  intro A B h; apply ext'; intro i j; exact congrFun (congrFun h i) j
@[simp] theorem toM_add [Add K] (A B : Mat K m n) : (A.add B).toM = A.toM + B.toM := by ext i j; simp [add]
@[simp] theorem toM_sub [Sub K] (A B : Mat K m n) : (A.sub B).toM = A.toM - B.toM := by ext i j; simp [sub]
@[simp] theorem toM_neg [Neg K] (A : Mat K m n) : A.neg.toM = - A.toM := by ext i j; simp [neg]
@[simp] theorem toM_smul [Mul K] (c : K) (A : Mat K m n) : (A.smul c).toM = c • A.toM := by ext i j; simp [smul]
@[simp] theorem toM_zero [Zero K] : (zero : Mat K m n).toM = 0 := by ext i j; simp [zero]
@[simp] theorem toM_one [Zero K] [One K] : (one : Mat K n n).toM = 1 := by
  ext i j; simp [one, Matrix.one_apply]
@[simp] theorem toM_transpose (A : Mat K m n) : A.transpose.toM = A.toMᵀ := by ext i j; simp [transpose]
@[simp] theorem toM_mul [NonUnitalNonAssocSemiring K] (A : Mat K m n) (B : Mat K n p) :
    (A.mul B).toM = A.toM * B.toM := by
  ext i j; simp [mul, Matrix.mul_apply, fsum_eq_sum]
@[simp] theorem toV_mulVec [NonUnitalNonAssocSemiring K] (A : Mat K m n) (v : Vec K n) :
    Vec.toV (A.mulVec v) = A.toM *ᵥ Vec.toV v := by
  funext i; simp [mulVec, Matrix.mulVec, dotProduct, fsum_eq_sum, Vec.toV]
@[simp] theorem trace_eq [AddCommMonoid K] (A : Mat K n n) : A.trace = A.toM.trace := by
  simp [trace, Matrix.trace, fsum_eq_sum]

/-! the laws of `mul`, `one`, `mulVec`, `transpose` are Mathlib's, through `toM` / `toV` -/
variable {q : Nat}

theorem mul_assoc [NonUnitalSemiring K] (A : Mat K m n) (B : Mat K n p) (C : Mat K p q) :
    (A.mul B).mul C = A.mul (B.mul C) := by
  apply toM_injective; simp only [toM_mul, Matrix.mul_assoc]

theorem one_mul [NonAssocSemiring K] (A : Mat K m n) : (one : Mat K m m).mul A = A := by
  apply toM_injective; simp only [toM_mul, toM_one, Matrix.one_mul]

theorem mul_one [NonAssocSemiring K] (A : Mat K m n) : A.mul one = A := by
  apply toM_injective; simp only [toM_mul, toM_one, Matrix.mul_one]

theorem mul_mulVec [NonUnitalSemiring K] (A : Mat K m n) (B : Mat K n p) (v : Vec K p) :
    (A.mul B).mulVec v = A.mulVec (B.mulVec v) := by
  apply Vec.toV_injective; simp only [toV_mulVec, toM_mul, Matrix.mulVec_mulVec]

theorem one_mulVec [NonAssocSemiring K] (v : Vec K n) : (one : Mat K n n).mulVec v = v := by
  apply Vec.toV_injective; simp only [toV_mulVec, toM_one, Matrix.one_mulVec]

theorem transpose_mul [CommSemiring K] (A : Mat K m n) (B : Mat K n p) :
    (A.mul B).transpose = B.transpose.mul A.transpose := by
  apply toM_injective; simp only [toM_transpose, toM_mul, Matrix.transpose_mul]

theorem one_transpose [Zero K] [One K] : (one : Mat K n n).transpose = one := by
  apply toM_injective; simp only [toM_transpose, toM_one, Matrix.transpose_one]
end Mat
end QM
