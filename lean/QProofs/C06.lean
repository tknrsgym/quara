import QModel.C06
import QProofs.Bridge
import Mathlib.Tactic.Ring
import Mathlib.Algebra.Order.Field.Rat
/-! C06 — lemmas about the list layout of nested loops, sums over outcomes and the kernels as Mathlib matrix operations -/
open Matrix
namespace QM.C06
open QM

/-! ## list layout: nested loops `for a in l: for b in fs: g a b` are row-major in `(a, b)` -/

theorem length_flatMap_map {α β γ : Type} (l : List α) (fs : List β) (g : α → β → γ) :
    (l.flatMap fun a => fs.map (g a)).length = l.length * fs.length := by
  induction l with
  | nil => simp
  | cons a l ih => simp [List.flatMap_cons, ih, Nat.succ_mul, Nat.add_comm]

theorem getElem?_flatMap_map {α β γ : Type} (l : List α) (fs : List β) (g : α → β → γ)
    (i j : Nat) (a : α) (b : β) (hi : l[i]? = some a) (hj : fs[j]? = some b) :
    (l.flatMap fun a => fs.map (g a))[i * fs.length + j]? = some (g a b) := by
  have hjlt : j < fs.length := (List.getElem?_eq_some_iff.1 hj).1
  induction l generalizing i with
  | nil => cases hi
  | cons x l ih =>
    rw [List.flatMap_cons]
    cases i with
    | zero =>
      obtain rfl : x = a := Option.some.inj hi
      rw [Nat.zero_mul, Nat.zero_add, List.getElem?_append_left (by rwa [List.length_map]), List.getElem?_map, hj]
      rfl
    | succ i =>
      rw [List.getElem?_append_right (by rw [List.length_map, Nat.succ_mul]; omega), List.length_map,
        show (i + 1) * fs.length + j - fs.length = i * fs.length + j by rw [Nat.succ_mul]; omega]
      exact ih i hi

/-- re-association of a triple loop nest: applying `g · z` to the `(y, x)` nest inside a loop over `z` is looping `x` over the
`(z, y)` nest, when `g (f x y) z = g' x (f' y z)` -/
theorem flatMap_map_assoc {α β γ δ δ' ε : Type} (a : List α) (b : List β) (c : List γ)
    (f : α → β → δ) (g : δ → γ → ε) (f' : β → γ → δ') (g' : α → δ' → ε)
    (h : ∀ x y z, g (f x y) z = g' x (f' y z)) :
    (c.flatMap fun z => (b.flatMap fun y => a.map fun x => f x y).map fun w => g w z)
      = (c.flatMap fun z => b.map fun y => f' y z).flatMap fun w => a.map fun x => g' x w := by
  simp only [List.flatMap_assoc, List.map_flatMap, List.flatMap_map, List.map_map, Function.comp_def, h]

/-! ## sums -/

theorem list_sum_map_finset_sum {ι α M : Type} [AddCommMonoid M] [Fintype ι] (l : List α) (f : α → ι → M) :
    (l.map fun a => ∑ i, f a i).sum = ∑ i, (l.map fun a => f a i).sum := by
  induction l with
  | nil => simp only [List.map_nil, List.sum_nil, Finset.sum_const_zero]
  | cons a l ih => simp only [List.map_cons, List.sum_cons, ih, Finset.sum_add_distrib]

section sums
variable {K : Type} [CommRing K]

theorem lsum_map_mul_left {α : Type} (c : K) (l : List α) (f : α → K) :
    lsum (l.map fun a => c * f a) = c * lsum (l.map f) := by
  rw [lsum_eq_sum, lsum_eq_sum, List.sum_map_mul_left]

theorem lsum_flatMap {α : Type} (l : List α) (f : α → List K) :
    lsum (l.flatMap f) = lsum (l.map fun a => lsum (f a)) := by
  simp only [lsum_eq_sum, List.flatMap_def, List.sum_flatten, List.map_map, Function.comp_def]

theorem lsum_fsum_swap {α : Type} {n : Nat} (l : List α) (f : α → Fin n → K) :
    lsum (l.map fun a => fsum n (f a)) = fsum n fun i => lsum (l.map fun a => f a i) := by
  simp only [lsum_eq_sum, fsum_eq_sum]
  exact list_sum_map_finset_sum l f

/-- a family `f a` whose coordinate sums are `s·e₀` pairs with any `c` to `s·c₀`: the one computation behind
"identity-sum POVM", "trace-preserving gate" and "sum-TP process" -/
theorem lsum_map_fsum_mul {α : Type} {n : Nat} [NeZero n] (l : List α) (f : α → Fin n → K) (c : Fin n → K) (s : K)
    (h : ∀ i, lsum (l.map fun a => f a i) = if i = 0 then s else 0) :
    lsum (l.map fun a => fsum n fun i => f a i * c i) = s * c 0 := by
  rw [lsum_fsum_swap l fun a i => f a i * c i]
  have : ∀ i, lsum (l.map fun a => f a i * c i) = (if i = 0 then s else 0) * c i := by
    intro i
    rw [← h i, mul_comm, ← lsum_map_mul_left]
    simp only [mul_comm]
  simp only [this, fsum_eq_sum, ite_mul, zero_mul, Finset.sum_ite_eq', Finset.mem_univ, if_true]

/-- the single-row case: pairing `e₀` with `c` gives `c₀` -/
theorem fsum_unit_mul {n : Nat} [NeZero n] (r c : Fin n → K) (h : ∀ i, r i = if i = 0 then 1 else 0) :
    (fsum n fun i => r i * c i) = c 0 := by
  simp only [h, fsum_eq_sum, ite_mul, one_mul, zero_mul, Finset.sum_ite_eq', Finset.mem_univ, if_true]

end sums

theorem lsum_map_div {K : Type} [Field K] (l : List K) (s : K) :
    lsum (l.map (· / s)) = lsum l / s := by
  simp only [lsum_eq_sum, div_eq_mul_inv, List.sum_map_mul_right, List.map_id']

/-! ## kernels as Mathlib matrix operations -/
section bridge
variable {K : Type} [CommRing K] {n : Nat}

theorem toV_vecMat (v : Vec K n) (A : Mat K n n) :
    Vec.toV (vecMat v A) = Matrix.vecMul (Vec.toV v) A.toM := by
  funext j
  simp only [Vec.toV, vecMat, Vec.get_ofFn, fsum_eq_sum, Matrix.vecMul, dotProduct, Mat.toM_apply]

theorem dot_vecMat (v : Vec K n) (A : Mat K n n) (r : Vec K n) :
    (vecMat v A).dot r = v.dot (A.mulVec r) := by
  rw [Vec.dot_eq, Vec.dot_eq, toV_vecMat, Mat.toV_mulVec, Matrix.dotProduct_mulVec]

theorem smul_dot (c : K) (u v : Vec K n) : (Vec.smul c u).dot v = c * u.dot v := by
  rw [Vec.dot_eq, Vec.dot_eq, Vec.toV_smul, smul_dotProduct, smul_eq_mul]

theorem row_dot (A : Mat K n n) (i : Fin n) (v : Vec K n) : (row A i).dot v = (A.mulVec v).get i := by
  simp only [Vec.dot, row, Mat.mulVec, Vec.get_ofFn]

theorem transpose_mulVec_eq_vecMat (v : Vec K n) (A : Mat K n n) :
    A.transpose.mulVec v = vecMat v A := by
  apply Vec.toV_injective
  rw [Mat.toV_mulVec, Mat.toM_transpose, Matrix.mulVec_transpose, toV_vecMat]

theorem vecMat_vecMat (v : Vec K n) (A B : Mat K n n) : vecMat (vecMat v A) B = vecMat v (A.mul B) := by
  apply Vec.toV_injective; simp only [toV_vecMat, Mat.toM_mul, Matrix.vecMul_vecMul]

/-- `Povm∘MProcess` is `Povm∘Gate` block by block -/
theorem povmMProcess_eq (vecs : List (Vec K n)) (hss : List (Mat K n n)) :
    povmMProcess vecs hss = hss.flatMap fun hs => povmGate vecs hs := by
  simp only [povmMProcess, povmGate, transpose_mulVec_eq_vecMat]

theorem povmGate_povmGate (vecs : List (Vec K n)) (A B : Mat K n n) :
    povmGate (povmGate vecs A) B = povmGate vecs (A.mul B) := by
  simp only [povmGate, List.map_map, Function.comp_def, vecMat_vecMat]

theorem povmGate_povmMProcess (vecs : List (Vec K n)) (hss : List (Mat K n n)) (G : Mat K n n) :
    povmGate (povmMProcess vecs hss) G = povmMProcess vecs (hss.map fun hs => hs.mul G) := by
  simp only [povmMProcess_eq, List.flatMap_map, ← povmGate_povmGate]
  simp only [povmGate, List.map_flatMap]

theorem povmMProcess_povmGate (vecs : List (Vec K n)) (G : Mat K n n) (hss : List (Mat K n n)) :
    povmMProcess (povmGate vecs G) hss = povmMProcess vecs (hss.map fun hs => G.mul hs) := by
  simp only [povmMProcess_eq, List.flatMap_map, povmGate_povmGate]

end bridge

/-- the HS matrix of a gate object -/
def gateOf {n : Nat} : QOp n → Mat Rat n n
  | .gate _ A => A
  | _ => Mat.one

/-- right-nested product of the HS matrices of a chain of gates -/
def gateProd {n : Nat} : List (QOp n) → Mat Rat n n
  | [] => Mat.one
  | [x] => gateOf x
  | x :: xs => (gateOf x).mul (gateProd xs)

theorem one_mul'' {n : Nat} (A : Mat Rat n n) : (Mat.one : Mat Rat n n).mul A = A := Mat.one_mul A

theorem gateProd_cons {n : Nat} (x : QOp n) (xs : List (QOp n)) :
    gateProd (x :: xs) = (gateOf x).mul (gateProd xs) := by
  cases xs with
  | nil => exact (Mat.mul_one _).symm
  | cons y ys => rfl

theorem gateProd_append {n : Nat} (a b : List (QOp n)) :
    gateProd (a ++ b) = (gateProd a).mul (gateProd b) := by
  induction a with
  | nil => exact (Mat.one_mul _).symm
  | cons x xs ih => rw [List.cons_append, gateProd_cons, gateProd_cons, ih, Mat.mul_assoc]

theorem leaves_ne_nil {n : Nat} (t : Tree n) : t.leaves ≠ [] := by
  induction t with
  | leaf x => simp [Tree.leaves]
  | node l r ihl _ => simp [Tree.leaves, ihl]

section ratlemmas
variable {n : Nat}
/-- a gate commutes with the normalisation of post-measurement states -/
theorem mulVec_vdiv (G : Mat Rat n n) (r : Vec Rat n) (p : Rat) :
    G.mulVec (vdiv r p) = vdiv (G.mulVec r) p := by
  apply Vec.ext'; intro i
  simp only [Mat.mulVec, vdiv, Vec.get_ofFn, fsum_eq_sum, div_eq_mul_inv, Finset.sum_mul, mul_assoc]

theorem dot_vdiv (v r : Vec Rat n) (p : Rat) : v.dot (vdiv r p) = v.dot r / p := by
  simp only [Vec.dot, vdiv, Vec.get_ofFn, fsum_eq_sum, div_eq_mul_inv, Finset.sum_mul, mul_assoc]

theorem mulVec_zero_vec (G : Mat Rat n n) : G.mulVec (Vec.zero : Vec Rat n) = Vec.zero := by
  apply Vec.toV_injective; rw [Mat.toV_mulVec, Vec.toV_zero, Matrix.mulVec_zero]

end ratlemmas

/-! ## successful runs of the `Except` code: a result `.ok b` comes out of the last continuation -/

theorem bind_eq_ok {ε α β : Type} {x : Except ε α} {f : α → Except ε β} {b : β}
    (h : x >>= f = .ok b) : ∃ a, x = .ok a ∧ f a = .ok b := by
  cases x with
  | error e => cases h
  | ok a => exact ⟨a, rfl, h⟩

/-- the shape `if c then throw e`, `if c then check` of a `do` block: the rest of the block ran -/
theorem guard_bind_eq_ok {ε β : Type} {c : Prop} [Decidable c] {x : Except ε Unit}
    {k : Unit → Except ε β} {b : β} (h : (if c then x >>= k else k ()) = .ok b) : k () = .ok b := by
  split at h
  · obtain ⟨⟨⟩, _, h⟩ := bind_eq_ok h; exact h
  · exact h

theorem liftDist_eq_ok {α : Type} {r : Except QM.C16.Err α} {a : α} (h : liftDist r = .ok a) :
    r = .ok a := by
  cases r with
  | error e => cases h
  | ok b => cases h; rfl

/-- the distribution constructor keeps the requested shape -/
theorem ctor_shape (ps : List Rat) (shape : List Nat) (eps : Rat) (d : Dist)
    (h : QM.C16.ctor ps shape eps = .ok d) : d.shape = shape := by
  unfold QM.C16.ctor at h
  -- the guards are peeled one by one: simplifying the unfolded block copies its continuation into every branch
  obtain ⟨_, _, h⟩ := bind_eq_ok h
  cases guard_bind_eq_ok (guard_bind_eq_ok (guard_bind_eq_ok h))
  rfl

/-- reported shape and probabilities of a distribution-carrying result (for the labelling witnesses) -/
def distShape {n : Nat} : Except Err (QOp n) → Option (List Nat × List Rat)
  | .ok (.ensemble _ _ d _) => some (d.shape, d.ps)
  | .ok (.dist d) => some (d.shape, d.ps)
  | _ => none
end QM.C06
