import QModel.C18
import QProofs.Bridge
import QProofs.Psd
import Mathlib.Logic.Equiv.Fin.Basic
import Mathlib.Tactic.Ring
import Mathlib.Tactic.FieldSimp
import Mathlib.LinearAlgebra.Matrix.NonsingularInverse
import Mathlib.Analysis.Normed.Algebra.MatrixExponential
import Mathlib.Analysis.SpecialFunctions.Sqrt
import Mathlib.Tactic.FinCases
/-! The executed operations of `QModel/C18.lean` (`act`, `kron`, `trMul`, `toHerm`, …) read as identities between Mathlib
matrices; the change-of-basis matrix `toB`; orthonormal Hermitian bases `ONH0`; `CRat` as a star field embedded in `ℂ`. -/
open Matrix
namespace QM.C18
open QM

/-- the model's conjugation is `star` on every Mathlib star-type -/
instance (priority := low) instHasConjOfStar {K : Type} [Star K] : HasConj K := ⟨star⟩

theorem conj_eq_star {K : Type} [Star K] (x : K) : (conj x : K) = star x := rfl

/-- the model's imaginary unit on `ℂ` -/
instance instHasIComplex : HasI ℂ := ⟨Complex.I⟩

/-- one guard of a chain `if c then raise e else …` passes iff its condition fails and the rest of the chain passes -/
theorem ite_error_eq_ok {ε α : Type} (c : Prop) [Decidable c] (e : ε) (r : Except ε α) (a : α) :
    (if c then Except.error e else r) = .ok a ↔ ¬c ∧ r = .ok a := by
  split_ifs with h <;> simp [h]

section idx
variable {d : Nat}

theorem pr_eq (i j : Fin d) : pr i j = finProdFinEquiv (i, j) := by
  apply Fin.ext
  simp [pr, finProdFinEquiv, Nat.mul_comm, Nat.add_comm]

@[simp] theorem p1_pr (i j : Fin d) : p1 (pr i j) = i := by
  apply Fin.ext
  have hd : 0 < d := Nat.pos_of_ne_zero (by intro h; subst h; exact i.elim0)
  simp only [p1, pr]
  rw [Nat.mul_comm, Nat.mul_add_div hd, Nat.div_eq_of_lt j.isLt, Nat.add_zero]

@[simp] theorem p2_pr (i j : Fin d) : p2 (pr i j) = j := by
  apply Fin.ext
  simp only [p2, pr]
  rw [Nat.mul_comm, Nat.mul_add_mod, Nat.mod_eq_of_lt j.isLt]

@[simp] theorem pr_p1_p2 (r : Fin (d * d)) : pr (p1 r) (p2 r) = r := by
  apply Fin.ext
  simp only [p1, p2, pr]
  exact Nat.div_add_mod' _ _

theorem eq_iff_p1_p2 (r c : Fin (d * d)) : r = c ↔ p1 r = p1 c ∧ p2 r = p2 c :=
  ⟨fun h => h ▸ ⟨rfl, rfl⟩, fun h => by rw [← pr_p1_p2 r, ← pr_p1_p2 c, h.1, h.2]⟩

theorem sum_pairs {M : Type} [AddCommMonoid M] (f : Fin (d * d) → M) :
    ∑ r, f r = ∑ i, ∑ j, f (pr i j) := by
  rw [← Fintype.sum_prod_type']
  exact (Fintype.sum_equiv finProdFinEquiv (fun x => f (pr x.1 x.2)) f
    (fun x => by rw [pr_eq])).symm

theorem sum_sum_eq_single {M : Type} [AddCommMonoid M] (f : Fin d → Fin d → M) (k l : Fin d)
    (h : ∀ i j, ¬(i = k ∧ j = l) → f i j = 0) : ∑ i, ∑ j, f i j = f k l := by
  rw [Finset.sum_eq_single k (fun i _ hi => Finset.sum_eq_zero fun j _ => h i j fun e => hi e.1)
    (fun h => absurd (Finset.mem_univ _) h),
    Finset.sum_eq_single l (fun j _ hj => h k j fun e => hj e.2) (fun h => absurd (Finset.mem_univ _) h)]

end idx


section bridge
variable {K : Type} {m n k : Nat}

@[simp] theorem msum_get [AddCommMonoid K] (f : Fin k → Mat K m n) (i : Fin m) (j : Fin n) :
    (msum k f).get i j = ∑ a, (f a).get i j := by
  simp [msum, fsum_eq_sum]

theorem toM_msum [AddCommMonoid K] (f : Fin k → Mat K m n) :
    (msum k f).toM = ∑ a, (f a).toM := by
  ext i j; simp [Matrix.sum_apply]

@[simp] theorem conjM_get [Star K] (A : Mat K m n) (i : Fin m) (j : Fin n) :
    (conjM A).get i j = star (A.get i j) := by simp [conjM, conj_eq_star]

@[simp] theorem adj_get [Star K] (A : Mat K m n) (i : Fin n) (j : Fin m) :
    (adj A).get i j = star (A.get j i) := by simp [adj, conj_eq_star]

theorem toM_adj [Star K] (A : Mat K m n) : (adj A).toM = A.toMᴴ := by
  ext i j; simp [Matrix.conjTranspose_apply]

theorem toM_conjM [Star K] (A : Mat K m n) : (conjM A).toM = A.toM.map star := by
  ext i j; simp

@[simp] theorem smul_get [Mul K] (c : K) (A : Mat K m n) (i : Fin m) (j : Fin n) :
    (A.smul c).get i j = c * A.get i j := by simp [Mat.smul]
@[simp] theorem add_get [Add K] (A B : Mat K m n) (i : Fin m) (j : Fin n) :
    (A.add B).get i j = A.get i j + B.get i j := by simp [Mat.add]
@[simp] theorem sub_get [Sub K] (A B : Mat K m n) (i : Fin m) (j : Fin n) :
    (A.sub B).get i j = A.get i j - B.get i j := by simp [Mat.sub]
@[simp] theorem one_get [Zero K] [One K] (i j : Fin n) :
    (Mat.one : Mat K n n).get i j = if i = j then 1 else 0 := by simp [Mat.one]
@[simp] theorem mul_get [NonUnitalNonAssocSemiring K] (A : Mat K m n) (B : Mat K n k)
    (i : Fin m) (j : Fin k) : (A.mul B).get i j = ∑ l, A.get i l * B.get l j := by
  simp [Mat.mul, fsum_eq_sum]
end bridge

set_option linter.unusedSectionVars false
section core
variable {K : Type} [Field K] [StarRing K] {d : Nat}

@[simp] theorem kron_get (A C : Mat K d d) (r c : Fin (d * d)) :
    (kron A C).get r c = A.get (p1 r) (p1 c) * C.get (p2 r) (p2 c) := by simp [kron]

@[simp] theorem flatten_get (A : Mat K d d) (r : Fin (d * d)) :
    (flatten A).get r = A.get (p1 r) (p2 r) := by simp [flatten]

@[simp] theorem unflatten_get (v : Vec K (d * d)) (i j : Fin d) :
    (unflatten v).get i j = v.get (pr i j) := by simp [unflatten]

theorem act_get_flat (L : Mat K (d * d) (d * d)) (rho : Mat K d d) (i j : Fin d) :
    (act L rho).get i j = ∑ c, L.get (pr i j) c * rho.get (p1 c) (p2 c) := by
  simp [act, Mat.mulVec, fsum_eq_sum]

theorem act_get (L : Mat K (d * d) (d * d)) (rho : Mat K d d) (i j : Fin d) :
    (act L rho).get i j = ∑ k, ∑ l, L.get (pr i j) (pr k l) * rho.get k l := by
  simp only [act_get_flat, sum_pairs, p1_pr, p2_pr]

theorem act_unit (L : Mat K (d * d) (d * d)) (k l i j : Fin d) :
    (act L (Mat.ofFn fun a b => if a = k ∧ b = l then 1 else 0)).get i j = L.get (pr i j) (pr k l) := by
  rw [act_get, sum_sum_eq_single _ k l fun a b h => by rw [Mat.get_ofFn, if_neg h, mul_zero], Mat.get_ofFn,
    if_pos ⟨rfl, rfl⟩, mul_one]

theorem act_add (L M : Mat K (d * d) (d * d)) (rho : Mat K d d) :
    (act (L.add M) rho).toM = (act L rho).toM + (act M rho).toM := by
  ext i j
  simp [act_get, add_mul, Finset.sum_add_distrib]

theorem act_sub (L M : Mat K (d * d) (d * d)) (rho : Mat K d d) :
    (act (L.sub M) rho).toM = (act L rho).toM - (act M rho).toM := by
  ext i j
  simp [act_get, sub_mul, Finset.sum_sub_distrib]

theorem act_zero (rho : Mat K d d) : (act (Mat.zero : Mat K (d * d) (d * d)) rho).toM = 0 := by
  ext i j
  simp [act_get, Mat.zero]

theorem act_smul (c : K) (L : Mat K (d * d) (d * d)) (rho : Mat K d d) :
    (act (L.smul c) rho).toM = c • (act L rho).toM := by
  ext i j
  simp [act_get, Finset.mul_sum, mul_assoc]

theorem act_msum {k : Nat} (f : Fin k → Mat K (d * d) (d * d)) (rho : Mat K d d) :
    (act (msum k f) rho).toM = ∑ a, (act (f a) rho).toM := by
  ext i j
  simp only [Mat.toM_apply, act_get, msum_get, Finset.sum_mul, Matrix.sum_apply]
  rw [Finset.sum_congr rfl (fun x _ => Finset.sum_comm)]
  rw [Finset.sum_comm]

/-- `(A ⊗ C) vec ρ = vec (A ρ Cᵀ)` in the row-major convention of the code -/
theorem act_kron (A C rho : Mat K d d) :
    (act (kron A C) rho).toM = A.toM * rho.toM * C.toMᵀ := by
  ext i j
  simp only [Mat.toM_apply, act_get, kron_get, p1_pr, p2_pr, Matrix.mul_apply,
    Matrix.transpose_apply, Finset.sum_mul]
  rw [Finset.sum_comm]
  apply Finset.sum_congr rfl; intro l _
  apply Finset.sum_congr rfl; intro k _
  ring

theorem act_kron_one_right (A rho : Mat K d d) :
    (act (kron A Mat.one) rho).toM = A.toM * rho.toM := by
  rw [act_kron]; simp

theorem toM_conjM_transpose (A : Mat K d d) : (conjM A).toMᵀ = A.toMᴴ := by
  ext i j; simp only [Matrix.transpose_apply, Mat.toM_apply, conjM_get, Matrix.conjTranspose_apply]

theorem act_kron_conjM (A C rho : Mat K d d) :
    (act (kron A (conjM C)) rho).toM = A.toM * rho.toM * C.toMᴴ := by
  rw [act_kron, toM_conjM_transpose]

theorem act_kron_one_conjM (C rho : Mat K d d) :
    (act (kron Mat.one (conjM C)) rho).toM = rho.toM * C.toMᴴ := by
  rw [act_kron_conjM, Mat.toM_one, Matrix.one_mul]
end core


section gksl
variable {K : Type} [Field K] [StarRing K] [HasI K] {d : Nat}

/-- Mathlib matrix of a basis element -/
def Bm (B : Basis K d) (a : Fin (d * d)) : Matrix (Fin d) (Fin d) K := (B.get a).toM

theorem act_hPart (h rho : Mat K d d) :
    (act (hPart h) rho).toM = (-(ii : K)) • (h.toM * rho.toM - rho.toM * h.toMᴴ) := by
  unfold hPart
  rw [act_smul, act_sub, act_kron_one_right, act_kron_one_conjM]

theorem act_jPart (j rho : Mat K d d) :
    (act (jPart j) rho).toM = j.toM * rho.toM + rho.toM * j.toMᴴ := by
  unfold jPart
  rw [act_add, act_kron_one_right, act_kron_one_conjM]

theorem act_kPart (B : Basis K d) (k : Mat K (d * d - 1) (d * d - 1)) (rho : Mat K d d) :
    (act (kPart B k) rho).toM =
      ∑ a, ∑ b, k.get a b • (Bm B (suc a) * rho.toM * (Bm B (suc b))ᴴ) := by
  simp only [kPart, act_msum, act_smul, act_kron_conjM]
  rfl

theorem jMatFromKMat_toM (B : Basis K d) (k : Mat K (d * d - 1) (d * d - 1)) :
    (jMatFromKMat B k).toM =
      (-(1 / (two : K))) • ∑ a, ∑ b, k.get a b • ((Bm B (suc b))ᴴ * Bm B (suc a)) := by
  simp only [jMatFromKMat, Mat.toM_smul, toM_msum, Mat.toM_mul, toM_adj]
  rfl

theorem cbFromHk_eq (B : Basis K d) (h : Mat K d d) (k : Mat K (d * d - 1) (d * d - 1)) :
    cbFromHk B h k = cbFromHjk B h (jMatFromKMat B k) k := rfl

theorem star_half : star (1 / (two : K)) = 1 / (two : K) := by
  simp [two]

theorem jMatFromKMat_conjTranspose (B : Basis K d) (k : Mat K (d * d - 1) (d * d - 1))
    (hk : ∀ a b, star (k.get b a) = k.get a b) :
    (jMatFromKMat B k).toMᴴ = (jMatFromKMat B k).toM := by
  simp only [jMatFromKMat_toM, Matrix.conjTranspose_smul, Matrix.conjTranspose_sum, Matrix.conjTranspose_mul,
    Matrix.conjTranspose_conjTranspose, star_neg, star_half, hk]
  rw [Finset.sum_comm]
end gksl


section convert
variable {K : Type} [Field K] [StarRing K] {d : Nat}

/-- entry `(i,j)` of a basis element addressed by the flattened index -/
def Bf (B : Basis K d) (a r : Fin (d * d)) : K := (B.get a).get (p1 r) (p2 r)

theorem vdot_eq (A C : Mat K d d) : vdot A C = ∑ i, ∑ j, star (A.get i j) * C.get i j := by
  simp only [vdot, fsum_eq_sum, conj_eq_star]

theorem compBasis_get (r : Fin (d * d)) (i j : Fin d) :
    ((compBasis K d).get r).get i j = if i = p1 r ∧ j = p2 r then 1 else 0 := by
  simp only [compBasis, Vec.get_ofFn, Mat.get_ofFn]

theorem vdot_compBasis_right (A : Mat K d d) (r : Fin (d * d)) :
    vdot A ((compBasis K d).get r) = star (A.get (p1 r) (p2 r)) := by
  rw [vdot_eq, sum_sum_eq_single _ (p1 r) (p2 r) fun i j h => by rw [compBasis_get, if_neg h, mul_zero],
    compBasis_get, if_pos ⟨rfl, rfl⟩, mul_one]

theorem vdot_compBasis_left (A : Mat K d d) (r : Fin (d * d)) :
    vdot ((compBasis K d).get r) A = A.get (p1 r) (p2 r) := by
  rw [vdot_eq, sum_sum_eq_single _ (p1 r) (p2 r) fun i j h => by rw [compBasis_get, if_neg h, star_zero, zero_mul],
    compBasis_get, if_pos ⟨rfl, rfl⟩, star_one, one_mul]

/-- change of basis from the computational basis to `B`: row `a` is `conj B_a`, flattened. `convert_hs` conjugates with
it (`toM_toHerm`, `toM_toComp`); for an orthonormal Hermitian basis it is unitary (`ONH0.toB_mul_adj`). -/
def toB (B : Basis K d) : Matrix (Fin (d * d)) (Fin (d * d)) K := Matrix.of fun a r => star (Bf B a r)

theorem toM_transMat_comp (B : Basis K d) : (transMat (compBasis K d) B).toM = toB B := by
  ext a r; simp only [Mat.toM_apply, transMat, Mat.get_ofFn, vdot_compBasis_right, toB, Matrix.of_apply, Bf]

theorem toM_transMat_of_comp (B : Basis K d) : (transMat B (compBasis K d)).toM = (toB B)ᴴ := by
  ext r a
  simp only [Mat.toM_apply, transMat, Mat.get_ofFn, vdot_compBasis_left, toB, Matrix.conjTranspose_apply,
    Matrix.of_apply, star_star, Bf]

theorem toM_toHerm (B : Basis K d) (L : Mat K (d * d) (d * d)) :
    (toHerm B L).toM = toB B * L.toM * (toB B)ᴴ := by
  simp only [toHerm, convertHs, Mat.toM_mul, toM_adj, toM_transMat_comp]

theorem toM_toComp (B : Basis K d) (hs : Mat K (d * d) (d * d)) :
    (toComp B hs).toM = (toB B)ᴴ * hs.toM * toB B := by
  simp only [toComp, convertHs, Mat.toM_mul, toM_adj, toM_transMat_of_comp, Matrix.conjTranspose_conjTranspose]

theorem toHerm_get (B : Basis K d) (L : Mat K (d * d) (d * d)) (a b : Fin (d * d)) :
    (toHerm B L).get a b = ∑ c, ∑ r, star (Bf B a r) * L.get r c * Bf B b c := by
  rw [← Mat.toM_apply, toM_toHerm]
  simp only [Matrix.mul_apply, Matrix.conjTranspose_apply, toB, Matrix.of_apply, star_star, Mat.toM_apply,
    Finset.sum_mul]

theorem toComp_get (B : Basis K d) (hs : Mat K (d * d) (d * d)) (r c : Fin (d * d)) :
    (toComp B hs).get r c = ∑ b, ∑ a, Bf B a r * hs.get a b * star (Bf B b c) := by
  rw [← Mat.toM_apply, toM_toComp]
  simp only [Matrix.mul_apply, Matrix.conjTranspose_apply, toB, Matrix.of_apply, star_star, Mat.toM_apply,
    Finset.sum_mul]

theorem toHerm_add (B : Basis K d) (L M : Mat K (d * d) (d * d)) :
    toHerm B (L.add M) = (toHerm B L).add (toHerm B M) := by
  apply Mat.toM_injective
  simp only [toM_toHerm, Mat.toM_add, Matrix.mul_add, Matrix.add_mul]

/-- entry `(a, b)` of the Hermitian-basis matrix is the component of `L(B_b)` along `B_a` -/
theorem toHerm_get_trace (B : Basis K d) (L : Mat K (d * d) (d * d)) (a b : Fin (d * d)) :
    (toHerm B L).get a b = ((Bm B a)ᴴ * (act L (B.get b)).toM).trace := by
  rw [toHerm_get, Finset.sum_comm, sum_pairs, Matrix.trace, Finset.sum_comm]
  refine Finset.sum_congr rfl fun j _ => ?_
  rw [Matrix.diag_apply, Matrix.mul_apply]
  refine Finset.sum_congr rfl fun i _ => ?_
  simp only [Matrix.conjTranspose_apply, Mat.toM_apply, Bm, act_get_flat, Bf, p1_pr, p2_pr, Finset.mul_sum, mul_assoc]

/-- first row of the Hermitian-basis matrix: `hs[0,β] = s̄ · tr L(B_β)` when `B_0 = s·1` -/
theorem toHerm_row0 (B : Basis K d) (L : Mat K (d * d) (d * d)) (z b : Fin (d * d)) (s : K)
    (hz : ∀ i j, (B.get z).get i j = if i = j then s else 0) :
    (toHerm B L).get z b = star s * (act L (B.get b)).toM.trace := by
  have hz' : Bm B z = s • (1 : Matrix (Fin d) (Fin d) K) := by
    ext i j; simp [Bm, hz, Matrix.one_apply]
  rw [toHerm_get_trace, hz', Matrix.conjTranspose_smul, Matrix.conjTranspose_one, Matrix.smul_mul, Matrix.one_mul,
    Matrix.trace_smul, smul_eq_mul]
end convert


section twoNeZero
variable {K : Type} [Field K] [StarRing K] [CharZero K] [HasI K] {d : Nat}

theorem two_ne_zero' : (two : K) ≠ 0 := by
  simp only [two]; norm_num

end twoNeZero

section projeq
variable {R : Type} [Field R] [LinearOrder R] [IsStrictOrderedRing R] {n : Nat}

theorem projEq_get (hs : Mat R n n) (i j : Fin n) :
    (projEq hs).get i j = if i.val = 0 then 0 else hs.get i j := by simp [projEq]

end projeq

section expo
variable {R : Type} [Field R] {n : Nat}

/-- if row `z` of `L` vanishes, row `z` of every partial sum is `e_z`; the invariant that carries the induction is that
row `z` of every term is a multiple of `e_z` -/
theorem expLoop_row0 (L : Mat R n n) (z : Fin n) (hL : ∀ j, L.get z j = 0) (k : Nat) :
    (∀ j, (expLoop L k).2.get z j = if z = j then 1 else 0) ∧
    ∃ c, ∀ j, (expLoop L k).1.get z j = if z = j then c else 0 := by
  induction k with
  | zero => exact ⟨fun j => by simp [expLoop], 1, fun j => by simp [expLoop]⟩
  | succ k ih =>
    obtain ⟨ih2, c, ih1⟩ := ih
    have ht : ∀ j, ((expLoop L k).1.mul L).get z j = 0 := fun j => by simp [mul_get, ih1, hL]
    exact ⟨fun j => by simp [expLoop, ht, ih2], 0, fun j => by simp [expLoop, ht]⟩
end expo


section extract
variable {K : Type} [Field K] [StarRing K] {d n : Nat}

/-- `trMul` is the trace of the product; its linearity in both arguments is the trace's -/
theorem trMul_eq_trace (A C : Mat K n n) : trMul A C = (A.toM * C.toM).trace := by
  simp only [trMul, fsum_eq_sum, Matrix.trace, Matrix.diag_apply, Matrix.mul_apply, Mat.toM_apply]

theorem trMul_add_left (L M X : Mat K n n) : trMul (L.add M) X = trMul L X + trMul M X := by
  simp only [trMul_eq_trace, Mat.toM_add, Matrix.add_mul, Matrix.trace_add]
theorem trMul_sub_left (L M X : Mat K n n) : trMul (L.sub M) X = trMul L X - trMul M X := by
  simp only [trMul_eq_trace, Mat.toM_sub, Matrix.sub_mul, Matrix.trace_sub]
theorem trMul_smul_left (c : K) (L X : Mat K n n) : trMul (L.smul c) X = c * trMul L X := by
  simp only [trMul_eq_trace, Mat.toM_smul, Matrix.smul_mul, Matrix.trace_smul, smul_eq_mul]
theorem trMul_add_right (L X Y : Mat K n n) : trMul L (X.add Y) = trMul L X + trMul L Y := by
  simp only [trMul_eq_trace, Mat.toM_add, Matrix.mul_add, Matrix.trace_add]
theorem trMul_sub_right (L X Y : Mat K n n) : trMul L (X.sub Y) = trMul L X - trMul L Y := by
  simp only [trMul_eq_trace, Mat.toM_sub, Matrix.mul_sub, Matrix.trace_sub]
theorem trMul_msum_left {k : Nat} (f : Fin k → Mat K n n) (X : Mat K n n) :
    trMul (msum k f) X = ∑ a, trMul (f a) X := by
  simp only [trMul_eq_trace, toM_msum, Matrix.sum_mul, Matrix.trace_sum]

theorem trMul_kron_kron (X Y A C : Mat K d d) :
    trMul (kron X Y) (kron A C) = (X.toM * A.toM).trace * (Y.toM * C.toM).trace := by
  simp only [trMul, fsum_eq_sum, kron_get, Matrix.trace, Matrix.diag_apply, Matrix.mul_apply,
    Mat.toM_apply, sum_pairs, p1_pr, p2_pr]
  rw [Finset.sum_mul_sum]
  refine Finset.sum_congr rfl fun i _ => Finset.sum_congr rfl fun j _ => ?_
  rw [Finset.sum_mul_sum]
  refine Finset.sum_congr rfl fun k _ => Finset.sum_congr rfl fun l _ => ?_
  ring

theorem conjM_toM_of_herm (A : Mat K d d) (hA : A.toMᴴ = A.toM) : (conjM A).toM = A.toMᵀ := by
  have := toM_conjM_transpose A
  rw [hA] at this
  rw [← this, Matrix.transpose_transpose]

variable [HasI K]

/-- the trace pairing of the rebuilt comp-basis generator with a product operator -/
theorem trMul_cbFromHjk_kron (B : Basis K d) (h j : Mat K d d) (k : Mat K (d * d - 1) (d * d - 1))
    (hh : h.toMᴴ = h.toM) (hj : j.toMᴴ = j.toM) (hB : ∀ a, (Bm B a)ᴴ = Bm B a) (A C : Mat K d d) :
    trMul (cbFromHjk B h j k) (kron A C) =
      (-(ii : K)) * ((h.toM * A.toM).trace * C.toM.trace - A.toM.trace * (h.toMᵀ * C.toM).trace)
      + ((j.toM * A.toM).trace * C.toM.trace + A.toM.trace * (j.toMᵀ * C.toM).trace)
      + ∑ a, ∑ b, k.get a b * ((Bm B (suc a) * A.toM).trace * ((Bm B (suc b))ᵀ * C.toM).trace) := by
  have hc : ∀ a, (conjM (B.get a)).toM = (Bm B a)ᵀ := fun a => conjM_toM_of_herm _ (hB a)
  simp only [cbFromHjk, hPart, jPart, kPart, trMul_add_left, trMul_smul_left, trMul_sub_left, trMul_msum_left,
    trMul_kron_kron, conjM_toM_of_herm h hh, conjM_toM_of_herm j hj, hc, Mat.toM_one, Matrix.one_mul]
  rfl

/-- orthonormal Hermitian basis whose element `z` (index 0) is `s·1` — the implementation's
`is_orthonormal_hermitian_0thprop_identity` -/
structure ONH0 (B : Basis K d) (z : Fin (d * d)) (s : K) : Prop where
  herm : ∀ a, (Bm B a)ᴴ = Bm B a
  orth : ∀ a b, (Bm B a * Bm B b).trace = if a = b then 1 else 0
  b0 : Bm B z = s • (1 : Matrix (Fin d) (Fin d) K)
  z0 : z.val = 0
  snorm : s * s * (d : K) = 1

namespace ONH0
variable {B : Basis K d} {z : Fin (d * d)} {s : K} (hB : ONH0 B z s)
include hB

theorem s_ne : s ≠ 0 := by
  intro h; have := hB.snorm; simp [h] at this

theorem d_ne : (d : K) ≠ 0 := by
  intro h; have := hB.snorm; simp [h] at this

theorem trace_one : (1 : Matrix (Fin d) (Fin d) K).trace = (d : K) := by
  simp [Matrix.trace_one]

theorem trace_B (a : Fin (d * d)) : (Bm B a).trace = if a = z then s * (d : K) else 0 := by
  by_cases h : a = z
  · subst h; simp [hB.b0, Matrix.trace_smul, Matrix.trace_one]
  · have := hB.orth z a
    rw [hB.b0, Matrix.smul_mul, Matrix.one_mul, Matrix.trace_smul, if_neg (Ne.symm h)] at this
    rw [if_neg h]
    exact (smul_eq_zero.mp this).resolve_left hB.s_ne

/-- first row of an HS matrix in such a basis, once the row is known to be `s · tr B_b` -/
theorem s_mul_trace_B (b : Fin (d * d)) : s * (Bm B b).trace = if b = z then 1 else 0 := by
  rw [hB.trace_B]
  by_cases h : b = z
  · rw [if_pos h, if_pos h, ← mul_assoc, hB.snorm]
  · rw [if_neg h, if_neg h, mul_zero]

theorem get_z (i j : Fin d) : (B.get z).get i j = if i = j then s else 0 := by
  have := congrFun (congrFun hB.b0 i) j
  simpa [Bm, Matrix.smul_apply, Matrix.one_apply] using this

theorem suc_ne (a : Fin (d * d - 1)) : suc a ≠ z := by
  intro h
  have := congrArg Fin.val h
  simp [suc, hB.z0] at this

theorem trace_suc (a : Fin (d * d - 1)) : (Bm B (suc a)).trace = 0 := by
  rw [hB.trace_B, if_neg (hB.suc_ne a)]

theorem orth_T (a b : Fin (d * d)) : ((Bm B a)ᵀ * (Bm B b)ᵀ).trace = if a = b then 1 else 0 := by
  rw [← Matrix.transpose_mul, Matrix.trace_transpose, hB.orth b a]
  simp [eq_comm]

theorem toB_mul_adj : toB B * (toB B)ᴴ = 1 := by
  ext a b
  rw [Matrix.one_apply, ← hB.orth a b, ← hB.herm a, Matrix.mul_apply, sum_pairs, Matrix.trace, Finset.sum_comm]
  simp only [toB, Bf, Matrix.conjTranspose_apply, Matrix.of_apply, star_star, p1_pr, p2_pr, Matrix.diag_apply,
    Matrix.mul_apply, Bm, Mat.toM_apply]

/-- the `d²` basis elements are as many as the space has dimensions, so the left inverse is a right inverse -/
theorem toB_adj_mul : (toB B)ᴴ * toB B = 1 :=
  mul_eq_one_comm.mp hB.toB_mul_adj

/-- the coefficients `tr(X B_a)` of `X` are `toB B` applied to the flattened `X` -/
theorem trace_mul_Bm (X : Matrix (Fin d) (Fin d) K) (a : Fin (d * d)) :
    (X * Bm B a).trace = (toB B *ᵥ fun r => X (p1 r) (p2 r)) a := by
  rw [Matrix.trace_mul_comm, ← hB.herm a, Matrix.mulVec, dotProduct, sum_pairs, Matrix.trace, Finset.sum_comm]
  simp only [toB, Bf, Matrix.conjTranspose_apply, Matrix.of_apply, p1_pr, p2_pr, Matrix.diag_apply,
    Matrix.mul_apply, Bm, Mat.toM_apply]
end ONH0

theorem suc_eq_iff {a b : Fin (d * d - 1)} : suc a = suc b ↔ a = b := by
  simp [suc, Fin.ext_iff]
end extract


section extract2
variable {K : Type} [Field K] [StarRing K] {d : Nat}

theorem toM_get_eq_Bm (B : Basis K d) (a : Fin (d * d)) : (B.get a).toM = Bm B a := rfl

theorem trace_T_mul_T (X Y : Matrix (Fin d) (Fin d) K) : (Xᵀ * Yᵀ).trace = (X * Y).trace := by
  rw [← Matrix.transpose_mul, Matrix.trace_transpose, Matrix.trace_mul_comm]

variable [HasI K]

variable (B : Basis K d) (z : Fin (d * d)) (s : K) (hB : ONH0 B z s) (h j : Mat K d d)
  (k : Mat K (d * d - 1) (d * d - 1)) (hh : h.toMᴴ = h.toM) (hj : j.toMᴴ = j.toM)
include hB hh hj

/-- pairing with `B_a ⊗ 1` -/
theorem pair_left (a : Fin (d * d)) :
    trMul (cbFromHjk B h j k) (kron (B.get a) Mat.one) =
      (-(ii : K)) * ((h.toM * Bm B a).trace * (d : K) - (Bm B a).trace * h.toM.trace)
      + ((j.toM * Bm B a).trace * (d : K) + (Bm B a).trace * j.toM.trace) := by
  rw [trMul_cbFromHjk_kron B h j k hh hj hB.herm]
  simp only [Mat.toM_one, toM_get_eq_Bm, Matrix.mul_one, Matrix.trace_transpose, Matrix.trace_one,
    Fintype.card_fin, hB.trace_suc, mul_zero, Finset.sum_const_zero, add_zero]

/-- pairing with `1 ⊗ conj B_a` -/
theorem pair_right (a : Fin (d * d)) :
    trMul (cbFromHjk B h j k) (kron Mat.one (conjM (B.get a))) =
      (-(ii : K)) * (h.toM.trace * (Bm B a).trace - (d : K) * (h.toM * Bm B a).trace)
      + (j.toM.trace * (Bm B a).trace + (d : K) * (j.toM * Bm B a).trace) := by
  rw [trMul_cbFromHjk_kron B h j k hh hj hB.herm, conjM_toM_of_herm _ (hB.herm a)]
  simp only [Mat.toM_one, toM_get_eq_Bm, Matrix.mul_one, Matrix.trace_transpose, Matrix.trace_one,
    Fintype.card_fin, hB.trace_suc, zero_mul, mul_zero, Finset.sum_const_zero, add_zero,
    trace_T_mul_T]
end extract2


section matlevel
variable {K : Type} [Field K] [StarRing K] [HasI K] {d : Nat}

/-- a linear combination of the basis elements, as the model writes it -/
theorem toM_msum_smul (B : Basis K d) (c : Fin (d * d) → K) :
    (msum (d * d) fun a => (B.get a).smul (c a)).toM = ∑ a, c a • Bm B a := by
  rw [toM_msum]
  exact Finset.sum_congr rfl fun a _ => Mat.toM_smul _ _

/-- completeness of the basis: every matrix is the sum of its components -/
def Complete (B : Basis K d) : Prop :=
  ∀ X : Matrix (Fin d) (Fin d) K, X = ∑ a, (X * Bm B a).trace • Bm B a

/-- completeness follows from orthonormality: expanding `X` in the basis is `(toB B)ᴴ * toB B = 1` applied to the flattened `X` -/
theorem complete_of_onh0 (B : Basis K d) (z : Fin (d * d)) (s : K) (hB : ONH0 B z s) : Complete B := by
  intro X
  ext i j
  have h := congrFun (congrArg (· *ᵥ fun r => X (p1 r) (p2 r)) hB.toB_adj_mul) (pr i j)
  simp only [← Matrix.mulVec_mulVec, Matrix.one_mulVec, p1_pr, p2_pr] at h
  rw [← h, Matrix.sum_apply, Matrix.mulVec, dotProduct]
  refine Finset.sum_congr rfl fun a _ => ?_
  rw [Matrix.smul_apply, hB.trace_mul_Bm, smul_eq_mul, mul_comm]
  simp only [toB, Bf, Matrix.conjTranspose_apply, Matrix.of_apply, star_star, p1_pr, p2_pr, Bm, Mat.toM_apply]

theorem eq_zero_of_toM {m n : Nat} (A : Mat K m n) (h : A.toM = 0) : A = Mat.zero := by
  apply Mat.toM_injective; rw [h, Mat.toM_zero]
end matlevel


section expo_mathlib
open NormedSpace
open scoped Matrix.Norms.Operator

theorem pow_row0 {n : Type} [Fintype n] [DecidableEq n] (L : Matrix n n ℝ) (z : n) (hL : ∀ j, L z j = 0)
    (k : ℕ) (j : n) : (L ^ (k + 1)) z j = 0 := by
  rw [pow_succ', Matrix.mul_apply]
  apply Finset.sum_eq_zero; intro l _
  rw [hL l, zero_mul]

theorem exp_row0 {n : Type} [Fintype n] [DecidableEq n] (L : Matrix n n ℝ) (z : n) (hL : ∀ j, L z j = 0)
    (j : n) : (exp L) z j = if z = j then 1 else 0 := by
  -- entrywise, only the zeroth term of the exponential series is non-zero in row `z`
  have hs := Pi.hasSum.mp (Pi.hasSum.mp (exp_series_hasSum_exp' (𝕂 := ℝ) L) z) j
  have h0 := hasSum_single (f := fun k : ℕ => (((k.factorial : ℝ)⁻¹) • L ^ k) z j) 0 fun k hk => by
    obtain ⟨k, rfl⟩ := Nat.exists_eq_succ_of_ne_zero hk
    rw [Matrix.smul_apply, pow_row0 L z hL k j, smul_zero]
  exact (hs.unique h0).trans (by simp [Matrix.one_apply])

/-- the executed partial sums are the partial sums of Mathlib's exponential series -/
theorem expLoop_toM {n : Nat} (L : Mat ℝ n n) (k : Nat) :
    (expLoop L k).1.toM = ((k.factorial : ℝ)⁻¹) • L.toM ^ k ∧
    (expLoop L k).2.toM = ∑ i ∈ Finset.range (k + 1), ((i.factorial : ℝ)⁻¹) • L.toM ^ i := by
  induction k with
  | zero => simp [expLoop]
  | succ k ih =>
    obtain ⟨ih1, ih2⟩ := ih
    have h1 : (expLoop L (k + 1)).1.toM = (((k + 1).factorial : ℝ)⁻¹) • L.toM ^ (k + 1) := by
      simp only [expLoop, Mat.toM_smul, Mat.toM_mul, ih1, Matrix.smul_mul, smul_smul, pow_succ]
      congr 1
      rw [Nat.factorial_succ]
      push_cast
      field_simp
    refine ⟨h1, ?_⟩
    rw [Finset.sum_range_succ, ← ih2, ← h1]
    simp [expLoop]
end expo_mathlib

section choi
open scoped ComplexOrder
variable {d : Nat}

/-- `V[(i,k), a] = B_{a+1}[k, i]`: the flattened traceless basis elements as columns -/
def vecB (B : Basis ℂ d) : Matrix (Fin (d * d)) (Fin (d * d - 1)) ℂ :=
  Matrix.of fun r a => (B.get (suc a)).get (p2 r) (p1 r)

theorem choiCb_kPart (B : Basis ℂ d) (k : Mat ℂ (d * d - 1) (d * d - 1)) :
    (choiCb (kPart B k)).toM = vecB B * k.toM * (vecB B)ᴴ := by
  ext r c
  simp only [choiCb, kPart, Mat.toM_apply, Mat.get_ofFn, msum_get, smul_get, kron_get, conjM_get, p1_pr, p2_pr,
    Matrix.mul_apply, Matrix.conjTranspose_apply, vecB, Matrix.of_apply, Finset.sum_mul]
  rw [Finset.sum_comm]
  refine Finset.sum_congr rfl fun b _ => Finset.sum_congr rfl fun a _ => ?_
  ring

theorem vecB_orthonormal (B : Basis ℂ d) (z : Fin (d * d)) (s : ℂ) (hB : ONH0 B z s) :
    (vecB B)ᴴ * vecB B = 1 := by
  ext a b
  rw [Matrix.one_apply, ← if_congr (suc_eq_iff (a := a) (b := b)) rfl rfl, ← hB.orth (suc a) (suc b), ← hB.herm (suc a),
    Matrix.mul_apply, sum_pairs, Matrix.trace]
  simp only [vecB, Matrix.conjTranspose_apply, Matrix.of_apply, p1_pr, p2_pr, Matrix.diag_apply, Matrix.mul_apply, Bm,
    Mat.toM_apply]

end choi

/-! ## the executed scalars form a field: the polymorphic theorems apply literally to the driver's instance -/
namespace CRat
@[ext] theorem ext' {a b : CRat} (h1 : a.re = b.re) (h2 : a.im = b.im) : a = b := by
  cases a; cases b; simp_all
@[simp] theorem add_re (a b : CRat) : (a + b).re = a.re + b.re := rfl
@[simp] theorem add_im (a b : CRat) : (a + b).im = a.im + b.im := rfl
@[simp] theorem sub_re (a b : CRat) : (a - b).re = a.re - b.re := rfl
@[simp] theorem sub_im (a b : CRat) : (a - b).im = a.im - b.im := rfl
@[simp] theorem neg_re (a : CRat) : (-a).re = -a.re := rfl
@[simp] theorem neg_im (a : CRat) : (-a).im = -a.im := rfl
@[simp] theorem mul_re (a b : CRat) : (a * b).re = a.re * b.re - a.im * b.im := rfl
@[simp] theorem mul_im (a b : CRat) : (a * b).im = a.re * b.im + a.im * b.re := rfl
@[simp] theorem zero_re : (0 : CRat).re = 0 := rfl
@[simp] theorem zero_im : (0 : CRat).im = 0 := rfl
@[simp] theorem one_re : (1 : CRat).re = 1 := rfl
@[simp] theorem one_im : (1 : CRat).im = 0 := rfl
@[simp] theorem natCast_re (n : ℕ) : ((n : CRat)).re = (n : ℚ) := rfl
@[simp] theorem natCast_im (n : ℕ) : ((n : CRat)).im = 0 := rfl
@[simp] theorem div_re (a b : CRat) : (a / b).re = (a.re * b.re + a.im * b.im) / (b.re * b.re + b.im * b.im) := rfl
@[simp] theorem div_im (a b : CRat) : (a / b).im = (a.im * b.re - a.re * b.im) / (b.re * b.re + b.im * b.im) := rfl
@[simp] theorem conj_re (a : CRat) : (conj a).re = a.re := rfl
@[simp] theorem conj_im (a : CRat) : (conj a).im = -a.im := rfl

instance : Inv CRat := ⟨fun a => 1 / a⟩
@[simp] theorem inv_re (a : CRat) : (a⁻¹).re = a.re / (a.re * a.re + a.im * a.im) := by
  show (1 / a).re = _; simp
@[simp] theorem inv_im (a : CRat) : (a⁻¹).im = -a.im / (a.re * a.re + a.im * a.im) := by
  show (1 / a).im = _; simp

theorem abs2_pos {a : CRat} (h : a ≠ 0) : 0 < a.re * a.re + a.im * a.im := by
  refine lt_of_le_of_ne (add_nonneg (mul_self_nonneg _) (mul_self_nonneg _)) fun h0 => h ?_
  obtain ⟨hr, hi⟩ := mul_self_add_mul_self_eq_zero.mp h0.symm
  exact ext' hr hi

/-- the complex rationals of the executable model form a field (all operations are the model's own instances) -/
instance instField : Field CRat where
  add := (· + ·)
  zero := 0
  neg := Neg.neg
  sub := (· - ·)
  mul := (· * ·)
  one := 1
  inv := Inv.inv
  div := (· / ·)
  natCast n := (n : CRat)
  add_assoc a b c := by ext <;> simp <;> ring
  zero_add a := by ext <;> simp
  add_zero a := by ext <;> simp
  add_comm a b := by ext <;> simp <;> ring
  neg_add_cancel a := by ext <;> simp
  sub_eq_add_neg a b := by ext <;> simp <;> ring
  mul_assoc a b c := by ext <;> simp <;> ring
  one_mul a := by ext <;> simp
  mul_one a := by ext <;> simp
  left_distrib a b c := by ext <;> simp <;> ring
  right_distrib a b c := by ext <;> simp <;> ring
  mul_comm a b := by ext <;> simp <;> ring
  zero_mul a := by ext <;> simp
  mul_zero a := by ext <;> simp
  natCast_zero := by ext <;> simp
  natCast_succ n := by ext <;> simp
  nsmul := nsmulRec
  zsmul := zsmulRec
  exists_pair_ne := ⟨0, 1, by intro h; have := congrArg CRat.re h; simp at this⟩
  mul_inv_cancel a h := by
    have hp := abs2_pos h
    have hne : a.re * a.re + a.im * a.im ≠ 0 := ne_of_gt hp
    ext
    · simp only [mul_re, inv_re, inv_im, one_re]
      rw [show a.re * (a.re / (a.re * a.re + a.im * a.im)) - a.im * (-a.im / (a.re * a.re + a.im * a.im))
        = (a.re * a.re + a.im * a.im) / (a.re * a.re + a.im * a.im) by ring]
      exact div_self hne
    · simp only [mul_im, inv_re, inv_im, one_im]
      field_simp
      ring
  inv_zero := by ext <;> simp
  div_eq_mul_inv a b := by ext <;> simp <;> ring
  nnqsmul := _
  nnqsmul_def := fun _ _ => rfl
  qsmul := _
  qsmul_def := fun _ _ => rfl
  nnratCast_def := fun _ => rfl
  ratCast_def := fun _ => rfl

instance instStar : Star CRat := ⟨conj⟩
@[simp] theorem star_re (a : CRat) : (star a).re = a.re := rfl
@[simp] theorem star_im (a : CRat) : (star a).im = -a.im := rfl

instance instStarRing : StarRing CRat where
  star_involutive a := by ext <;> simp
  star_mul a b := by ext <;> simp <;> ring
  star_add a b := by ext <;> simp <;> ring

instance instCharZero : CharZero CRat where
  cast_injective m n h := by
    have := congrArg CRat.re h
    simpa using this

theorem ii_mul_ii : (ii : CRat) * ii = -1 := by ext <;> simp [ii, HasI.ii]

/-- the embedding of the complex rationals into `ℂ` -/
def toC : CRat →+* ℂ where
  toFun a := ⟨(a.re : ℝ), (a.im : ℝ)⟩
  map_one' := by apply Complex.ext <;> simp
  map_mul' a b := by apply Complex.ext <;> simp [Complex.mul_re, Complex.mul_im]
  map_zero' := by apply Complex.ext <;> simp
  map_add' a b := by apply Complex.ext <;> simp

@[simp] theorem toC_re (a : CRat) : (toC a).re = (a.re : ℝ) := rfl
@[simp] theorem toC_im (a : CRat) : (toC a).im = (a.im : ℝ) := rfl
theorem toC_star (a : CRat) : toC (star a) = star (toC a) := by
  apply Complex.ext <;> simp
end CRat

theorem rabs_eq_abs (x : ℚ) : rabs x = |x| := by
  unfold rabs
  split_ifs with h
  · rw [abs_of_neg h]
  · rw [abs_of_nonneg (not_lt.mp h)]

section cmap
/-- entrywise embedding of complex-rational matrices into `ℂ` -/
def mapC {m n : Nat} (A : Mat CRat m n) : Matrix (Fin m) (Fin n) ℂ := A.toM.map CRat.toC

theorem mapC_apply {m n : Nat} (A : Mat CRat m n) (i : Fin m) (j : Fin n) : mapC A i j = CRat.toC (A.get i j) := rfl
theorem mapC_mul {m n k : Nat} (A : Mat CRat m n) (B : Mat CRat n k) : mapC (A.mul B) = mapC A * mapC B := by
  simp [mapC, Mat.toM_mul, Matrix.map_mul]
theorem mapC_sub {m n : Nat} (A B : Mat CRat m n) : mapC (A.sub B) = mapC A - mapC B := by
  ext i j; simp [mapC, Mat.sub]
theorem mapC_add {m n : Nat} (A B : Mat CRat m n) : mapC (A.add B) = mapC A + mapC B := by
  ext i j; simp [mapC, Mat.add]
theorem mapC_zero {m n : Nat} : mapC (Mat.zero : Mat CRat m n) = 0 := by
  ext i j; simp [mapC, Mat.zero]
theorem mapC_adj {m n : Nat} (A : Mat CRat m n) : mapC (adj A) = (mapC A)ᴴ := by
  ext i j
  simp only [mapC, Matrix.map_apply, Mat.toM_apply, Matrix.conjTranspose_apply]
  rw [show (adj A).get i j = star (A.get j i) from by simp [adj]; rfl]
  exact CRat.toC_star _
theorem mapC_one {n : Nat} : mapC (Mat.one : Mat CRat n n) = 1 := by
  ext i j; simp [mapC, Mat.one, Matrix.one_apply, apply_ite]

theorem mapC_clipK {n : Nat} (lam : Vec CRat n) (V : Mat CRat n n) :
    mapC (clipK lam V) = mapC V * Matrix.diagonal (fun i => CRat.toC (if cltZero (lam.get i) then 0 else lam.get i))
      * (mapC V)ᴴ := by
  unfold clipK
  rw [mapC_mul, mapC_mul, mapC_adj]
  congr 2
  ext i j
  by_cases h : i = j
  · subst h; simp [mapC, diagC, Vec.get_ofFn]
  · simp [mapC, diagC, h]

/-- clipping a rational at 0, seen in `ℂ` -/
theorem toC_ofRat_clip (q : ℚ) :
    CRat.toC (CRat.ofRat (if q < 0 then 0 else q)) = (((max (q : ℝ) 0 : ℝ)) : ℂ) := by
  apply Complex.ext
  · by_cases h : q < 0
    · have h' : (q : ℝ) ≤ 0 := by exact_mod_cast h.le
      simp [CRat.ofRat, h, max_eq_right h']
    · have h' : (0 : ℝ) ≤ q := by exact_mod_cast not_lt.mp h
      simp [CRat.ofRat, h, max_eq_left h']
  · simp [CRat.ofRat]

/-- on a real `z` the complex comparison `cltZero` clips the real part -/
theorem clip_eq_ofRat (z : CRat) (hz : z.im = 0) :
    (if cltZero z then 0 else z) = CRat.ofRat (if z.re < 0 then 0 else z.re) := by
  by_cases h : z.re < 0 <;> ext <;> simp [cltZero, CRat.ofRat, h, hz]
end cmap

section jump
variable {K : Type} [Field K] [StarRing K] {d : Nat}

/-- an additive map carries `reduce(add, xs, x)` to a sum -/
theorem map_foldl_add {α M : Type} [AddCommMonoid M] (add : α → α → α) (f : α → M)
    (hf : ∀ a b, f (add a b) = f a + f b) (xs : List α) (x : α) :
    f (xs.foldl add x) = f x + (xs.map f).sum := by
  induction xs generalizing x with
  | nil => simp
  | cons y ys ih => simp [List.foldl_cons, ih, hf, add_assoc]

/-- action of `reduce(add, [f(c) for c in cs])` for a non-empty list -/
theorem act_lsumM_map (f : Mat K d d → Mat K (d * d) (d * d)) (c : Mat K d d) (cs : List (Mat K d d)) (rho : Mat K d d) :
    ∃ L, lsumM ((c :: cs).map f) = some L ∧ (act L rho).toM = ((c :: cs).map fun x => (act (f x) rho).toM).sum := by
  refine ⟨(cs.map f).foldl Mat.add (f c), rfl, ?_⟩
  rw [map_foldl_add Mat.add (fun y => (act y rho).toM) fun a b => act_add a b rho]
  simp [List.map_map, Function.comp_def]
end jump

section actext
variable {K : Type} [Field K] [StarRing K] {d : Nat}

/-- a comp-basis superoperator is determined by its action on the matrix units -/
theorem act_ext (L M : Mat K (d * d) (d * d)) (h : ∀ rho : Mat K d d, (act L rho).toM = (act M rho).toM) : L = M := by
  apply Mat.ext'; intro r c
  have := congrFun (congrFun (h (Mat.ofFn fun a b => if a = p1 c ∧ b = p2 c then 1 else 0)) (p1 r)) (p2 r)
  rwa [Mat.toM_apply, Mat.toM_apply, act_unit, act_unit, pr_p1_p2, pr_p1_p2] at this
end actext

section onh0Instances
/-- the basis `{(1)}` of the one-dimensional system -/
def basis1 : Basis ℂ 1 := Vec.ofFn fun _ => Mat.one

theorem Bm_basis1 (a : Fin (1 * 1)) : Bm basis1 a = 1 := by
  simp [Bm, basis1, Vec.get_ofFn]

theorem onh0_basis1 : ONH0 basis1 ⟨0, by decide⟩ (1 : ℂ) where
  herm a := by simp [Bm_basis1]
  orth a b := by
    have : a = b := by apply Fin.ext; have := a.isLt; have := b.isLt; omega
    simp [Bm_basis1, this]
  b0 := by simp [Bm_basis1]
  z0 := rfl
  snorm := by simp

/-- the jump operator `c = (2)` of the one-dimensional system -/
def c2 : Mat ℂ 1 1 := Mat.ofFn fun _ _ => 2


/-! ### a non-degenerate instance of `ONH0`: the normalised Pauli basis of one qubit over `ℂ` -/
/-- `1/√2` -/
noncomputable def sP : ℂ := ((Real.sqrt 2)⁻¹ : ℝ)

theorem sP_mul_self : sP * sP = 1 / 2 := by
  unfold sP
  rw [← Complex.ofReal_mul, ← mul_inv, Real.mul_self_sqrt (by norm_num)]
  norm_num

theorem star_sP : star sP = sP := by
  unfold sP; exact Complex.conj_ofReal _

/-- Pauli matrices `I, X, Y, Z` by index -/
def sigma (a : Nat) (i j : Nat) : ℂ :=
  match a, i, j with
  | 0, 0, 0 => 1 | 0, 1, 1 => 1
  | 1, 0, 1 => 1 | 1, 1, 0 => 1
  | 2, 0, 1 => -Complex.I | 2, 1, 0 => Complex.I
  | 3, 0, 0 => 1 | 3, 1, 1 => -1
  | _, _, _ => 0

/-- the normalised Pauli basis `σ_a/√2` of one qubit -/
noncomputable def basisPauli : Basis ℂ 2 :=
  Vec.ofFn fun a => Mat.ofFn fun i j => sP * sigma a.val i.val j.val

theorem Bm_basisPauli (a : Fin (2 * 2)) (i j : Fin 2) :
    Bm basisPauli a i j = sP * sigma a.val i.val j.val := by
  simp [Bm, basisPauli, Vec.get_ofFn]

/-- the Pauli matrices as matrix literals -/
theorem sigma_fin (a : Fin 4) (i j : Fin 2) : sigma a i j =
    (![!![1, 0; 0, 1], !![0, 1; 1, 0], !![0, -Complex.I; Complex.I, 0], !![1, 0; 0, -1]] :
      Fin 4 → Matrix (Fin 2) (Fin 2) ℂ) a i j := by
  fin_cases a <;> fin_cases i <;> fin_cases j <;> rfl

/-- `tr(σ_a σ_b) = 2 δ_ab` -/
theorem sigma_orth (a b : Fin 4) :
    ∑ i : Fin 2, ∑ j : Fin 2, sigma a i j * sigma b j i = if a = b then 2 else 0 := by
  simp only [sigma_fin, Fin.sum_univ_two]
  fin_cases a <;> fin_cases b <;> simp <;> norm_num

theorem onh0_basisPauli : ONH0 basisPauli ⟨0, by decide⟩ sP where
  herm a := by
    ext i j
    rw [Matrix.conjTranspose_apply, Bm_basisPauli, Bm_basisPauli, star_mul', star_sP, sigma_fin, sigma_fin]
    congr 1
    fin_cases a <;> fin_cases i <;> fin_cases j <;> simp
  orth a b := by
    have hs : ∀ i j : Fin 2, sP * sigma a i j * (sP * sigma b j i) = 1 / 2 * (sigma a i j * sigma b j i) := by
      intro i j; rw [← sP_mul_self]; ring
    simp only [Matrix.trace, Matrix.diag_apply, Matrix.mul_apply, Bm_basisPauli, hs, ← Finset.mul_sum, sigma_orth]
    split_ifs <;> norm_num
  b0 := by
    ext i j
    rw [Bm_basisPauli, sigma_fin]
    fin_cases i <;> fin_cases j <;> simp
  z0 := rfl
  snorm := by
    rw [sP_mul_self]; norm_num

/-- the Pauli matrix `X` as a model matrix (a Hermitian, traceless test Hamiltonian) -/
def matX : Mat ℂ 2 2 := Mat.ofFn fun i j => sigma 1 i.val j.val

theorem matX_toM : matX.toM = !![0, 1; 1, 0] := by
  ext i j
  rw [Mat.toM_apply, matX, Mat.get_ofFn]
  exact sigma_fin 1 i j

theorem matX_herm : matX.toMᴴ = matX.toM := by
  rw [matX_toM]
  ext i j
  fin_cases i <;> fin_cases j <;> simp

theorem matX_mul_self : matX.toM * matX.toM = 1 := by
  rw [matX_toM, Matrix.mul_fin_two, Matrix.one_fin_two]
  simp

/-! ### a non-degenerate instance of `ONH0` over the EXECUTED scalars: two qubits, `σ_a ⊗ σ_b / 2` (exact in `CRat`) -/
/-- the Kronecker squares `c · G_a ⊗ G_b` of a Hermitian family `G` with `G_0 = 1` and `tr(G_a G_b) = n δ_ab` form an
`ONH0` basis of the doubled system when `c` is real and `(c n)² = 1` -/
theorem onh0_kron {K : Type} [Field K] [StarRing K] {d : Nat} (G : Basis K d) (z0 : Fin (d * d)) (c n : K)
    (B : Basis K (d * d)) (hB : ∀ a, B.get a = (kron (G.get (p1 a)) (G.get (p2 a))).smul c)
    (hherm : ∀ a i j, star ((G.get a).get j i) = (G.get a).get i j)
    (horth : ∀ a b, trMul (G.get a) (G.get b) = if a = b then n else 0)
    (h0 : ∀ i j, (G.get z0).get i j = if i = j then 1 else 0) (hz : z0.val = 0)
    (hc : star c = c) (hn : c * c * (n * n) = 1) (hd : c * c * ((d * d : ℕ) : K) = 1) :
    ONH0 B (pr z0 z0) c where
  herm a := by
    ext i j
    simp only [Matrix.conjTranspose_apply, Bm, Mat.toM_apply, hB, smul_get, kron_get, star_mul', hc, hherm]
  orth a b := by
    have : Bm B a * Bm B b = (c * c) • ((kron (G.get (p1 a)) (G.get (p2 a))).toM *
        (kron (G.get (p1 b)) (G.get (p2 b))).toM) := by
      simp only [Bm, hB, Mat.toM_smul, Matrix.smul_mul, Matrix.mul_smul, smul_smul]
    -- `tr((A ⊗ C)(A' ⊗ C')) = tr(AA') · tr(CC')`
    rw [this, Matrix.trace_smul, ← trMul_eq_trace, trMul_kron_kron, ← trMul_eq_trace, ← trMul_eq_trace, horth, horth]
    by_cases h1 : p1 a = p1 b <;> by_cases h2 : p2 a = p2 b <;> simp [eq_iff_p1_p2 a b, h1, h2, hn]
  b0 := by
    ext i j
    simp only [Bm, Mat.toM_apply, hB, smul_get, kron_get, p1_pr, p2_pr, h0, Matrix.smul_apply, Matrix.one_apply,
      eq_iff_p1_p2 i j]
    by_cases h1 : p1 i = p1 j <;> by_cases h2 : p2 i = p2 j <;> simp [h1, h2]
  z0 := by simp [pr, hz]
  snorm := hd

/-- single-qubit Pauli entries over `CRat` -/
def sigmaQ (a i j : Nat) : CRat :=
  match a, i, j with
  | 0, 0, 0 => 1 | 0, 1, 1 => 1
  | 1, 0, 1 => 1 | 1, 1, 0 => 1
  | 2, 0, 1 => ⟨0, -1⟩ | 2, 1, 0 => ⟨0, 1⟩
  | 3, 0, 0 => 1 | 3, 1, 1 => ⟨-1, 0⟩
  | _, _, _ => 0

/-- the normalised two-qubit Pauli basis `σ_a ⊗ σ_b / 2` — exact over the complex rationals (`s = 1/2`) -/
def basisPauli2 : Basis CRat 4 :=
  Vec.ofFn fun a => Mat.ofFn fun i j =>
    (⟨1/2, 0⟩ : CRat) * (sigmaQ (a.val / 4) (i.val / 2) (j.val / 2) * sigmaQ (a.val % 4) (i.val % 2) (j.val % 2))

theorem onh0_basisPauli2 : ONH0 basisPauli2 ⟨0, by decide⟩ (⟨1/2, 0⟩ : CRat) :=
  -- the one-qubit facts about `σ_a` (Hermitian, `tr(σ_a σ_b) = 2 δ_ab`, `σ_0 = 1`) are evaluated by the kernel
  onh0_kron (d := 2) (Vec.ofFn fun a => Mat.ofFn fun i j => sigmaQ a.val i.val j.val) ⟨0, by decide⟩ ⟨1/2, 0⟩ ⟨2, 0⟩
    basisPauli2
    (fun a => by
      apply Mat.ext'; intro i j
      simp only [basisPauli2, Vec.get_ofFn, Mat.get_ofFn, smul_get, kron_get]
      rfl)
    (by decide +kernel) (by decide +kernel) (by decide +kernel) rfl (by decide +kernel) (by decide +kernel)
    (by decide +kernel)

theorem one_mul_diagC_adj_one {n : Nat} (lam : Vec CRat n) :
    ((Mat.one : Mat CRat n n).mul (diagC lam)).mul (adj Mat.one) = diagC lam := by
  apply Mat.toM_injective
  rw [Mat.toM_mul, Mat.toM_mul, toM_adj, Mat.toM_one]
  simp
end onh0Instances

end QM.C18
