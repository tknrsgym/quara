import QModel.C04
import QProofs.Bridge
import Mathlib.Algebra.Order.Field.Basic
import Mathlib.Algebra.BigOperators.Ring.Finset
import Mathlib.Algebra.Order.BigOperators.Ring.Finset
import Mathlib.Tactic.Ring
import Mathlib.Tactic.Linarith
import Mathlib.Tactic.FieldSimp
/-! helper lemmas for C04, equality part: everything over an arbitrary linearly ordered field
(hence literally for the executed instance `Rat`). -/
open Finset
set_option linter.unusedSectionVars false
namespace QM

namespace Ten
variable {K : Type} {m n p : Nat}
@[simp] theorem get_ofFn (f : Fin m → Fin n → Fin p → K) (x : Fin m) (a : Fin n) (b : Fin p) :
    (ofFn f).get x a b = f x a b := by
  simp [ofFn, get, Mat.ofFn, Mat.get]
theorem ext' {S T : Ten K m n p} (h : ∀ x a b, S.get x a b = T.get x a b) : S = T := by
  apply Vector.ext; intro x hx; apply Mat.ext'; intro a b; exact h ⟨x, hx⟩ a b
end Ten

namespace C04

section generic
variable {K : Type} [Field K] [LinearOrder K] [IsStrictOrderedRing K] {ι : Type} [Fintype ι]

/-- Pythagoras with the cross term, for finitely many coordinates -/
theorem sq_dist_expand (x p y : ι → K) :
    ∑ i, (x i - y i) * (x i - y i) =
      ∑ i, (x i - p i) * (x i - p i) + ∑ i, (y i - p i) * (y i - p i)
        - 2 * ∑ i, (x i - p i) * (y i - p i) := by
  rw [Finset.mul_sum, ← Finset.sum_add_distrib, ← Finset.sum_sub_distrib]
  exact Finset.sum_congr rfl fun i _ => by ring

/-- variational inequality ⇒ the triangle `x, p, y` is obtuse at `p`: `‖x − p‖² + ‖y − p‖² ≤ ‖x − y‖²` -/
theorem sq_dist_add_le (x p y : ι → K) (h : ∑ i, (x i - p i) * (y i - p i) ≤ 0) :
    ∑ i, (x i - p i) * (x i - p i) + ∑ i, (y i - p i) * (y i - p i) ≤ ∑ i, (x i - y i) * (x i - y i) := by
  rw [sq_dist_expand x p y]
  exact (le_sub_self_iff _).2 (mul_nonpos_of_nonneg_of_nonpos zero_le_two h)

/-- … hence `p` is a nearest point -/
theorem nearest_of_vi (x p y : ι → K) (h : ∑ i, (x i - p i) * (y i - p i) ≤ 0) :
    ∑ i, (x i - p i) * (x i - p i) ≤ ∑ i, (x i - y i) * (x i - y i) :=
  (le_add_of_nonneg_right (Finset.sum_nonneg fun _ _ => mul_self_nonneg _)).trans (sq_dist_add_le x p y h)

/-- … and the only one -/
theorem eq_of_vi_of_le (x p y : ι → K) (h : ∑ i, (x i - p i) * (y i - p i) ≤ 0)
    (hle : ∑ i, (x i - y i) * (x i - y i) ≤ ∑ i, (x i - p i) * (x i - p i)) : y = p := by
  have h0 : ∑ i, (y i - p i) * (y i - p i) ≤ 0 :=
    (add_le_iff_nonpos_right _).1 ((sq_dist_add_le x p y h).trans hle)
  have h1 := (Finset.sum_mul_self_eq_zero_iff _ _).1
    (h0.antisymm (Finset.sum_nonneg fun _ _ => mul_self_nonneg _))
  exact funext fun i => sub_eq_zero.1 (h1 i (Finset.mem_univ i))

end generic

variable {K : Type} [Field K] [LinearOrder K] [IsStrictOrderedRing K] {m n : Nat}

/-! ### stacked inner products and distances as `Finset` sums over all coordinates; `nearest_of_vi` and
`eq_of_vi_of_le` for the three stacked shapes -/

def ip1 (u v : Vec K n) : K := ∑ i, u.get i * v.get i
def ip2 (u v : Mat K m n) : K := ∑ x, ∑ i, u.get x i * v.get x i
def ip3 {p : Nat} (u v : Ten K m n p) : K := ∑ x, ∑ a, ∑ b, u.get x a b * v.get x a b

def Ten.sub {p : Nat} (u v : Ten K m n p) : Ten K m n p := Ten.ofFn fun x a b => u.get x a b - v.get x a b

theorem sqd1_eq (u v : Vec K n) : sqd1 u v = ∑ i, (u.get i - v.get i) * (u.get i - v.get i) :=
  fsum_eq_sum _ _

theorem sqd1_nonneg (u v : Vec K n) : 0 ≤ sqd1 u v := by
  rw [sqd1_eq]; exact Finset.sum_nonneg fun i _ => mul_self_nonneg _

theorem sqd1_eq_zero (u v : Vec K n) (h : sqd1 u v = 0) : u = v := by
  rw [sqd1_eq, Finset.sum_mul_self_eq_zero_iff] at h
  exact Vec.ext' fun i => sub_eq_zero.1 (h i (Finset.mem_univ i))

theorem ip1_sub (x y p : Vec K n) :
    ip1 (x.sub p) (y.sub p) = ∑ i, (x.get i - p.get i) * (y.get i - p.get i) := by
  simp only [ip1, Vec.sub, Vec.get_ofFn]

theorem ip1_sub_self (u v : Vec K n) : ip1 (u.sub v) (u.sub v) = sqd1 u v :=
  (ip1_sub u u v).trans (sqd1_eq u v).symm

theorem sqd1_comm (u v : Vec K n) : sqd1 u v = sqd1 v u := by
  rw [sqd1_eq, sqd1_eq]; exact Finset.sum_congr rfl fun i _ => by ring

theorem nearest1 (x p y : Vec K n) (h : ip1 (x.sub p) (y.sub p) ≤ 0) : sqd1 x p ≤ sqd1 x y := by
  rw [sqd1_eq, sqd1_eq]; rw [ip1_sub] at h
  exact nearest_of_vi _ _ _ h

theorem unique1 (x p y : Vec K n) (h : ip1 (x.sub p) (y.sub p) ≤ 0) (hle : sqd1 x y ≤ sqd1 x p) : y = p := by
  rw [sqd1_eq, sqd1_eq] at hle; rw [ip1_sub] at h
  exact Vec.ext' fun i => congrFun (eq_of_vi_of_le _ _ _ h hle) i

/-- two points that each satisfy the variational inequality against the other coincide -/
theorem eq_of_two_vi (x p p' : Vec K n) (h1 : ip1 (x.sub p) (p'.sub p) ≤ 0) (h2 : ip1 (x.sub p') (p.sub p') ≤ 0) :
    p = p' :=
  unique1 x p' p h2 (nearest1 x p p' h1)

theorem sqd2_eq (u v : Mat K m n) :
    sqd2 u v = ∑ xi : Fin m × Fin n, (u.get xi.1 xi.2 - v.get xi.1 xi.2) * (u.get xi.1 xi.2 - v.get xi.1 xi.2) := by
  simp only [sqd2, fsum_eq_sum]
  exact (Fintype.sum_prod_type' _).symm

/-- row `k` of a matrix; the same as `A[k]`, whose bound proof Lean searches anew at every occurrence it elaborates -/
abbrev _root_.QM.Mat.row (A : Mat K m n) (k : Fin m) : Vec K n := A[k.val]'k.isLt

theorem sqd2_rows (X P : Mat K m n) : sqd2 X P = ∑ k : Fin m, sqd1 (X.row k) (P.row k) :=
  fsum_eq_sum _ _

theorem ip2_sub (x y p : Mat K m n) :
    ip2 (x.sub p) (y.sub p) = ∑ xi : Fin m × Fin n, (x.get xi.1 xi.2 - p.get xi.1 xi.2) * (y.get xi.1 xi.2 - p.get xi.1 xi.2) := by
  simp only [ip2, Mat.sub, Mat.get_ofFn]
  exact (Fintype.sum_prod_type' _).symm

theorem nearest2 (x p y : Mat K m n) (h : ip2 (x.sub p) (y.sub p) ≤ 0) : sqd2 x p ≤ sqd2 x y := by
  rw [sqd2_eq, sqd2_eq]; rw [ip2_sub] at h
  exact nearest_of_vi _ _ _ h

theorem unique2 (x p y : Mat K m n) (h : ip2 (x.sub p) (y.sub p) ≤ 0) (hle : sqd2 x y ≤ sqd2 x p) : y = p := by
  rw [sqd2_eq, sqd2_eq] at hle; rw [ip2_sub] at h
  exact Mat.ext' fun a b => congrFun (eq_of_vi_of_le _ _ _ h hle) (a, b)

theorem sqd3_eq {p : Nat} (u v : Ten K m n p) :
    sqd3 u v = ∑ t : Fin m × Fin n × Fin p,
      (u.get t.1 t.2.1 t.2.2 - v.get t.1 t.2.1 t.2.2) * (u.get t.1 t.2.1 t.2.2 - v.get t.1 t.2.1 t.2.2) := by
  simp only [sqd3, fsum_eq_sum, Fintype.sum_prod_type]

theorem ip3_sub {p : Nat} (x y q : Ten K m n p) :
    ip3 (Ten.sub x q) (Ten.sub y q) = ∑ t : Fin m × Fin n × Fin p,
      (x.get t.1 t.2.1 t.2.2 - q.get t.1 t.2.1 t.2.2) * (y.get t.1 t.2.1 t.2.2 - q.get t.1 t.2.1 t.2.2) := by
  simp only [ip3, Ten.sub, Ten.get_ofFn, Fintype.sum_prod_type]

theorem nearest3 {p : Nat} (x q y : Ten K m n p) (h : ip3 (Ten.sub x q) (Ten.sub y q) ≤ 0) :
    sqd3 x q ≤ sqd3 x y := by
  rw [sqd3_eq, sqd3_eq]; rw [ip3_sub] at h
  exact nearest_of_vi _ _ _ h

theorem unique3 {p : Nat} (x q y : Ten K m n p) (h : ip3 (Ten.sub x q) (Ten.sub y q) ≤ 0)
    (hle : sqd3 x y ≤ sqd3 x q) : y = q := by
  rw [sqd3_eq, sqd3_eq] at hle; rw [ip3_sub] at h
  exact Ten.ext' fun a b c => congrFun (eq_of_vi_of_le _ _ _ h hle) (a, b, c)

/-- trace one: the coefficient of `B_0 = 1/√d` is `s = 1/√d` -/
def State.Feas (s : K) (v : Vec K n) : Prop := ∀ i : Fin n, i.val = 0 → v.get i = s
/-- the elements sum to the identity `√d·B_0` -/
def Povm.Feas (t : K) (A : Mat K m n) : Prop := ∀ i : Fin n, ∑ x, A.get x i = if i.val = 0 then t else 0
/-- trace preserving: first HS row is `e0` -/
def Gate.Feas (H : Mat K n n) : Prop := ∀ a b : Fin n, a.val = 0 → H.get a b = e0 b
/-- the sum over outcomes is trace preserving -/
def MProcess.Feas (T : Ten K m n n) : Prop :=
  ∀ a b : Fin n, a.val = 0 → ∑ x, T.get x a b = e0 b

theorem State.projEq_get (s : K) (v : Vec K n) (i : Fin n) :
    (State.projEq s v).get i = if i.val = 0 then s else v.get i := by simp [State.projEq]

theorem Povm.projEq_get (t : K) (A : Mat K m n) (x : Fin m) (i : Fin n) :
    (Povm.projEq t A).get x i =
      A.get x i - (∑ x', A.get x' i) / (m : K) + (if i.val = 0 then t / (m : K) else 0) := by
  simp [Povm.projEq, fsum_eq_sum]

theorem Gate.projEq_get (H : Mat K n n) (a b : Fin n) :
    (Gate.projEq H).get a b = if a.val = 0 then e0 b else H.get a b := by
  simp [Gate.projEq, e0]

theorem MProcess.projEq_get (T : Ten K m n n) (x : Fin m) (a b : Fin n) :
    (MProcess.projEq T).get x a b =
      if a.val = 0 then T.get x a b - ((∑ x', T.get x' a b) - e0 b) / (m : K) else T.get x a b := by
  simp only [MProcess.projEq, Ten.get_ofFn, Vec.get_ofFn, fsum_eq_sum, e0]
  split
  · rename_i ha
    -- the sum over the rows with `a'.val = 0` has the single term `a' = a`
    have : ∀ a' : Fin n, a'.val = 0 ↔ a' = a := fun a' => by rw [Fin.ext_iff, ha]
    simp only [this, Finset.sum_ite_eq', Finset.mem_univ, if_true]
  · rfl

end C04
end QM
