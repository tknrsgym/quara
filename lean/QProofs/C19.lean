import QModel.C19
import QProofs.Bridge
import Mathlib.Tactic.Ring
import Mathlib.Tactic.FieldSimp
import Mathlib.Tactic.Linarith
import Mathlib.Algebra.BigOperators.Ring.Finset
import Mathlib.Algebra.CharZero.Defs
import Mathlib.Data.Matrix.Basic
import Mathlib.Logic.Equiv.Fin.Basic
import Mathlib.Algebra.BigOperators.Fin
/-! helper lemmas for C19: linearity and moments of the recursive multinomial expectation, block structure of the direct sum,
slices of a flattened list of equal blocks, sums over lists; and the definitions the statements of QProps/C19.lean use
(`linTrace`, `uniArgs`, `splitCols`, `mseEmpiExactTotal`, `lastElem`, `scaleRows`) -/
open Matrix
namespace QM.C19
open QM

section linear
variable {K : Type} [Field K] {α : Type}

/-- an additive and homogeneous functional on the functions into `K`: what the proofs use of the expectations
`expectN p n` and `expectJoint l` -/
structure IsLinear (E : (α → K) → K) : Prop where
  add : ∀ g h, E (fun c => g c + h c) = E g + E h
  smul : ∀ (a : K) g, E (fun c => a * g c) = a * E g

namespace IsLinear
variable {E : (α → K) → K} (hE : IsLinear E)
include hE

theorem mul_const (g : α → K) (a : K) : E (fun c => g c * a) = E g * a := by
  simp only [mul_comm _ a, hE.smul]

theorem sub (g h : α → K) : E (fun c => g c - h c) = E g - E h := by
  have : (fun c => g c - h c) = fun c => g c + (-1) * h c := by funext c; ring
  rw [this, hE.add, hE.smul]; ring

theorem finset_sum {ι : Type} (s : Finset ι) (g : ι → α → K) :
    E (fun c => ∑ x ∈ s, g x c) = ∑ x ∈ s, E (g x) := by
  classical
  induction s using Finset.induction_on with
  | empty => simpa using hE.smul 0 fun _ => 0
  | insert a s ha ih =>
    simp only [Finset.sum_insert ha]
    rw [hE.add, ih]

end IsLinear
end linear

section expect
variable {K : Type} [Field K] {m : Nat} (p : Vec K m)

theorem expectN_zero (g : Vec Nat m → K) : expectN p 0 g = g (Vec.ofFn fun _ => 0) := rfl

theorem expectN_succ (n : Nat) (g : Vec Nat m → K) :
    expectN p (n + 1) g = ∑ i, p.get i * expectN p n (fun c => g (bump c i)) := by
  rw [expectN, fsum_eq_sum]

theorem expectN_congr (n : Nat) {g h : Vec Nat m → K} (hgh : ∀ c, g c = h c) :
    expectN p n g = expectN p n h := by
  have : g = h := funext hgh
  rw [this]

theorem expectN_linear (n : Nat) : IsLinear (expectN p n) := by
  induction n with
  | zero => exact ⟨fun _ _ => rfl, fun _ _ => rfl⟩
  | succ n ih =>
    refine ⟨fun g h => ?_, fun a g => ?_⟩
    · simp only [expectN_succ, ih.add, mul_add, Finset.sum_add_distrib]
    · simp only [expectN_succ, ih.smul, Finset.mul_sum, mul_left_comm a]

theorem expectN_const (hp : ∑ i, p.get i = 1) (n : Nat) (a : K) :
    expectN p n (fun _ => a) = a := by
  induction n with
  | zero => rfl
  | succ n ih =>
    simp only [expectN_succ, ih]
    rw [← Finset.sum_mul, hp, one_mul]

theorem expectN_sub (n : Nat) (g h : Vec Nat m → K) :
    expectN p n (fun c => g c - h c) = expectN p n g - expectN p n h :=
  (expectN_linear p n).sub g h

theorem bump_get (c : Vec Nat m) (i j : Fin m) :
    (bump c i).get j = if j = i then c.get j + 1 else c.get j := by
  rw [bump, Vec.get_ofFn]

/-- the linear statistic `Σ_i a_i c_i` of the counts -/
def lin (a : Fin m → K) (c : Vec Nat m) : K := ∑ i, a i * (c.get i : K)

omit p in
theorem lin_zero (a : Fin m → K) : lin a (Vec.ofFn fun _ => 0) = 0 := by
  simp only [lin, Vec.get_ofFn, Nat.cast_zero, mul_zero, Finset.sum_const_zero]

omit p in
theorem lin_bump (a : Fin m → K) (c : Vec Nat m) (k : Fin m) : lin a (bump c k) = lin a c + a k := by
  have : ∀ i, a i * ((bump c k).get i : K) = a i * (c.get i : K) + if i = k then a i else 0 := by
    intro i
    rw [bump_get]
    split
    · rw [Nat.cast_add, Nat.cast_one, mul_add, mul_one]
    · rw [add_zero]
  simp only [lin, this, Finset.sum_add_distrib, Finset.sum_ite_eq', Finset.mem_univ, if_true]

variable (hp : ∑ i, p.get i = 1)
include hp

theorem expectN_lin (n : Nat) (a : Fin m → K) :
    expectN p n (lin a) = n * ∑ i, p.get i * a i := by
  induction n with
  | zero => rw [expectN_zero, lin_zero, Nat.cast_zero, zero_mul]
  | succ n ih =>
    have step : ∀ k, expectN p n (fun c => lin a (bump c k)) = n * (∑ i, p.get i * a i) + a k := by
      intro k
      simp only [lin_bump]
      rw [(expectN_linear p n).add, ih, expectN_const p hp]
    simp only [expectN_succ, step, mul_add, Finset.sum_add_distrib, ← Finset.sum_mul, hp, one_mul]
    push_cast
    ring

theorem expectN_shift_mul (n : Nat) (X Y : Vec Nat m → K) (α β : K) :
    expectN p n (fun c => (X c + α) * (Y c + β))
      = expectN p n (fun c => X c * Y c) + expectN p n X * β + expectN p n Y * α + α * β := by
  have : (fun c => (X c + α) * (Y c + β)) = fun c => X c * Y c + X c * β + Y c * α + α * β := by
    funext c; ring
  have L := expectN_linear p n
  rw [this, L.add, L.add, L.add, L.mul_const, L.mul_const, expectN_const p hp]

/-- second moment of two linear statistics: one more draw `k` shifts them by `a k`, `b k` -/
theorem expectN_lin_mul (n : Nat) (a b : Fin m → K) :
    expectN p n (fun c => lin a c * lin b c)
      = n * (n - 1) * ((∑ i, p.get i * a i) * ∑ i, p.get i * b i) + n * ∑ i, p.get i * (a i * b i) := by
  induction n with
  | zero => rw [expectN_zero, lin_zero, Nat.cast_zero, zero_mul, zero_mul, zero_mul, zero_mul, zero_add]
  | succ n ih =>
    simp only [expectN_succ, lin_bump, expectN_shift_mul p hp, ih, expectN_lin p hp]
    simp only [mul_add, Finset.sum_add_distrib, ← Finset.sum_mul, hp, one_mul, mul_left_comm (p.get _),
      ← Finset.mul_sum]
    push_cast
    ring

theorem expectN_lin_central (n : Nat) (a b : Fin m → K) :
    expectN p n (fun c => (lin a c - n * ∑ i, p.get i * a i) * (lin b c - n * ∑ i, p.get i * b i))
      = n * (∑ i, p.get i * (a i * b i) - (∑ i, p.get i * a i) * ∑ i, p.get i * b i) := by
  simp only [sub_eq_add_neg]
  rw [expectN_shift_mul p hp, expectN_lin_mul p hp, expectN_lin p hp, expectN_lin p hp]
  ring

end expect

section algebra
variable {K : Type} [Field K]

theorem covMat_get {m : Nat} (q : Vec K m) (n : K) (i j : Fin m) :
    (covMat q n).get i j = ((if i = j then q.get i else 0) - q.get i * q.get j) / n := by
  rw [covMat, Mat.get_ofFn]

theorem normSq_eq {k : Nat} (v : Vec K k) : normSq v = ∑ a, v.get a * v.get a := by
  rw [normSq, Vec.dot, fsum_eq_sum]

theorem conjugate_toM {k n : Nat} (X : Mat K k n) (V : Mat K n n) :
    (conjugate X V).toM = X.toM * V.toM * X.toMᵀ := by
  rw [conjugate, Mat.toM_mul, Mat.toM_mul, Mat.toM_transpose]

theorem trace_conjugate {k n : Nat} (X : Mat K k n) (V : Mat K n n) :
    (conjugate X V).trace = ∑ a, ∑ i, ∑ j, X.get a i * V.get i j * X.get a j := by
  rw [Mat.trace_eq, conjugate_toM]
  simp only [Matrix.trace, Matrix.diag, Matrix.mul_apply, Matrix.transpose_apply, Mat.toM_apply,
    Finset.sum_mul]
  refine Finset.sum_congr rfl fun a _ => ?_
  rw [Finset.sum_comm]

end algebra

section joint
variable {K : Type} [Field K] {m : Nat}

theorem expectJoint_linear (l : List (Vec K m × Nat)) : IsLinear (expectJoint l) := by
  induction l with
  | nil => exact ⟨fun _ _ => rfl, fun _ _ => rfl⟩
  | cons x r ih =>
    obtain ⟨p, n⟩ := x
    refine ⟨fun g h => ?_, fun a g => ?_⟩
    · simp only [expectJoint, ih.add, (expectN_linear p n).add]
    · simp only [expectJoint, ih.smul, (expectN_linear p n).smul]

theorem expectJoint_const (l : List (Vec K m × Nat)) (hl : ∀ x ∈ l, ∑ i, x.1.get i = 1) (a : K) :
    expectJoint l (fun _ => a) = a := by
  induction l with
  | nil => rfl
  | cons x r ih =>
    obtain ⟨hx, hr⟩ := List.forall_mem_cons.mp hl
    rw [expectJoint, expectN_congr x.1 x.2 fun c => ih hr]
    exact expectN_const x.1 hx x.2 a

end joint

section vecs
variable {K : Type} [Field K]

theorem vadd_get {n : Nat} (u v : Vec K n) (i : Fin n) : (u.add v).get i = u.get i + v.get i := by
  rw [Vec.add, Vec.get_ofFn]
theorem vsub_get {n : Nat} (u v : Vec K n) (i : Fin n) : (u.sub v).get i = u.get i - v.get i := by
  rw [Vec.sub, Vec.get_ofFn]
theorem vzero_get {n : Nat} (i : Fin n) : (Vec.zero : Vec K n).get i = 0 := by
  rw [Vec.zero, Vec.get_ofFn]
theorem mulVec_get {k n : Nat} (L : Mat K k n) (v : Vec K n) (a : Fin k) :
    (L.mulVec v).get a = ∑ i, L.get a i * v.get i := by
  rw [Mat.mulVec, Vec.get_ofFn, fsum_eq_sum]
theorem empi_get {m : Nat} (c : Vec Nat m) (n : Nat) (i : Fin m) :
    (empi (K := K) c n).get i = (c.get i : K) / (n : K) := by
  rw [empi, Vec.get_ofFn]

theorem normSq_add {k : Nat} (u w : Vec K k) :
    normSq (u.add w) = normSq u + 2 * (∑ a, u.get a * w.get a) + normSq w := by
  simp only [normSq_eq, vadd_get]
  rw [Finset.mul_sum, ← Finset.sum_add_distrib, ← Finset.sum_add_distrib]
  refine Finset.sum_congr rfl fun a _ => ?_
  ring

theorem err_eq {m : Nat} (p : Vec K m) (a : Fin m → K) (c : Vec Nat m) (n : Nat) (hn : (n : K) ≠ 0) :
    ∑ i, a i * ((empi (K := K) c n).get i - p.get i) = (lin a c - n * ∑ i, p.get i * a i) / n := by
  rw [sub_div, mul_div_cancel_left₀ _ hn, lin, div_eq_mul_inv, Finset.sum_mul, ← Finset.sum_sub_distrib]
  refine Finset.sum_congr rfl fun i _ => ?_
  rw [empi_get, mul_sub, div_eq_mul_inv, mul_assoc, mul_comm (a i) (p.get i)]

/-- `aᵀ Cov b` for `Cov = (diag p − p pᵀ)/n` -/
theorem covMat_bilin {m : Nat} (p : Vec K m) (a b : Fin m → K) (n : K) :
    ∑ i, ∑ j, a i * (covMat p n).get i j * b j
      = (∑ i, p.get i * (a i * b i) - (∑ i, p.get i * a i) * ∑ i, p.get i * b i) / n := by
  have : ∀ i j, a i * (covMat p n).get i j * b j
      = ((if i = j then p.get i * (a i * b i) else 0) - p.get i * a i * (p.get j * b j)) / n := by
    intro i j
    rw [covMat_get]
    split
    · rename_i h; subst h; ring
    · ring
  simp only [this, div_eq_mul_inv, ← Finset.sum_mul, Finset.sum_sub_distrib, Finset.sum_ite_eq, Finset.mem_univ,
    if_true, ← Finset.sum_mul_sum]

section errors
variable [CharZero K] {m : Nat} (p : Vec K m) (hp : ∑ i, p.get i = 1) (n : Nat) (hn : 1 ≤ n)
include hp hn

/-- a linear functional of the empirical distribution's error `f − p` has mean zero -/
theorem expectN_err (a : Fin m → K) :
    expectN p n (fun c => ∑ i, a i * ((empi (K := K) c n).get i - p.get i)) = 0 := by
  have hn0 : (n : K) ≠ 0 := by exact_mod_cast (Nat.pos_iff_ne_zero.mp hn)
  simp only [err_eq p a _ n hn0, div_eq_mul_inv]
  rw [(expectN_linear p n).mul_const, expectN_sub, expectN_lin p hp, expectN_const p hp, sub_self, zero_mul]

/-- covariance of two linear functionals of the empirical distribution: `aᵀ Cov b`, `Cov` the matrix of `calc_covariance_mat` -/
theorem expectN_err_mul (a b : Fin m → K) :
    expectN p n (fun c => (∑ i, a i * ((empi (K := K) c n).get i - p.get i))
        * ∑ j, b j * ((empi (K := K) c n).get j - p.get j))
      = ∑ i, ∑ j, a i * (covMat p (n : K)).get i j * b j := by
  have hn0 : (n : K) ≠ 0 := by exact_mod_cast (Nat.pos_iff_ne_zero.mp hn)
  simp only [err_eq p _ _ n hn0, div_mul_div_comm, div_eq_mul_inv _ ((n : K) * n)]
  rw [(expectN_linear p n).mul_const, expectN_lin_central p hp, covMat_bilin, mul_inv, mul_comm (n : K) _, mul_assoc,
    ← mul_assoc (n : K), mul_inv_cancel₀ hn0, one_mul, ← div_eq_mul_inv]

end errors

/-- `Σ_s trace(L_s Cov_s L_sᵀ)` over the schedules -/
def linTrace {m k : Nat} : List (Mat K k m × Vec K m × Nat) → K
  | [] => 0
  | (L, p, n) :: r => (conjugate L (covMat p (n : K))).trace + linTrace r

end vecs

section dsum
variable {K : Type} [Field K]

/-- the first `k` columns -/
def colsL {a k n : Nat} (X : Mat K a (k + n)) : Mat K a k :=
  Mat.ofFn fun r c => X.get r (Fin.castAdd n c)
/-- the remaining columns -/
def colsR {a k n : Nat} (X : Mat K a (k + n)) : Mat K a n :=
  Mat.ofFn fun r c => X.get r (Fin.natAdd k c)

theorem directSum_get (bs : List (Block K)) (i j : Fin (dsSize bs)) :
    (directSum bs).get i j = dsEntry bs i.val j.val := by
  rw [directSum, Mat.get_ofFn]

theorem dsEntry_cons (k : Nat) (B : Mat K k k) (r : List (Block K)) (i j : Nat) :
    dsEntry (⟨k, B⟩ :: r) i j =
      if h : i < k ∧ j < k then B.get ⟨i, h.1⟩ ⟨j, h.2⟩
      else if k ≤ i ∧ k ≤ j then dsEntry r (i - k) (j - k) else 0 := by
  rw [dsEntry]

/-- entry `(i, j)` of `B ⊕ rest`, by the blocks the two indices fall in -/
theorem directSum_cons_get (k : Nat) (B : Mat K k k) (r : List (Block K)) (i j : Fin (k + dsSize r)) :
    (directSum (⟨k, B⟩ :: r)).get i j =
      Fin.addCases (fun i' => Fin.addCases (B.get i') (fun _ => 0) j)
        (fun i' => Fin.addCases (fun _ => 0) ((directSum r).get i') j) i := by
  refine (directSum_get (⟨k, B⟩ :: r) i j).trans ((dsEntry_cons k B r i.val j.val).trans ?_)
  induction i using Fin.addCases with
  | left i =>
    have hi := i.isLt
    induction j using Fin.addCases with
    | left j => simp only [Fin.addCases_left, Fin.val_castAdd, dif_pos (And.intro hi j.isLt)]
    | right j =>
      simp only [Fin.addCases_left, Fin.addCases_right, Fin.val_castAdd, Fin.val_natAdd]
      rw [dif_neg (by omega), if_neg (by omega)]
  | right i =>
    induction j using Fin.addCases with
    | left j =>
      have hj := j.isLt
      simp only [Fin.addCases_left, Fin.addCases_right, Fin.val_castAdd, Fin.val_natAdd]
      rw [dif_neg (by omega), if_neg (by omega)]
    | right j =>
      simp only [Fin.addCases_right, Fin.val_natAdd]
      rw [dif_neg (by omega), if_pos (by omega), directSum_get, Nat.add_sub_cancel_left, Nat.add_sub_cancel_left]

/-- trace of the direct sum = sum of the traces (`calc_mse_empi_dists_analytical` adds the traces) -/
theorem trace_directSum (bs : List (Block K)) : (directSum bs).trace = mseEmpi bs := by
  induction bs with
  | nil => simp [Mat.trace, fsum_eq_sum, mseEmpi, dsSize]
  | cons b r ih =>
    obtain ⟨k, B⟩ := b
    rw [mseEmpi, ← ih]
    simp only [Mat.trace, fsum_eq_sum]
    show ∑ i : Fin (k + dsSize r), _ = _
    simp only [Fin.sum_univ_add, directSum_cons_get, Fin.addCases_left, Fin.addCases_right]

omit [Field K] in
theorem colsL_get {a k n : Nat} (X : Mat K a (k + n)) (x : Fin a) (i : Fin k) :
    (colsL X).get x i = X.get x (Fin.castAdd n i) := by rw [colsL, Mat.get_ofFn]
omit [Field K] in
theorem colsR_get {a k n : Nat} (X : Mat K a (k + n)) (x : Fin a) (i : Fin n) :
    (colsR X).get x i = X.get x (Fin.natAdd k i) := by rw [colsR, Mat.get_ofFn]

theorem mseLinearVar_nil {a : Nat} (X : Mat K a (dsSize ([] : List (Block K)))) :
    mseLinearVar [] X = 0 := by
  unfold mseLinearVar
  rw [trace_conjugate]
  refine Finset.sum_eq_zero fun x _ => ?_
  exact Finset.sum_eq_zero fun i _ => Fin.elim0 i

/-- block decomposition of `trace(X (B ⊕ rest) Xᵀ)` -/
theorem mseLinearVar_cons {a : Nat} (k : Nat) (B : Mat K k k) (r : List (Block K))
    (X : Mat K a (dsSize (⟨k, B⟩ :: r))) :
    mseLinearVar (⟨k, B⟩ :: r) X
      = (conjugate (colsL (k := k) (n := dsSize r) X) B).trace
        + mseLinearVar r (colsR (k := k) (n := dsSize r) X) := by
  unfold mseLinearVar
  rw [trace_conjugate, trace_conjugate, trace_conjugate, ← Finset.sum_add_distrib]
  refine Finset.sum_congr rfl fun x _ => ?_
  -- the index type `Fin (dsSize (⟨k, B⟩ :: r))` is `Fin (k + dsSize r)`: both sums split there
  show (∑ i : Fin (k + dsSize r), ∑ j : Fin (k + dsSize r), _) = _
  simp only [Fin.sum_univ_add, directSum_cons_get, Fin.addCases_left, Fin.addCases_right, mul_zero, zero_mul,
    Finset.sum_const_zero, add_zero, zero_add, colsL, colsR, Mat.get_ofFn]
  rfl

end dsum

section uniform
variable {K : Type} [Field K] {m : Nat}

/-- arguments of `covBlocks` for schedules with a common outcome count -/
def uniArgs : List (Vec K m × Nat) → List ((m : Nat) × Vec K m × K)
  | [] => []
  | (p, n) :: r => ⟨m, p, (n : K)⟩ :: uniArgs r

/-- the column blocks of `A⁺`, one per schedule -/
def splitCols {a : Nat} : (l : List (Vec K m × Nat)) → Mat K a (dsSize (covBlocks (uniArgs l))) →
    List (Mat K a m × Vec K m × Nat)
  | [], _ => []
  | (p, n) :: r, X =>
    (colsL (k := m) (n := dsSize (covBlocks (uniArgs r))) X, p, n)
      :: splitCols r (colsR (k := m) (n := dsSize (covBlocks (uniArgs r))) X)

theorem splitCols_map {a : Nat} (l : List (Vec K m × Nat)) (X : Mat K a (dsSize (covBlocks (uniArgs l)))) :
    (splitCols l X).map (fun x => (x.2.1, x.2.2)) = l := by
  induction l with
  | nil => rfl
  | cons y r ih => rw [splitCols, List.map_cons, ih]

end uniform

section slices

theorem length_flatten_uniform {α : Type} (blocks : List (List α)) (m : Nat)
    (h : ∀ b ∈ blocks, b.length = m) : blocks.flatten.length = m * blocks.length := by
  induction blocks with
  | nil => simp
  | cons b r ih =>
    obtain ⟨hb, hr⟩ := List.forall_mem_cons.mp h
    simp only [List.flatten_cons, List.length_append, List.length_cons]
    rw [ih hr, hb]
    ring

theorem drop_flatten_uniform {α : Type} (blocks : List (List α)) (m : Nat)
    (h : ∀ b ∈ blocks, b.length = m) (j : Nat) :
    blocks.flatten.drop (m * j) = (blocks.drop j).flatten := by
  induction blocks generalizing j with
  | nil => simp
  | cons b r ih =>
    cases j with
    | zero => simp
    | succ j =>
      obtain ⟨hb, hr⟩ := List.forall_mem_cons.mp h
      simp only [List.flatten_cons, List.drop_succ_cons]
      rw [show m * (j + 1) = b.length + m * j by rw [hb]; ring, ← List.drop_drop, List.drop_left]
      exact ih hr j

theorem slice_flatten_uniform {α : Type} (blocks : List (List α)) (m : Nat)
    (h : ∀ b ∈ blocks, b.length = m) (j : Nat) (hj : j < blocks.length) :
    (blocks.flatten.drop (m * j)).take m = blocks[j] := by
  rw [drop_flatten_uniform blocks m h j, List.drop_eq_getElem_cons hj, List.flatten_cons]
  have : blocks[j].length = m := h _ (List.getElem_mem hj)
  rw [← this, List.take_left]

end slices
/-! ## definitions used in the statements of QProps/C19.lean -/

section statementDefs
variable {K : Type} [Field K] {m k : Nat}

/-- exact mean squared error of all empirical distributions: `Σ_s E‖f_s − p_s‖²` -/
def mseEmpiExactTotal : List (Vec K m × Nat) → K
  | [] => 0
  | (p, n) :: r => mseEmpiExact p n + mseEmpiExactTotal r


/-- the element a POVM with `on_para_eq_constraint=True` does not store: `c − Σ_k E_k` (`c` = coefficient vector of
the identity) -/
def lastElem {K : Type} [Field K] (d2 mo : Nat) (c : Vec K d2) (v : Vec K ((mo - 1) * d2)) : Vec K d2 :=
  Vec.ofFn fun a => c.get a - ∑ k : Fin (mo - 1), v.get (finProdFinEquiv (k, a))


end statementDefs

/-! ## sums over lists and rows (Fisher accumulation, `replace_prob_dist`) -/
section listSums
variable {K : Type} [Field K]

theorem lsum_zip_ofFn {α β : Type} {m : Nat} (f : Fin m → α) (g : Fin m → β) (h : α × β → K) :
    lsum (((List.ofFn f).zip (List.ofFn g)).map h) = ∑ i, h (f i, g i) := by
  induction m with
  | zero => simp [lsum]
  | succ m ih =>
    rw [List.ofFn_succ, List.ofFn_succ, List.zip_cons_cons, List.map_cons, Fin.sum_univ_succ]
    have := ih (fun i => f i.succ) (fun i => g i.succ)
    simp only [lsum, List.foldr_cons] at this ⊢
    rw [this]


/-- scaled matrix `w · F` (rows) -/
def scaleRows (w : K) (F : List (List K)) : List (List K) := F.map fun r => r.map fun x => w * x

theorem sum_map_sub_const (l : List K) (c : K) : (l.map fun p => p - c).sum = l.sum - l.length * c := by
  induction l with
  | nil => simp
  | cons p r ih =>
    rw [List.map_cons, List.sum_cons, List.sum_cons, List.length_cons, ih]
    push_cast
    ring

end listSums
end QM.C19
