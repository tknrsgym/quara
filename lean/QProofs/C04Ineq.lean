import QProofs.C04
import QProofs.C04Psd
import Mathlib.Logic.Equiv.Fin.Basic
import Mathlib.Analysis.Real.Sqrt
import Mathlib.LinearAlgebra.Matrix.NonsingularInverse
/-! bridge of the inequality-projection model (`clipMat`, `matOfVec`, `coeffs`, `truncate`) at `R = ℝ`, `K = ℂ`
to the Mathlib statements of `QProofs.C04Psd`. -/
open Matrix
set_option linter.unusedSectionVars false
namespace QM.C04

noncomputable instance instCxLikeRC : CxLike ℝ ℂ := ⟨Complex.ofReal, starRingEnd ℂ, Complex.re, Complex.im⟩

@[simp] theorem ofReal_def (r : ℝ) : (CxLike.ofReal r : ℂ) = (r : ℂ) := rfl
@[simp] theorem conj_def (z : ℂ) : (CxLike.conj z : ℂ) = star z := rfl
@[simp] theorem re_def (z : ℂ) : (CxLike.re z : ℝ) = z.re := rfl
@[simp] theorem im_def (z : ℂ) : (CxLike.im z : ℝ) = z.im := rfl

variable {n d : Nat}

theorem pos_eq_max (x : ℝ) : pos x = max x 0 := by
  unfold pos; split
  · rename_i h; rw [max_eq_right h.le]
  · rename_i h; rw [max_eq_left (not_lt.1 h)]

/-- the basis as a family of Mathlib matrices -/
def basisM (B : Vector (Mat ℂ d d) n) : Fin n → Matrix (Fin d) (Fin d) ℂ := fun a => (B[a]).toM

/-- the model's `Σ_k U_ik e_k conj(U_jk)` is `U diag(e) Uᴴ` -/
theorem toM_conjDiag (U : Mat ℂ d d) (e : Fin d → ℂ) :
    (Mat.ofFn fun i j => fsum d fun k => U.get i k * e k * CxLike.conj (U.get j k)).toM
      = U.toM * diagonal e * U.toMᴴ := by
  ext i j
  simp [Matrix.mul_apply, fsum_eq_sum, Matrix.diagonal_apply, Matrix.conjTranspose_apply]

theorem toM_clipMat (U : Mat ℂ d d) (lam : Vec ℝ d) :
    (clipMat U lam).toM = Psd.clip U.toM (fun i => lam.get i) := by
  simp only [Psd.clip, ← pos_eq_max]
  exact toM_conjDiag U _

theorem toM_rebuild (U : Mat ℂ d d) (lam : Vec ℝ d) :
    (rebuild U lam).toM = U.toM * diagonal (fun i => ((lam.get i : ℝ) : ℂ)) * U.toMᴴ :=
  toM_conjDiag U _

theorem toM_matOfVec (B : Vector (Mat ℂ d d) n) (v : Vec ℝ n) :
    (matOfVec B v).toM = Psd.synth (basisM B) (fun a => v.get a) := by
  ext i j
  simp [matOfVec, Psd.synth, basisM, fsum_eq_sum, Matrix.sum_apply]

theorem coeffs_get (B : Vector (Mat ℂ d d) n) (M : Mat ℂ d d) (a : Fin n) :
    (coeffs B M).get a = ((basisM B a)ᴴ * M.toM).trace := by
  simp only [coeffs, Vec.get_ofFn, fsum_eq_sum, basisM, Matrix.trace, Matrix.diag,
    Matrix.mul_apply, Matrix.conjTranspose_apply, conj_def, Mat.toM_apply]
  rw [Finset.sum_comm]

theorem re_coeffs (B : Vector (Mat ℂ d d) n) (M : Mat ℂ d d) (a : Fin n) :
    ((coeffs B M).get a).re = Psd.coeff (basisM B) M.toM a := by
  rw [coeffs_get]; rfl

theorem rabs_eq_abs (x : ℝ) : rabs x = |x| := by
  unfold rabs; split
  · rename_i h; rw [abs_of_neg h]
  · rename_i h; rw [abs_of_nonneg (not_lt.1 h)]

/-! ### `truncate` (`truncate_hs`): it accepts exactly when every imaginary part is `< eps` in modulus or exactly 0, and then
keeps the real parts, zeroing those of modulus `< eps` -/

theorem truncate_eq (eps : ℝ) (v : Vec ℂ n) [Decidable (∃ a, ¬ |(v.get a).im| < eps ∧ (v.get a).im ≠ 0)] :
    truncate eps v = if ∃ a, ¬ |(v.get a).im| < eps ∧ (v.get a).im ≠ 0 then .error .imag
      else .ok (Vec.ofFn fun a => if |(v.get a).re| < eps then 0 else (v.get a).re) := by
  unfold truncate
  simp only [List.any_eq_true, List.mem_finRange, true_and, decide_eq_true_eq, im_def, re_def, rabs_eq_abs]

theorem truncate_ok_of (eps : ℝ) (v : Vec ℂ n) (h : ∀ a, |(v.get a).im| < eps ∨ (v.get a).im = 0) :
    truncate eps v = .ok (Vec.ofFn fun a => if |(v.get a).re| < eps then 0 else (v.get a).re) := by
  classical
  rw [truncate_eq, if_neg]
  exact fun ⟨a, h1, h2⟩ => (h a).elim h1 h2

theorem truncate_err_of (eps : ℝ) (v : Vec ℂ n) (a : Fin n) (h1 : ¬ |(v.get a).im| < eps) (h2 : (v.get a).im ≠ 0) :
    truncate eps v = .error .imag := by
  classical
  rw [truncate_eq, if_pos ⟨a, h1, h2⟩]

theorem truncate_ok_get (eps : ℝ) (v : Vec ℂ n) (p : Vec ℝ n) (h : truncate eps v = .ok p) (a : Fin n) :
    p.get a = if |(v.get a).re| < eps then 0 else (v.get a).re := by
  classical
  rw [truncate_eq] at h
  split at h
  · cases h
  · injection h with h
    rw [← h, Vec.get_ofFn]

/-- zeroing the real numbers of modulus `< eps` (`truncate_computational_fluctuation`) moves a number by less than `eps` -/
theorem abs_chop_sub_lt {eps : ℝ} (heps : 0 < eps) (r : ℝ) : |(if |r| < eps then 0 else r) - r| < eps := by
  split
  · rwa [zero_sub, abs_neg]
  · rwa [sub_self, abs_zero]

/-- with `eps = 0` (the exact idealisation) a successful truncation returns the real parts -/
theorem truncate_zero_get (v : Vec ℂ n) (p : Vec ℝ n) (h : truncate (0 : ℝ) v = .ok p) (a : Fin n) :
    p.get a = (v.get a).re := by
  rw [truncate_ok_get 0 v p h, if_neg (not_lt.2 (abs_nonneg _))]

/-- … and it succeeds when all imaginary parts vanish -/
theorem truncate_zero_ok (v : Vec ℂ n) (hv : ∀ a, (v.get a).im = 0) :
    truncate (0 : ℝ) v = .ok (Vec.ofFn fun a => (v.get a).re) := by
  rw [truncate_ok_of 0 v fun a => Or.inr (hv a)]
  simp only [fun x : ℝ => not_lt.2 (abs_nonneg x), if_false]

/-- Hilbert–Schmidt product of two matrices as a double sum -/
theorem trace_conj_mul (A B : Matrix (Fin d) (Fin d) ℂ) :
    (Aᴴ * B).trace = ∑ i, ∑ j, star (A i j) * B i j := by
  simp only [Matrix.trace, Matrix.diag, Matrix.mul_apply, Matrix.conjTranspose_apply]
  rw [Finset.sum_comm]

theorem trace_submatrix_equiv {ι κ : Type} [Fintype ι] [Fintype κ] (e : ι ≃ κ) (M : Matrix κ κ ℂ) :
    (M.submatrix e e).trace = M.trace :=
  e.sum_comp fun i => M i i

end QM.C04

/-! ### completeness of d² orthonormal Hermitian matrices -/
namespace QM.Psd
open scoped ComplexOrder
variable {d : Nat}

theorem trace_real_of_hermitian (A H : Matrix (Fin d) (Fin d) ℂ) (hA : A.IsHermitian) (hH : H.IsHermitian) :
    (starRingEnd ℂ) ((Aᴴ * H).trace) = (Aᴴ * H).trace := by
  rw [starRingEnd_apply, ← Matrix.trace_conjTranspose, Matrix.conjTranspose_mul, Matrix.conjTranspose_conjTranspose,
    hH.eq, hA.eq, Matrix.trace_mul_comm]

/-- completeness for the real coefficient maps: every Hermitian matrix is reproduced from its real coefficients in an
orthonormal Hermitian family of `d²` matrices -/
theorem synth_coeff_of_orthoN (B : Fin (d * d) → Matrix (Fin d) (Fin d) ℂ) (hB : OrthoN B)
    (hBh : ∀ a, (B a).IsHermitian) (H : Matrix (Fin d) (Fin d) ℂ) (hH : H.IsHermitian) :
    synth B (coeff B H) = H := by
  -- the family as the square matrix `G a (i,j) = B a i j`: orthonormality is `G Gᴴ = 1`, hence `Gᴴ G = 1` (dimension count:
  -- a right inverse of a square matrix is a left inverse)
  let G : Matrix (Fin (d * d)) (Fin d × Fin d) ℂ := Matrix.of fun a p => B a p.1 p.2
  have h1 : G * Gᴴ = 1 := by
    ext a b
    refine Eq.trans ?_ ((hB b a).trans (by simp only [Matrix.one_apply, eq_comm]))
    rw [C04.trace_conj_mul]
    simp only [G, Matrix.mul_apply, Matrix.conjTranspose_apply, Matrix.of_apply, Fintype.sum_prod_type, mul_comm]
  have h2 : Gᴴ * G = 1 := (mul_eq_one_comm_of_equiv finProdFinEquiv.symm).1 h1
  -- with `h` the entries of `H` as a vector, the coefficients (real, as `H` and the `B a` are Hermitian) are `conj G *ᵥ h` and
  -- the synthesis of `c` is `c ᵥ* G`
  have hc : ∀ a, (RCLike.ofReal (coeff B H a) : ℂ) = (Gᴴᵀ *ᵥ fun p => H p.1 p.2) a := by
    intro a
    rw [coeff, RCLike.conj_eq_iff_re.1 (trace_real_of_hermitian (B a) H (hBh a) hH), C04.trace_conj_mul]
    simp only [G, mulVec, dotProduct, Fintype.sum_prod_type, Matrix.transpose_apply, Matrix.conjTranspose_apply,
      Matrix.of_apply]
  ext i j
  calc synth B (coeff B H) i j = ((Gᴴᵀ *ᵥ fun p => H p.1 p.2) ᵥ* G) (i, j) := by
        simp only [synth, Matrix.sum_apply, Matrix.smul_apply, smul_eq_mul, hc]; rfl
    _ = H i j := by rw [vecMul_mulVec, transpose_transpose, h2, vecMul_one]
end QM.Psd

/-! ### Hermitian families; the Kronecker (Choi) family -/
namespace QM.C04
open QM.Psd
open scoped ComplexOrder
variable {n d : Nat}

/-- every basis element is Hermitian -/
def HermB (B : Vector (Mat ℂ d d) n) : Prop := ∀ a, (basisM B a).IsHermitian

open scoped Kronecker in
/-- element `c = a·n + b` of the Kronecker family is `B_a ⊗ conj B_b`, indexed by `Fin (d * d)` through `finProdFinEquiv` -/
theorem basisM_kron (B : Vector (Mat ℂ d d) n) (c : Fin (n * n)) :
    basisM (kronBasis B) c =
      (basisM B c.divNat ⊗ₖ (basisM B c.modNat).map star).submatrix finProdFinEquiv.symm finProdFinEquiv.symm := by
  ext i j
  simp [basisM, kronBasis, Fin.divNat, Fin.modNat]

/-- the Kronecker (Choi) family of a Hermitian family is Hermitian -/
theorem hermB_kron (B : Vector (Mat ℂ d d) n) (hH : HermB B) : HermB (kronBasis B) := by
  intro c
  rw [basisM_kron, IsHermitian, conjTranspose_submatrix, conjTranspose_kronecker, (hH _).eq,
    ((hH _).map star fun _ => rfl).eq]

/-- the coefficients of the (Hermitian) clipped matrix in a Hermitian family are real -/
theorem coeffs_clipMat_im (B : Vector (Mat ℂ d d) n) (hH : HermB B) (lam : Vec ℝ d) (U : Mat ℂ d d) (a : Fin n) :
    ((coeffs B (clipMat U lam)).get a).im = 0 := by
  rw [coeffs_get]
  exact Complex.conj_eq_iff_im.1
    (trace_real_of_hermitian _ _ (hH a) (by rw [toM_clipMat]; exact clip_isHermitian _ _))

/-! ### the normalised Pauli basis -/

/-- `1/√2` -/
noncomputable def rs2 : ℂ := ((Real.sqrt 2 : ℝ) : ℂ)⁻¹

theorem rs2_mul_self : rs2 * rs2 = 1 / 2 := by
  unfold rs2
  rw [← mul_inv, ← Complex.ofReal_mul, Real.mul_self_sqrt (by norm_num)]
  norm_num

theorem star_rs2 : star rs2 = rs2 := by
  unfold rs2
  rw [star_inv₀]
  congr 1
  exact Complex.conj_ofReal _

/-- Pauli matrices `I, X, Y, Z` (index 0..3) -/
def sigma (a : Fin 4) (i j : Fin 2) : ℂ :=
  match a.val, i.val, j.val with
  | 0, 0, 0 => 1 | 0, 1, 1 => 1
  | 1, 0, 1 => 1 | 1, 1, 0 => 1
  | 2, 0, 1 => -Complex.I | 2, 1, 0 => Complex.I
  | 3, 0, 0 => 1 | 3, 1, 1 => -1
  | _, _, _ => 0

/-- the entries of the four Pauli matrices, position by position -/
theorem sigma_tbl (a : Fin 4) (i j : Fin 2) : sigma a i j =
    ![![![1, 0, 0, 1], ![0, 1, -Complex.I, 0]], ![![0, 1, Complex.I, 0], ![1, 0, 0, -1]]] i j a := by
  fin_cases a <;> fin_cases i <;> fin_cases j <;> rfl

/-- the normalised Pauli basis of quara (`get_normalized_pauli_basis`): `σ_a / √2` -/
noncomputable def pauliB : Vector (Mat ℂ 2 2) 4 := Vector.ofFn fun a => Mat.ofFn fun i j => rs2 * sigma a i j

theorem pauliB_apply (a : Fin 4) (i j : Fin 2) : basisM pauliB a i j = rs2 * sigma a i j := by
  simp [basisM, pauliB]


/-! ### sequencing of per-block results (`seqV` = `Vector.mapM id` in `Except`) -/
theorem list_mapM_id_ok {α : Type} : ∀ (l : List (Except Err α)) (l' : List α), l.mapM id = .ok l' → l = l'.map .ok
  | [], l', h => by cases h; rfl
  | .error e :: l, l', h => by simp [List.mapM_cons, bind, Except.bind] at h
  | .ok x :: l, l', h => by
    rw [List.mapM_cons] at h
    cases hl : l.mapM id with
    | error e => simp [hl, bind, Except.bind] at h
    | ok r =>
      simp only [hl, id, bind, Except.bind, pure, Except.pure, Except.ok.injEq] at h
      subst h
      rw [list_mapM_id_ok l r hl]; rfl

theorem seqV_eq_ok {α : Type} {n : Nat} (v : Vector (Except Err α) n) (P : Vector α n) :
    seqV v = .ok P ↔ v = P.map .ok := by
  constructor
  · intro h
    have h1 : Vector.toArray <$> v.mapM id = v.toArray.mapM id := Vector.toArray_mapM
    rw [show v.mapM id = .ok P from h, Array.mapM_eq_mapM_toList] at h1
    cases hl : v.toArray.toList.mapM id with
    | error e => rw [hl] at h1; cases h1
    | ok r =>
      rw [hl] at h1
      injection h1 with h1
      apply Vector.toArray_inj.1
      apply Array.toList_inj.1
      have hr : r = P.toArray.toList := by simpa using (congrArg Array.toList h1).symm
      rw [list_mapM_id_ok _ _ hl, hr]
      simp
  · rintro rfl
    rw [seqV, Vector.mapM_map]
    simpa [pure, Except.pure] using Vector.mapM_pure (m := Except Err) (xs := P) id

theorem seqV_ofFn {α : Type} {n : Nat} (f : Fin n → Except Err α) (P : Vector α n) :
    seqV (Vector.ofFn f) = .ok P ↔ ∀ k : Fin n, f k = .ok P[k] := by
  rw [seqV_eq_ok]
  exact ⟨fun h k => by simpa using congrArg (·[k]) h, fun h => Vector.ext fun i hi => by simpa using h ⟨i, hi⟩⟩
/-- products of feasible sets: per-block results that are nearest feasible points of their blocks sequence to the nearest
feasible array (squared distances add up over the rows) -/
theorem seqV_blocks_nearest {m n : Nat} (core : Fin m → Except Err (Vec ℝ n)) (Feas : Vec ℝ n → Prop) (X : Mat ℝ m n)
    (h : ∀ k : Fin m, ∃ p, core k = .ok p ∧ Feas p ∧ ∀ y, Feas y → sqd1 (X.row k) p ≤ sqd1 (X.row k) y) :
    ∃ P : Mat ℝ m n, seqV (Vector.ofFn core) = .ok P ∧ (∀ k : Fin m, Feas (P.row k)) ∧
      ∀ Y : Mat ℝ m n, (∀ k : Fin m, Feas (Y.row k)) → sqd2 X P ≤ sqd2 X Y := by
  choose p hp using h
  have hget : ∀ k : Fin m, Mat.row (Vector.ofFn p) k = p k := fun k => Vector.getElem_ofFn _
  refine ⟨Vector.ofFn p, (seqV_ofFn _ _).2 fun k => ?_, fun k => ?_, fun Y hY => ?_⟩
  · exact (hp k).1.trans (congrArg _ (hget k).symm)
  · rw [hget]; exact (hp k).2.1
  · rw [sqd2_rows, sqd2_rows]
    exact Finset.sum_le_sum fun k _ => by rw [hget]; exact (hp k).2.2 _ (hY k)

/-! a concrete instance used for the non-vacuity examples of QProps.C04 -/

/-- diagonal matrix units E11, E22: an orthonormal Hermitian family (rational entries) -/
noncomputable def exB : Vector (Mat ℂ 2 2) 2 :=
  Vector.ofFn fun a => Mat.ofFn fun i j => if i = j ∧ i = a then 1 else 0
noncomputable def exU : Mat ℂ 2 2 := Mat.ofFn fun i j => if i = j then 1 else 0
noncomputable def exLam : Vec ℝ 2 := Vec.ofFn fun i => if i = 0 then 1 else -2
noncomputable def exP : Vec ℝ 2 := Vec.ofFn fun i => if i = 0 then 1 else 0

theorem exB_get (a : Nat) (ha : a < 2) (i j : Fin 2) : (exB[a]'ha).get i j = if i = j ∧ i.val = a then 1 else 0 := by
  simp [exB, Fin.ext_iff]

theorem exU_get (i j : Fin 2) : exU.get i j = if i = j then 1 else 0 := by simp [exU]

theorem exU_toM : exU.toM = 1 := by ext i j; simp [exU_get, Matrix.one_apply]

/-- with the identity as eigenvector matrix the reconstructions are diagonal -/
theorem rebuild_exU (lam : Vec ℝ 2) (i j : Fin 2) : (rebuild exU lam).get i j = if i = j then (lam.get j : ℂ) else 0 := by
  simp [rebuild, exU_get, fsum_eq_sum]
theorem clipMat_exU (lam : Vec ℝ 2) (i j : Fin 2) :
    (clipMat exU lam).get i j = if i = j then ((pos (lam.get j) : ℝ) : ℂ) else 0 := by
  simp [clipMat, exU_get, fsum_eq_sum]
/-- the operator of `v` in the family `exB` is `diag v` -/
theorem matOfVec_exB (v : Vec ℝ 2) (i j : Fin 2) : (matOfVec exB v).get i j = if i = j then (v.get j : ℂ) else 0 := by
  simp [matOfVec, exB_get, fsum_eq_sum, Fin.sum_univ_two]
  fin_cases i <;> fin_cases j <;> simp
theorem coeffs_exB (M : Mat ℂ 2 2) (a : Fin 2) : (coeffs exB M).get a = M.get a a := by
  simp [coeffs, exB_get, fsum_eq_sum, Fin.sum_univ_two]
  fin_cases a <;> simp
theorem exP_get (a : Fin 2) : exP.get a = pos (exLam.get a) := by
  fin_cases a <;> simp [exP, exLam, pos]


end QM.C04
