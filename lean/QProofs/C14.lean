import Mathlib.Tactic.Linarith
import Mathlib.Algebra.Order.Field.Rat
import Mathlib.Algebra.BigOperators.Group.List.Basic
import Mathlib.Algebra.Order.BigOperators.Group.List
import QModel.C14
/-!
# C14 — helper lemmas: each loop of the model gets its characterisation by functional induction on its definition
-/
namespace QM.C14

/-! ## the generated pieces (QGen.C14) mean what the theorems assume: a source edit breaks these (and the `empi*_iff` lemmas further down) -/

theorem hit_iff (u c : Rat) : QGen.C14.hit u c = true ↔ u < c := by simp [QGen.C14.hit]

theorem r2dLoop_nil (u cum : Rat) (idx : Nat) : r2dLoop [] u cum idx = none := rfl
theorem r2dLoop_cons (p : Rat) (ps : List Rat) (u cum : Rat) (idx : Nat) :
    r2dLoop (p :: ps) u cum idx = if u < cum + p then some idx else r2dLoop ps u (cum + p) (idx + 1) := by
  simp only [r2dLoop]
  by_cases h : u < cum + p
  · rw [if_pos h, if_pos ((hit_iff _ _).2 h)]
  · rw [if_neg h, if_neg (fun hh => h ((hit_iff _ _).1 hh))]

theorem fallKeep_iff (p : Rat) : QGen.C14.fallKeep p = true ↔ 0 < p := by simp [QGen.C14.fallKeep]

theorem randomNumberToDataW_def (add : Rat → Rat → Rat) (probs : List Rat) (u : Rat) :
    randomNumberToDataW add probs u = match r2dLoopW add probs u 0 0 with
      | some i => (i : Int)
      | none => fallResult probs := rfl

theorem randomNumberToData_def (probs : List Rat) (u : Rat) :
    randomNumberToData probs u = match r2dLoop probs u 0 0 with
      | some i => (i : Int)
      | none => fallResult probs := rfl

theorem toStream_none {G : Type} (P : PRNG G) : toStream P .none = .glob := rfl
theorem toStream_int {G : Type} (P : PRNG G) (s : Int) : toStream P (.int s) = .fresh (P.seed s) := rfl
theorem toStream_gen {G : Type} (P : PRNG G) (k : Nat) : toStream P (.gen k) = .held k := rfl

theorem empiLoop_nil (m len index : Nat) (freq : List Nat) (next : Int) (pos : Nat) (rest : List Int)
    (acc : List (Int × List Rat)) : empiLoop m len [] index freq next pos rest acc = .ok acc.reverse := rfl

/-- the loop body with the generated tests spelled out (this is where an edited comparison / offset shows) -/
theorem empiLoop_cons (m len : Nat) (d : Int) (ds : List Int) (index : Nat) (freq : List Nat) (next : Int) (pos : Nat)
    (rest : List Int) (acc : List (Int × List Rat)) :
    empiLoop m len (d :: ds) index freq next pos rest acc =
      if ¬ (0 ≤ d ∧ d < (m : Int)) then .error (.dataOutOfRange index)
      else
        let freq' := bump freq d.toNat
        if ((index : Int) + 1) = next then
          let acc' := (next, freq'.map fun (c : Nat) => ((c : Int) : Rat) / (((index + 1 : Nat) : Int) : Rat)) :: acc
          match rest with
          | [] => .ok acc'.reverse
          | n2 :: rest' =>
            if n2 > (len : Int) then .error (.numSumTooLarge (pos + 1))
            else if next ≥ n2 then .error (.notIncreasing (pos + 1))
            else empiLoop m len ds (index + 1) freq' n2 (pos + 1) rest' acc'
        else empiLoop m len ds (index + 1) freq' next pos rest acc := by
  simp only [empiLoop, QGen.C14.empiInRange, QGen.C14.empiHit, QGen.C14.empiDiv, QGen.C14.empiTooLarge,
    QGen.C14.empiNotIncreasing, Bool.not_eq_true', decide_eq_false_iff_not, decide_eq_true_eq]
  cases rest <;> rfl

theorem calcEmpiDistSequence_def (measurementNum : Int) (data : List Int) (numSums : List Int) :
    calcEmpiDistSequence measurementNum data numSums =
      if measurementNum < 0 then .error .negativeMeasurementNum
      else match numSums with
        | [] => .ok []
        | n0 :: rest =>
          if n0 > (data.length : Int) then .error (.numSumTooLarge 0)
          else empiLoop measurementNum.toNat data.length data 0 (List.replicate measurementNum.toNat 0) n0 0 rest [] := by
  simp only [calcEmpiDistSequence, QGen.C14.empiNegative, QGen.C14.empiTooLarge, decide_eq_true_eq]
  cases numSums <;> rfl

/-! ## the inversion loop -/

theorem r2dLoop_lt (ps : List Rat) (u cum : Rat) (idx i : Nat) (h : r2dLoop ps u cum idx = some i) :
    idx ≤ i ∧ i < idx + ps.length := by
  fun_induction r2dLoop ps u cum idx
  case case1 => cases h
  case case2 => cases h; exact ⟨Nat.le_refl _, Nat.lt_add_of_pos_right (Nat.succ_pos _)⟩
  case case3 ih => have := ih h; rw [List.length_cons]; omega

/-- this direction needs no sign assumption on the entries; that the interval determines the position does
(`sum_take_mono`) -/
theorem r2dLoop_spec (ps : List Rat) (u cum : Rat) (idx : Nat) (hcu : cum ≤ u) :
    (∀ i, r2dLoop ps u cum idx = some i →
      ∃ k, i = idx + k ∧ k < ps.length ∧ cum + (ps.take k).sum ≤ u ∧ u < cum + (ps.take (k + 1)).sum) ∧
    (r2dLoop ps u cum idx = none → cum + ps.sum ≤ u) := by
  fun_induction r2dLoop ps u cum idx
  case case1 => exact ⟨nofun, fun _ => by simpa using hcu⟩
  case case2 hhit =>
    refine ⟨?_, nofun⟩
    rintro _ ⟨⟩
    exact ⟨0, rfl, Nat.succ_pos _, by simpa using hcu, by simpa using (hit_iff _ _).1 hhit⟩
  case case3 p t u cum idx hno ih =>
    obtain ⟨ih1, ih2⟩ := ih (not_lt.1 fun hh => hno ((hit_iff _ _).2 hh))
    refine ⟨fun i h => ?_, fun h => by rw [List.sum_cons, ← add_assoc]; exact ih2 h⟩
    obtain ⟨k, rfl, hk, h1, h2⟩ := ih1 i h
    refine ⟨k + 1, by omega, Nat.succ_lt_succ hk, ?_, ?_⟩ <;> rwa [List.take_succ_cons, List.sum_cons, ← add_assoc]

theorem sum_take_le_sum (ps : List Rat) (hnn : ∀ p ∈ ps, 0 ≤ p) (a : Nat) : (ps.take a).sum ≤ ps.sum := by
  conv_rhs => rw [← List.take_append_drop a ps, List.sum_append]
  exact le_add_of_nonneg_right (List.sum_nonneg fun x hx => hnn x (List.mem_of_mem_drop hx))

theorem sum_take_mono (ps : List Rat) (hnn : ∀ p ∈ ps, 0 ≤ p) {a b : Nat} (h : a ≤ b) :
    (ps.take a).sum ≤ (ps.take b).sum := by
  rw [← Nat.min_eq_left h, ← List.take_take]
  exact sum_take_le_sum _ (fun p hp => hnn p (List.mem_of_mem_take hp)) a

/-! ### the same loop under an arbitrary addition (the float running sums of the code) -/

theorem r2dLoop_eq_W (ps : List Rat) (u cum : Rat) (idx : Nat) :
    r2dLoop ps u cum idx = r2dLoopW (· + ·) ps u cum idx := by
  induction ps generalizing cum idx with
  | nil => rfl
  | cons p t ih => simp only [r2dLoop, r2dLoopW, ih]

/-- running sums under an arbitrary addition -/
def scanAdd (add : Rat → Rat → Rat) : Rat → List Rat → List Rat
  | _, [] => []
  | c, p :: ps => add c p :: scanAdd add (add c p) ps

theorem r2dLoopW_eq_cums (add : Rat → Rat → Rat) (ps : List Rat) (u cum : Rat) (idx : Nat) :
    r2dLoopW add ps u cum idx = r2dCums (scanAdd add cum ps) u idx := by
  induction ps generalizing cum idx with
  | nil => rfl
  | cons p t ih => simp only [r2dLoopW, scanAdd, r2dCums, ih]

/-- a hit lands on an entry that moved the running sum upwards. With the exact `+` the positive entries are `Good` (no sign
assumption on the others); with any addition satisfying `add c 0 = c` (true of IEEE doubles) the non-zero entries are. -/
theorem r2dLoopW_hit (add : Rat → Rat → Rat) (Good : Rat → Prop) (hadd : ∀ c p, ¬ Good p → add c p ≤ c)
    (ps : List Rat) (u cum : Rat) (idx i : Nat) (hcu : cum ≤ u) (h : r2dLoopW add ps u cum idx = some i) :
    ∃ k, i = idx + k ∧ ∃ hk : k < ps.length, Good ps[k] := by
  fun_induction r2dLoopW add ps u cum idx
  case case1 => cases h
  case case2 p _ _ cum _ hhit =>
    cases h
    exact ⟨0, rfl, Nat.succ_pos _, by_contra fun hp => not_le.2 ((hit_iff _ _).1 hhit) ((hadd cum p hp).trans hcu)⟩
  case case3 hno ih =>
    obtain ⟨k, rfl, hk, hg⟩ := ih (not_lt.1 fun hh => hno ((hit_iff _ _).2 hh)) h
    exact ⟨k + 1, by omega, Nat.succ_lt_succ hk, hg⟩

/-! ## the backward loop after a fall-through -/

theorem lastKeep_none_iff (ps : List Rat) (idx : Nat) : lastKeep ps idx = none ↔ ∀ p ∈ ps, ¬ 0 < p := by
  fun_induction lastKeep ps idx
  case case1 => simp
  all_goals rw [List.forall_mem_cons]
  case case2 hrec ih => exact ⟨nofun, fun h => absurd (ih.2 h.2) (by rw [hrec]; nofun)⟩
  case case3 hkeep _ => exact ⟨nofun, fun h => absurd ((fallKeep_iff _).1 hkeep) h.1⟩
  case case4 hrec hkeep ih => exact ⟨fun _ => ⟨fun h => hkeep ((fallKeep_iff _).2 h), ih.1 hrec⟩, fun _ => rfl⟩

/-- the backward loop finds a position inside the list whose entry is positive, and nothing positive lies behind it -/
theorem lastKeep_some (ps : List Rat) (idx j : Nat) (h : lastKeep ps idx = some j) :
    ∃ k, j = idx + k ∧ ∃ hk : k < ps.length, 0 < ps[k] ∧ ∀ p ∈ ps.drop (k + 1), ¬ 0 < p := by
  fun_induction lastKeep ps idx
  case case1 => cases h
  case case2 hrec ih =>
    cases h
    obtain ⟨k, rfl, hk, hp, hall⟩ := ih hrec
    exact ⟨k + 1, by omega, Nat.succ_lt_succ hk, hp, hall⟩
  case case3 hrec hkeep _ =>
    cases h
    exact ⟨0, rfl, Nat.succ_pos _, (fallKeep_iff _).1 hkeep, (lastKeep_none_iff _ _).1 hrec⟩
  case case4 => cases h

/-- what a fall-through returns: the last positive outcome, or `len − 1` when no entry is positive -/
theorem fallResult_cases (probs : List Rat) :
    (∃ j : Nat, ∃ hj : j < probs.length, fallResult probs = j ∧ 0 < probs[j] ∧
        ∀ k (hk : k < probs.length), j < k → ¬ 0 < probs[k]) ∨
    ((∀ p ∈ probs, ¬ 0 < p) ∧ fallResult probs = (probs.length : Int) - 1) := by
  unfold fallResult
  cases hk : lastKeep probs 0 with
  | none => exact .inr ⟨(lastKeep_none_iff probs 0).1 hk, rfl⟩
  | some j =>
    obtain ⟨k, hjk, hlt, hpos, hall⟩ := lastKeep_some probs 0 j hk
    rw [Nat.zero_add] at hjk; subst hjk
    refine .inl ⟨j, hlt, rfl, hpos, fun k hk hjk => hall _ (List.mem_drop_iff_getElem.2 ⟨k - (j + 1), by omega, ?_⟩)⟩
    congr 1; omega

/-! ## empirical distributions -/

/-- numbers of occurrences of the outcomes `start, …, start+m-1` in `l` -/
def countsFrom (start m : Nat) (l : List Int) : List Nat :=
  (List.range' start m).map fun k => l.count ((k : Nat) : Int)

/-- the count vector `np.bincount(l, minlength=m)` -/
def countsOf (m : Nat) (l : List Int) : List Nat := countsFrom 0 m l

/-- the specified entry for sample size `n`: `(n, counts(data[:n]) / n)` -/
def empiEntry (m : Nat) (data : List Int) (n : Int) : Int × List Rat :=
  (n, (countsOf m (data.take n.toNat)).map fun (c : Nat) => ((c : Int) : Rat) / (n : Rat))

theorem countsFrom_nil (start m : Nat) : countsFrom start m [] = List.replicate m 0 := by
  simp [countsFrom]

theorem countsOf_nil (m : Nat) : countsOf m [] = List.replicate m 0 := countsFrom_nil 0 m

theorem getElem?_bump (l : List Nat) (j k : Nat) :
    (bump l j)[k]? = if k = j then l[k]?.map (· + 1) else l[k]? := by
  fun_induction bump l j generalizing k
  case case1 => simp only [List.getElem?_nil, Option.map_none, ite_self]
  case case2 => cases k <;> rfl
  case case3 ih =>
    cases k with
    | zero => rfl
    | succ k => simp only [List.getElem?_cons_succ, ih, Nat.succ_inj]

theorem bump_countsOf (m : Nat) (pre : List Int) (d : Int) (h0 : 0 ≤ d) :
    bump (countsOf m pre) d.toNat = countsOf m (pre ++ [d]) := by
  apply List.ext_getElem?
  intro k
  rw [getElem?_bump]
  simp only [countsOf, countsFrom, List.getElem?_map, List.count_append, List.count_singleton]
  by_cases hk : k < m
  · rw [List.getElem?_range' hk]
    split
    · subst k; simp [Int.toNat_of_nonneg h0]
    · have : d ≠ (k : Int) := by omega
      simp [this]
  · rw [List.getElem?_eq_none (by simpa using hk)]; simp

theorem countsFrom_append (start m : Nat) (l1 l2 : List Int) :
    countsFrom start m (l1 ++ l2) = List.zipWith (· + ·) (countsFrom start m l1) (countsFrom start m l2) := by
  simp [countsFrom, List.zipWith_map, List.zipWith_self]

theorem countsFrom_length (start m : Nat) (l : List Int) : (countsFrom start m l).length = m := by
  simp [countsFrom]

theorem sum_bump (l : List Nat) (j : Nat) (hj : j < l.length) : (bump l j).sum = l.sum + 1 := by
  fun_induction bump l j
  case case1 => cases hj
  case case2 => simp only [List.sum_cons]; omega
  case case3 ih => rw [List.sum_cons, ih (Nat.lt_of_succ_lt_succ hj), List.sum_cons, Nat.add_assoc]

theorem countsOf_sum (m : Nat) (l : List Int) (h : ∀ x ∈ l, 0 ≤ x ∧ x < (m : Int)) :
    (countsOf m l).sum = l.length := by
  suffices ∀ pre, (countsOf m (pre ++ l)).sum = (countsOf m pre).sum + l.length by simpa [countsOf_nil] using this []
  induction l with
  | nil => intro pre; rw [List.append_nil, List.length_nil, Nat.add_zero]
  | cons x t ih =>
    intro pre
    rw [List.forall_mem_cons] at h
    rw [List.append_cons, ih h.2, ← bump_countsOf m pre x h.1.1,
      sum_bump _ _ (by rw [countsOf, countsFrom_length]; omega), List.length_cons]
    omega

theorem entry_times_n (m : Nat) (data : List Int) (n : Int) (hn : 0 < n) :
    (empiEntry m data n).2.map (fun x => x * (n : Rat)) =
      (countsOf m (data.take n.toNat)).map fun (c : Nat) => ((c : Int) : Rat) := by
  rw [empiEntry, List.map_map]
  exact List.map_congr_left fun c _ => div_mul_cancel₀ _ (Int.cast_pos.2 hn).ne'

/-! ## streams -/

theorem drawN_add {G : Type} (P : PRNG G) (g : G) (n1 n2 : Nat) :
    drawN P g (n1 + n2) =
      ((drawN P g n1).1 ++ (drawN P (drawN P g n1).2 n2).1, (drawN P (drawN P g n1).2 n2).2) := by
  induction n1 generalizing g with
  | zero => simp [drawN]
  | succ n ih => rw [Nat.add_right_comm]; simp [drawN, ih]

theorem drawN_length {G : Type} (P : PRNG G) (g : G) (n : Nat) : (drawN P g n).1.length = n := by
  induction n generalizing g with
  | zero => rfl
  | succ n ih => simp [drawN, ih]

/-- on a fresh generator a data draw never touches the store and does not depend on it -/
theorem genDataOn_fresh {G : Type} (P : PRNG G) (st : Store G) (g : G) (probs : List Rat) (n : Nat) :
    genDataOn P st (.fresh g) probs n =
      some (dataOfUniforms probs (drawN P g n).1, st, .fresh (drawN P g n).2) := by
  simp [genDataOn, Stream.get, Stream.put]

/-- the dataset drawn from one generator state, as a pure function of that state -/
def datasetPure {G : Type} (P : PRNG G) : G → List (List Rat × Nat) → List (List Int) × G
  | g, [] => ([], g)
  | g, (probs, n) :: rest =>
    let r := datasetPure P (drawN P g n).2 rest
    (dataOfUniforms probs (drawN P g n).1 :: r.1, r.2)

theorem genDatasetOn_fresh {G : Type} (P : PRNG G) (st : Store G) (g : G) (jobs : List (List Rat × Nat)) :
    genDatasetOn P st (.fresh g) jobs =
      some ((datasetPure P g jobs).1, st, .fresh (datasetPure P g jobs).2) := by
  induction jobs generalizing g with
  | nil => rfl
  | cons j rest ih =>
    obtain ⟨probs, n⟩ := j
    simp only [genDatasetOn, genDataOn_fresh, ih, datasetPure]

/-- the empirical-distribution sequence drawn from one generator state, as a pure function of that state -/
def empiSeqPure {G : Type} (P : PRNG G) : G → List Rat → List Int → List (Int × List Rat) × G
  | g, _, [] => ([], g)
  | g, probs, n :: ns =>
    let r := empiSeqPure P (P.multi g n probs).2 probs ns
    ((n, (P.multi g n probs).1.map fun (c : Int) => (c : Rat) / (n : Rat)) :: r.1, r.2)

def empisSeqPure {G : Type} (P : PRNG G) : G → List (List Rat × List Int) → List (List (Int × List Rat)) × G
  | g, [] => ([], g)
  | g, (probs, ns) :: rest =>
    let r := empisSeqPure P (empiSeqPure P g probs ns).2 rest
    ((empiSeqPure P g probs ns).1 :: r.1, r.2)

theorem genEmpiSeqOn_fresh {G : Type} (P : PRNG G) (st : Store G) (g : G) (probs : List Rat) (ns : List Int) :
    genEmpiSeqOn P st (.fresh g) probs ns =
      some ((empiSeqPure P g probs ns).1, st, .fresh (empiSeqPure P g probs ns).2) := by
  induction ns generalizing g with
  | nil => rfl
  | cons n ns ih => simp only [genEmpiSeqOn, Stream.get, Stream.put, ih, empiSeqPure]

theorem genEmpisSeqOn_fresh {G : Type} (P : PRNG G) (st : Store G) (g : G) (jobs : List (List Rat × List Int)) :
    genEmpisSeqOn P st (.fresh g) jobs =
      some ((empisSeqPure P g jobs).1, st, .fresh (empisSeqPure P g jobs).2) := by
  induction jobs generalizing g with
  | nil => rfl
  | cons j rest ih =>
    obtain ⟨probs, ns⟩ := j
    simp only [genEmpisSeqOn, genEmpiSeqOn_fresh, ih, empisSeqPure]

/-! ## the loop of `calc_empi_dist_sequence`: success ⇔ valid input, output, error soundness -/

/-- strictly increasing -/
def Increasing : List Int → Prop
  | [] => True
  | [_] => True
  | a :: b :: t => a < b ∧ Increasing (b :: t)

/-- last element of `a :: l` -/
def lastD : Int → List Int → Int
  | a, [] => a
  | _, b :: t => lastD b t

/-- `0 <= d < measurement_num` -/
def InRangeD (m : Nat) (d : Int) : Prop := 0 ≤ d ∧ d < (m : Int)

theorem increasing_bounds (a : Int) (l : List Int) (h : Increasing (a :: l)) : ∀ n ∈ a :: l, a ≤ n ∧ n ≤ lastD a l := by
  induction l generalizing a with
  | nil => intro n hn; cases List.mem_singleton.1 hn; exact ⟨le_rfl, le_rfl⟩
  | cons b t ih =>
    rw [List.forall_mem_cons]
    have hb := ih b h.2
    exact ⟨⟨le_rfl, h.1.le.trans (hb b List.mem_cons_self).2⟩, fun n hn => ⟨h.1.le.trans (hb n hn).1, (hb n hn).2⟩⟩

/-! The proofs about the loop go by functional induction on `empiLoop`; its cases, in the order of the definition: no data
left (1), datum out of range (2), hit on the last requested size (3), next size too large (4), not increasing (5), hit and
continue with the next size (6), no hit (7). These lemmas put the generated tests of the cases into the vocabulary of the
statements. -/

theorem not_empiInRange_iff (d : Int) (m : Nat) : (!QGen.C14.empiInRange d m) = true ↔ ¬ InRangeD m d := by
  rw [Bool.not_eq_true', QGen.C14.empiInRange, decide_eq_false_iff_not]; rfl
theorem empiHit_iff (index : Nat) (next : Int) : QGen.C14.empiHit index next = true ↔ (index : Int) + 1 = next := by
  simp [QGen.C14.empiHit]
theorem empiTooLarge_iff (n len : Int) : QGen.C14.empiTooLarge n len = true ↔ len < n := by
  simp [QGen.C14.empiTooLarge]
theorem empiNotIncreasing_iff (a b : Int) : QGen.C14.empiNotIncreasing a b = true ↔ b ≤ a := by
  simp [QGen.C14.empiNotIncreasing]

/-- data of the positions the loop still visits (those before the last requested size) are within range -/
def RangeOK (m : Nat) (ds : List Int) (index : Nat) (last : Int) : Prop :=
  ∀ x ∈ ds.take (last - index).toNat, InRangeD m x

theorem rangeOK_of_le (m : Nat) (ds : List Int) (index : Nat) (last : Int) (h : last ≤ index) :
    RangeOK m ds index last := by
  rw [RangeOK, Int.toNat_eq_zero.2 (by omega)]; nofun

theorem rangeOK_cons (m : Nat) (d : Int) (ds : List Int) (index : Nat) (last : Int) :
    RangeOK m (d :: ds) index last ↔ ((index : Int) < last → InRangeD m d) ∧ RangeOK m ds (index + 1) last := by
  by_cases h : (index : Int) < last
  · rw [RangeOK, show (last - index).toNat = (last - (index + 1 : Nat)).toNat + 1 by omega, List.take_succ_cons,
      List.forall_mem_cons, imp_iff_right h]; rfl
  · exact iff_of_true (rangeOK_of_le _ _ _ _ (by omega)) ⟨fun h' => absurd h' h, rangeOK_of_le _ _ _ _ (by omega)⟩

theorem rangeOK_zero_iff (m : Nat) (data : List Int) (last : Int) :
    RangeOK m data 0 last ↔ ∀ x ∈ data.take last.toNat, InRangeD m x := by
  rw [RangeOK, Nat.cast_zero, sub_zero]

theorem inRangeD_toNat {mnum : Int} (hm : 0 ≤ mnum) (x : Int) : InRangeD mnum.toNat x ↔ 0 ≤ x ∧ x < mnum := by
  rw [InRangeD, Int.toNat_of_nonneg hm]

/-- the entry the loop emits after `pre ++ [d]`, from the frequency vector of `pre`, is the specified one -/
theorem reverse_entry_cons (m : Nat) {data pre : List Int} {d : Int} {ds : List Int} (hd : data = pre ++ d :: ds)
    (hin : InRangeD m d) {next : Int} (hn : (pre.length : Int) + 1 = next) (acc : List (Int × List Rat)) :
    ((next, (bump (countsOf m pre) d.toNat).map fun (c : Nat) =>
        ((c : Int) : Rat) / (((QGen.C14.empiDiv pre.length : Nat) : Int) : Rat)) :: acc).reverse
      = acc.reverse ++ [empiEntry m data next] := by
  subst hd hn
  have ht : (pre ++ d :: ds).take (pre.length + 1) = pre ++ [d] := by
    rw [List.append_cons]; exact List.take_left' (by simp)
  rw [List.reverse_cons, empiEntry, bump_countsOf m pre d hin.1]
  simp [ht, QGen.C14.empiDiv]

/-- the invariant: `pre` are the data already passed, `freq` their count vector -/
theorem empiLoop_ok_iff (m : Nat) (data ds : List Int) (index : Nat) (freq : List Nat) (next : Int) (pos : Nat)
    (rest : List Int) (acc out : List (Int × List Rat)) (pre : List Int) (hd : data = pre ++ ds)
    (hi : index = pre.length) (hf : freq = countsOf m pre) (h1 : (index : Int) < next)
    (h2 : next ≤ (data.length : Int)) :
    empiLoop m data.length ds index freq next pos rest acc = .ok out ↔
      (Increasing (next :: rest) ∧ (∀ n ∈ rest, n ≤ (data.length : Int)) ∧ RangeOK m ds index (lastD next rest)) ∧
        out = acc.reverse ++ (next :: rest).map (empiEntry m data) := by
  fun_induction empiLoop m data.length ds index freq next pos rest acc generalizing pre
  all_goals simp only [not_empiInRange_iff, empiHit_iff, empiTooLarge_iff, empiNotIncreasing_iff, not_not,
    rangeOK_cons, lastD, reduceCtorEq, false_iff, Except.ok.injEq, List.map_cons, List.map_nil] at *
  case case1 => subst hd hi; rw [List.append_nil] at h2; omega
  case case2 hbad =>
    exact fun ⟨⟨hinc, _, hr, _⟩, _⟩ => hbad (hr (lt_of_lt_of_le h1 (increasing_bounds _ _ hinc _ List.mem_cons_self).2))
  case case3 freq' acc' hin hn =>
    subst hi hf
    have hacc : acc'.reverse = _ := reverse_entry_cons m hd hin hn _
    rw [hacc, eq_comm, and_iff_right ⟨trivial, nofun, fun _ => hin, rangeOK_of_le _ _ _ _ (by omega)⟩]
  case case4 hgt => exact fun ⟨⟨_, hle, _⟩, _⟩ => absurd (hle _ List.mem_cons_self) (not_le.2 hgt)
  case case5 hge => exact fun ⟨⟨hinc, _⟩, _⟩ => absurd hinc.1 (not_lt.2 hge)
  case case6 freq' acc' n2 rest' hin hn hle hlt ih =>
    subst hi hf
    have hacc : acc'.reverse = _ := reverse_entry_cons m hd hin hn _
    rw [ih (pre ++ [_]) (hd.trans (List.append_cons ..)) (by simp) (bump_countsOf m pre _ hin.1) (by omega) (not_lt.1 hle),
      hacc, List.append_assoc]
    simp only [Increasing, List.forall_mem_cons, hin, implies_true, true_and, not_le.1 hlt, not_lt.1 hle,
      List.cons_append, List.nil_append]
  case case7 freq' hin hn ih =>
    subst hi hf
    rw [ih (pre ++ [_]) (hd.trans (List.append_cons ..)) (by simp) (bump_countsOf m pre _ hin.1) (by omega) h2]
    simp only [hin, implies_true, true_and]

theorem getElem?_append_length_add {α : Type} (l l' : List α) (k : Nat) : (l ++ l')[l.length + k]? = l'[k]? := by
  rw [List.getElem?_append_right (Nat.le_add_right _ k), Nat.add_sub_cancel_left]

/-- stated on the whole input (`pre` the data, `done` the sample sizes already passed), so that positions need no shifting -/
theorem empiLoop_error_sound (m : Nat) (data ns ds : List Int) (index : Nat) (freq : List Nat) (next : Int) (pos : Nat)
    (rest : List Int) (acc : List (Int × List Rat)) (e : EmpiErr) (pre done : List Int) (hd : data = pre ++ ds)
    (hi : index = pre.length) (hns : ns = done ++ next :: rest) (hpos : pos = done.length)
    (hpre : ∀ x ∈ pre, InRangeD m x) (h : empiLoop m data.length ds index freq next pos rest acc = .error e) :
    (∃ p n, e = .numSumTooLarge p ∧ ns[p]? = some n ∧ n > (data.length : Int)) ∨
    (∃ i d, e = .dataOutOfRange i ∧ data[i]? = some d ∧ ¬ InRangeD m d ∧
        ∀ j x, j < i → data[j]? = some x → InRangeD m x) ∨
    (∃ p a b, e = .notIncreasing (p + 1) ∧ ns[p]? = some a ∧ ns[p + 1]? = some b ∧ a ≥ b) := by
  fun_induction empiLoop m data.length ds index freq next pos rest acc generalizing pre done
  all_goals simp only [not_empiInRange_iff, empiHit_iff, empiTooLarge_iff, empiNotIncreasing_iff, not_not,
    reduceCtorEq, Except.error.injEq] at *
  case case2 d _ _ _ _ _ _ _ hbad =>
    subst hd hi h
    refine .inr (.inl ⟨_, d, rfl, getElem?_append_length_add pre _ 0, hbad, fun j x hj hx => hpre x ?_⟩)
    rw [List.getElem?_append_left hj] at hx
    exact List.mem_of_getElem? hx
  case case4 n2 _ _ _ hgt => subst hns hpos h; exact .inl ⟨_, n2, rfl, getElem?_append_length_add done _ 1, hgt⟩
  case case5 n2 _ _ _ _ hge => subst hns hpos h; exact .inr (.inr ⟨_, _, n2, rfl, getElem?_append_length_add done _ 0,
      getElem?_append_length_add done _ 1, hge⟩)
  case case6 ih hin _ _ _ =>
    exact ih (pre ++ [_]) (done ++ [_]) (hd.trans (List.append_cons ..)) (by rw [hi, List.length_append]; rfl) (hns.trans (List.append_cons ..))
      (by rw [hpos, List.length_append]; rfl) (List.forall_mem_append.2 ⟨hpre, List.forall_mem_singleton.2 hin⟩) h
  case case7 ih hin _ =>
    exact ih (pre ++ [_]) done (hd.trans (List.append_cons ..)) (by rw [hi, List.length_append]; rfl) hns hpos (List.forall_mem_append.2 ⟨hpre, List.forall_mem_singleton.2 hin⟩) h

/-- a requested size that the position has already passed is never hit: in-range data are consumed and nothing is emitted
(the case of a first sample size `≤ 0`) -/
theorem empiLoop_never (m len : Nat) (ds : List Int) (index : Nat) (freq : List Nat) (next : Int) (pos : Nat)
    (rest : List Int) (acc : List (Int × List Rat)) (h : next ≤ (index : Int)) (hr : ∀ x ∈ ds, InRangeD m x) :
    empiLoop m len ds index freq next pos rest acc = .ok acc.reverse := by
  fun_induction empiLoop m len ds index freq next pos rest acc
  all_goals simp only [not_empiInRange_iff, empiHit_iff, empiTooLarge_iff, empiNotIncreasing_iff, not_not,
    List.forall_mem_cons, Nat.cast_add, Nat.cast_one] at *
  case case2 hbad => exact absurd hr.1 hbad
  case case7 ih => exact ih (by omega) hr.2
  all_goals omega

/-! ## the multinomial path -/

/-- contract of `scipy.stats.multinomial.rvs(n, p, random_state=g)` for `n > 0`: one count per outcome, non-negative,
summing to `n`, zero on outcomes of probability 0 -/
structure MultiOK {G : Type} (P : PRNG G) : Prop where
  len : ∀ g n p, 0 < n → (P.multi g n p).1.length = p.length
  nonneg : ∀ g n p, 0 < n → ∀ c ∈ (P.multi g n p).1, 0 ≤ c
  total : ∀ g n p, 0 < n → (P.multi g n p).1.sum = n
  support : ∀ g n (p : List Rat) (i : Nat), 0 < n → p[i]? = some 0 → (P.multi g n p).1[i]? = some 0

/-- a valid empirical distribution for `probs`: one entry per outcome, non-negative, summing to one, zero where the
probability is zero -/
def ValidEmpi (probs : List Rat) (e : List Rat) : Prop :=
  e.length = probs.length ∧ (∀ x ∈ e, 0 ≤ x) ∧ e.sum = 1 ∧ ∀ i : Nat, probs[i]? = some 0 → e[i]? = some 0

theorem sum_map_div {α : Type} [AddMonoid α] (f : α →+ Rat) (l : List α) (n : Rat) :
    (l.map fun c => f c / n).sum = f l.sum / n := by
  induction l with
  | nil => simp
  | cons c t ih => rw [List.map_cons, List.sum_cons, ih, List.sum_cons, map_add, add_div]

theorem validEmpi_of_counts {G : Type} (P : PRNG G) (hP : MultiOK P) (g : G) (n : Int) (hn : 0 < n) (probs : List Rat) :
    ValidEmpi probs ((P.multi g n probs).1.map fun (c : Int) => (c : Rat) / (n : Rat)) := by
  have hnq : (0 : Rat) < (n : Rat) := Int.cast_pos.2 hn
  refine ⟨by simp [hP.len g n probs hn], ?_, (sum_map_div (Int.castAddHom Rat) _ _).trans ?_, ?_⟩
  · intro x hx
    obtain ⟨c, hc, rfl⟩ := List.mem_map.1 hx
    exact div_nonneg (Int.cast_nonneg (hP.nonneg g n probs hn c hc)) hnq.le
  · rw [hP.total g n probs hn]; exact div_self hnq.ne'
  · intro i hi
    simp [List.getElem?_map, hP.support g n probs i hn hi]

/-! ## validate_prob_dist -/

theorem firstNegative_none_iff (eps : Rat) (ps : List Rat) (idx : Nat) :
    firstNegative eps ps idx = none ↔ ∀ p ∈ ps, 0 ≤ p ∨ rabs p ≤ eps := by
  fun_induction firstNegative eps ps idx
  case case1 => simp
  case case2 hp =>
    simp only [reduceCtorEq, List.forall_mem_cons, false_iff, not_and]
    exact fun h => absurd h (by rw [not_or, not_le]; exact hp)
  case case3 hp ih =>
    rw [ih, List.forall_mem_cons]
    exact (and_iff_right ((lt_or_ge _ 0).elim (fun h => .inr (not_not.1 (not_and.1 hp h))) .inl)).symm

theorem firstNegative_some (eps : Rat) (ps : List Rat) (idx i : Nat) (h : firstNegative eps ps idx = some i) :
    ∃ k, i = idx + k ∧ ∃ hk : k < ps.length, ps[k] < 0 ∧ ¬ rabs ps[k] ≤ eps := by
  fun_induction firstNegative eps ps idx
  case case1 => cases h
  case case2 hp => cases h; exact ⟨0, rfl, Nat.succ_pos _, hp⟩
  case case3 _ ih => obtain ⟨k, rfl, hk, hp⟩ := ih h; exact ⟨k + 1, by omega, Nat.succ_lt_succ hk, hp⟩

/-! ## error branches of `generate_data_from_prob_dist` -/

/-- the seed arguments on which `to_stream` or `stream.random` raises, with the error -/
def seedErr : SeedArg → Option GenErr
  | .int s => if s < 0 then some .negativeSeed else none
  | .other => some .notAStream
  | _ => none

theorem seedErr_eq_none_iff (a : SeedArg) : seedErr a = none ↔ a ≠ .other ∧ ∀ s, a = .int s → 0 ≤ s := by
  cases a <;> simp [seedErr]

/-- `generate_data_from_prob_dist` raises in the order validation, seed, generator lookup, and returns the store it was
given unless data were drawn -/
theorem genDataE_eq {G : Type} (P : PRNG G) (st : Store G) (a : SeedArg) (probs : List Rat) (n : Nat) (eps : Rat) :
    genDataE P st a probs n eps =
      match validateProb probs eps, seedErr a, genData P st a probs n with
      | .error e, _, _ => (.error e, st)
      | .ok _, some e, _ => (.error e, st)
      | .ok _, none, none => (.error .noGenerator, st)
      | .ok _, none, some (d, st') => (.ok d, st') := by
  unfold genDataE seedErr
  cases validateProb probs eps with
  | error e => rfl
  | ok u =>
    cases a with
    | int s => simp only []; split <;> cases genData P st (.int s) probs n <;> rfl
    | _ => cases genData P st _ probs n <;> rfl

end QM.C14
