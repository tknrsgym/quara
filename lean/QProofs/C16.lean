import QModel.C16
/-!
helper lemmas for C16 (core Lean only): the index maps as mixed-radix digits, block access into concatenations
(the list bookkeeping of `_compose_qoperations_MProcess_StateEnsemble` / `_tensor_product_StateEnsemble_StateEnsemble`),
and `allMulti` / iterated slicing as the serial (row-major) layout
-/
namespace QM.C16

/-- positional value of a reversed (length, digit) list -/
def val : List (Nat × Nat) → Nat
  | [] => 0
  | (len, i) :: r => i + len * val r

theorem serialRevLoop_eq (r : List (Nat × Nat)) (serial temp : Nat) :
    serialRevLoop r serial temp = serial + temp * val r := by
  induction r generalizing serial temp with
  | nil => simp [serialRevLoop, val]
  | cons x r ih =>
    obtain ⟨len, i⟩ := x
    simp only [serialRevLoop, val, ih]
    rw [Nat.mul_add, Nat.mul_assoc, Nat.mul_comm i temp, Nat.add_assoc]

theorem multiRevLoop_length (L : List Nat) (s : Nat) : (multiRevLoop L s).length = L.length := by
  induction L generalizing s with
  | nil => rfl
  | cons l ls ih => simp [multiRevLoop, ih]

/-! `prod` is the library's `List.prod` (by `rfl`), so its rules are the library's -/

theorem prod_cons (l : Nat) (ls : List Nat) : prod (l :: ls) = l * prod ls := rfl

theorem prod_append (a b : List Nat) : prod (a ++ b) = prod a * prod b := List.prod_append_nat

theorem prod_reverse (a : List Nat) : prod a.reverse = prod a := List.prod_reverse_nat a

theorem prod_pos {L : List Nat} (h : ∀ l ∈ L, 0 < l) : 0 < prod L := List.prod_pos_iff_forall_pos_nat.2 h

/-- digits of `s` in the mixed radix `L` have value `s % prod L` … -/
theorem val_digits (L : List Nat) (s : Nat) :
    val (L.zip (multiRevLoop L s)) = s % prod L := by
  induction L generalizing s with
  | nil => simp [multiRevLoop, val, prod, Nat.mod_one]
  | cons l ls ih =>
    simp only [multiRevLoop, List.zip_cons_cons, val, ih, prod_cons]
    rw [Nat.mod_mul]

/-- … and in-range digits are recovered from their value -/
theorem digits_val (r : List (Nat × Nat)) (h : ∀ p ∈ r, p.2 < p.1) :
    multiRevLoop (r.map Prod.fst) (val r) = r.map Prod.snd := by
  induction r with
  | nil => rfl
  | cons p r ih =>
    obtain ⟨l, d⟩ := p
    have hd : d < l := h (l, d) List.mem_cons_self
    rw [List.map_cons, List.map_cons, val, multiRevLoop, Nat.add_mul_mod_self_left, Nat.mod_eq_of_lt hd,
      Nat.add_mul_div_left _ _ (Nat.zero_lt_of_lt hd), Nat.div_eq_of_lt hd, Nat.zero_add,
      ih fun q hq => h q (List.mem_cons_of_mem _ hq)]

theorem multiRevLoop_lt (L : List Nat) (s : Nat) (hL : ∀ l ∈ L, 0 < l) :
    ∀ p ∈ L.zip (multiRevLoop L s), p.2 < p.1 := by
  induction L generalizing s with
  | nil => simp [multiRevLoop]
  | cons l ls ih =>
    intro p hp
    simp only [multiRevLoop, List.zip_cons_cons, List.mem_cons] at hp
    rcases hp with rfl | hp
    · exact Nat.mod_lt _ (hL l (by simp))
    · exact ih (s / l) (fun x hx => hL x (by simp [hx])) p hp

theorem val_lt (r : List (Nat × Nat)) (h : ∀ p ∈ r, p.2 < p.1) : val r < prod (r.map Prod.fst) := by
  induction r with
  | nil => exact Nat.one_pos
  | cons p r ih =>
    obtain ⟨l, d⟩ := p
    have hd : d < l := h (l, d) List.mem_cons_self
    have := ih fun q hq => h q (List.mem_cons_of_mem _ hq)
    rw [val, List.map_cons, prod_cons]
    calc d + l * val r < l + l * val r := Nat.add_lt_add_right hd _
      _ = l * (val r + 1) := by rw [Nat.mul_add, Nat.mul_one, Nat.add_comm]
      _ ≤ l * prod (r.map Prod.fst) := Nat.mul_le_mul_left l this

theorem val_append (A B : List (Nat × Nat)) : val (A ++ B) = val A + prod (A.map Prod.fst) * val B := by
  induction A with
  | nil => simp [val, prod]
  | cons x A ih =>
    obtain ⟨len, i⟩ := x
    simp only [List.cons_append, List.map_cons, val, prod_cons, ih, Nat.mul_add, Nat.mul_assoc, Nat.add_assoc]

theorem reverse_zip {α β : Type} {l : List α} {l' : List β} (h : l.length = l'.length) :
    (l.zip l').reverse = l.reverse.zip l'.reverse := by
  simpa [List.zip] using List.reverse_zipWith (f := Prod.mk) h

theorem serial_some (lens idx : List Nat) (h : lens.length = idx.length) :
    serialFromMulti lens idx = some (val (lens.reverse.zip idx.reverse)) := by
  unfold serialFromMulti
  rw [if_neg (by simpa using h), reverse_zip h]
  simp [serialRevLoop_eq]

/-- serial index of a concatenated multi-index: the earlier variables are the slow ones -/
theorem serial_append (s2 s1 m2 m1 : List Nat) (h2 : s2.length = m2.length) (h1 : s1.length = m1.length) :
    val ((s2 ++ s1).reverse.zip (m2 ++ m1).reverse)
      = val (s2.reverse.zip m2.reverse) * prod s1 + val (s1.reverse.zip m1.reverse) := by
  have hl : s1.reverse.length = m1.reverse.length := by simpa using h1
  rw [List.reverse_append, List.reverse_append, List.zip_append hl, val_append,
    List.map_fst_zip (Nat.le_of_eq hl), prod_reverse]
  rw [Nat.add_comm, Nat.mul_comm]

/-- the first variable is the slowest one -/
theorem serial_cons (l i : Nat) (ls is : List Nat) (h : ls.length = is.length) :
    val ((l :: ls).reverse.zip (i :: is).reverse) = i * prod ls + val (ls.reverse.zip is.reverse) :=
  serial_append [l] ls [i] is rfl h

theorem zip_reverse_lt {lens idx : List Nat} (hlen : lens.length = idx.length)
    (hr : ∀ p ∈ lens.zip idx, p.2 < p.1) : ∀ p ∈ lens.reverse.zip idx.reverse, p.2 < p.1 := fun p hp => by
  rw [← reverse_zip hlen] at hp
  exact hr p (List.mem_reverse.1 hp)

theorem val_lt' (lens idx : List Nat) (hlen : lens.length = idx.length)
    (hr : ∀ p ∈ lens.zip idx, p.2 < p.1) : val (lens.reverse.zip idx.reverse) < prod lens := by
  have := val_lt _ (zip_reverse_lt hlen hr)
  rwa [List.map_fst_zip (by simp [hlen]), prod_reverse] at this

/-- a concatenation of `old.length` blocks of uniform length `m` has `old.length * m` entries … -/
theorem length_flatMap_block {α β : Type} (old : List α) (f : α → List β) (m : Nat)
    (hm : ∀ x ∈ old, (f x).length = m) : (old.flatMap f).length = old.length * m := by
  rw [List.length_flatMap, List.map_congr_left (g := fun _ => m) hm, List.map_const', List.sum_replicate_nat]

/-- … and its entry `i * m + j` is entry `j` of block `i` -/
theorem flatMap_block {α β : Type} (old : List α) (f : α → List β) (m : Nat)
    (hm : ∀ x ∈ old, (f x).length = m) (i j : Nat) (hi : i < old.length) (hj : j < m) :
    (old.flatMap f)[i * m + j]? = (f old[i])[j]? := by
  induction old generalizing i with
  | nil => simp at hi
  | cons x xs ih =>
    have hx : (f x).length = m := hm x (by simp)
    cases i with
    | zero =>
      simp only [List.flatMap_cons, Nat.zero_mul, Nat.zero_add, List.getElem_cons_zero]
      rw [List.getElem?_append_left (by omega)]
    | succ i =>
      simp only [List.flatMap_cons, List.getElem_cons_succ]
      rw [List.getElem?_append_right (by rw [hx, Nat.succ_mul]; omega)]
      have : (i + 1) * m + j - (f x).length = i * m + j := by rw [hx, Nat.succ_mul]; omega
      rw [this]
      exact ih (fun y hy => hm y (by simp [hy])) i (by simpa using hi)

/-- the entries after thresholding -/
def zeroedOf (ps : List Rat) (eps : Rat) : List Rat := ps.map fun p => if p < eps then 0 else p

theorem allMulti_length (shape : List Nat) : (allMulti shape).length = prod shape := by
  induction shape with
  | nil => rfl
  | cons l ls ih =>
    rw [allMulti, length_flatMap_block _ _ (prod ls) fun i _ => by rw [List.length_map, ih], List.length_range, prod_cons]

/-- position `k` of `allMulti shape` holds an in-range multi-index whose serial index is `k` -/
theorem allMulti_serial (shape : List Nat) (k : Nat) (hk : k < prod shape) :
    ∃ mi, (allMulti shape)[k]? = some mi ∧ shape.length = mi.length ∧
      (∀ p ∈ shape.zip mi, p.2 < p.1) ∧ serialFromMulti shape mi = some k := by
  induction shape generalizing k with
  | nil =>
    cases Nat.lt_one_iff.1 hk
    exact ⟨[], rfl, rfl, by simp, by decide⟩
  | cons l ls ih =>
    rw [prod_cons] at hk
    have hP : 0 < prod ls := Nat.pos_of_mul_pos_left (Nat.zero_lt_of_lt hk)
    have hi : k / prod ls < l := Nat.div_lt_of_lt_mul (by rwa [Nat.mul_comm])
    obtain ⟨mj, h1, h2, h3, h4⟩ := ih (k % prod ls) (Nat.mod_lt _ hP)
    refine ⟨(k / prod ls) :: mj, ?_, congrArg Nat.succ h2, ?_, ?_⟩
    · have hb := flatMap_block (List.range l) (fun i => (allMulti ls).map (i :: ·)) (prod ls)
        (fun x _ => by rw [List.length_map, allMulti_length]) (k / prod ls) (k % prod ls)
        (by rwa [List.length_range]) (Nat.mod_lt _ hP)
      rw [Nat.mul_comm, Nat.div_add_mod] at hb
      rw [allMulti, hb, List.getElem_range, List.getElem?_map, h1]
      rfl
    · intro p hp
      rcases List.mem_cons.1 hp with rfl | hp
      · exact hi
      · exact h3 p hp
    · rw [serial_some ls mj h2] at h4
      rw [serial_some (l :: ls) (_ :: mj) (congrArg Nat.succ h2), serial_cons _ _ _ _ h2, Option.some.inj h4, Nat.mul_comm,
        Nat.div_add_mod]

/-- iterated slicing `ps.reshape(shape)[i0][i1]…` of a flat row-major buffer reads the entry at the serial index -/
theorem sliceGet_eq_serial (ps : List Rat) (shape idx : List Nat) (hlen : shape.length = idx.length)
    (hr : ∀ p ∈ shape.zip idx, p.2 < p.1) :
    sliceGet ps shape idx = ps[val (shape.reverse.zip idx.reverse)]? := by
  induction shape generalizing ps idx with
  | nil =>
    cases idx with
    | nil => simp [sliceGet, val]
    | cons _ _ => simp at hlen
  | cons l ls ih =>
    cases idx with
    | nil => simp at hlen
    | cons i is =>
      have hlen' : ls.length = is.length := by simpa using hlen
      have hi : i < l := hr (l, i) (by simp)
      have hr' : ∀ p ∈ ls.zip is, p.2 < p.1 := fun p hp => hr p (by simp [hp])
      have hv := val_lt' ls is hlen' hr'
      rw [serial_cons _ _ _ _ hlen', sliceGet, if_pos hi, ih _ is hlen' hr', List.getElem?_take_of_lt hv, List.getElem?_drop]

theorem zip_eq_range_map {α β : Type} (l : List α) (ps : List β) (h : l.length = ps.length) :
    l.zip ps = (List.range l.length).filterMap fun s =>
      match l[s]?, ps[s]? with
      | some a, some b => some (a, b)
      | _, _ => none := by
  induction l generalizing ps with
  | nil => simp
  | cons a l ih =>
    cases ps with
    | nil => simp at h
    | cons b ps =>
      have h' : l.length = ps.length := by simpa using h
      rw [List.zip_cons_cons, List.length_cons, List.range_succ_eq_map, List.filterMap_cons]
      simp only [List.getElem?_cons_zero, List.filterMap_map]
      congr 1
      rw [ih ps h']
      rfl

end QM.C16
