import QModel.C20
/-!
# C20 — helper lemmas (no Mathlib needed: list / decision-logic reasoning only)

The validators are chains of guards inside first-failure loops. For each loop an acceptance criterion and a description
of the first failure are proved for arbitrary tables (`PairOk`, `OrderOk`, `SchedOk`); the generated `tables` are put in
last, where these become `InRange`, `OrderRule`, `WellFormed`.
-/
namespace QM.C20

instance instDecEqExcept {ε α : Type} [DecidableEq ε] [DecidableEq α] : DecidableEq (Except ε α) := fun a b =>
  match a, b with
  | .ok x, .ok y => if h : x = y then isTrue (by rw [h]) else isFalse (fun h' => by cases h'; exact h rfl)
  | .error x, .error y => if h : x = y then isTrue (by rw [h]) else isFalse (fun h' => by cases h'; exact h rfl)
  | .ok _, .error _ => isFalse (fun h => by cases h)
  | .error _, .ok _ => isFalse (fun h => by cases h)

theorem ite_error_eq_ok {ε α : Type} {c : Prop} [Decidable c] {e : ε} {r : Except ε α} {a : α} :
    (if c then Except.error e else r) = .ok a ↔ ¬ c ∧ r = .ok a := by
  split <;> simp [*]

/-- known kind and in-range integer index -/
def InRange (L : Lists) (p : String × Int) : Prop :=
  (p.1 = "state" ∧ 0 ≤ p.2 ∧ p.2 < (L.state.length : Int)) ∨
  (p.1 = "povm" ∧ 0 ≤ p.2 ∧ p.2 < (L.povm.length : Int)) ∨
  (p.1 = "gate" ∧ 0 ≤ p.2 ∧ p.2 < (L.gate.length : Int)) ∨
  (p.1 = "mprocess" ∧ 0 ≤ p.2 ∧ p.2 < (L.mprocess.length : Int))

theorem get?_state (L : Lists) : L.get? "state" = some L.state := by simp [Lists.get?]
theorem get?_povm (L : Lists) : L.get? "povm" = some L.povm := by simp [Lists.get?]
theorem get?_gate (L : Lists) : L.get? "gate" = some L.gate := by simp [Lists.get?]
theorem get?_mprocess (L : Lists) : L.get? "mprocess" = some L.mprocess := by simp [Lists.get?]

/-- `InRange` in the terms of the code: the kind is a key of the object dictionary and the index addresses an entry -/
theorem inRange_iff_get (L : Lists) (p : String × Int) :
    InRange L p ↔ ∃ l, L.get? p.1 = some l ∧ 0 ≤ p.2 ∧ p.2 < (l.length : Int) := by
  unfold InRange Lists.get?
  by_cases h1 : p.1 = "state"
  · simp [h1]
  by_cases h2 : p.1 = "povm"
  · simp [h2]
  by_cases h3 : p.1 = "gate"
  · simp [h3]
  by_cases h4 : p.1 = "mprocess"
  · simp [h4]
  · simp [h1, h2, h3, h4]

theorem inRange_kind {L : Lists} {p : String × Int} (h : InRange L p) :
    p.1 = "state" ∨ p.1 = "povm" ∨ p.1 = "gate" ∨ p.1 = "mprocess" :=
  h.imp (·.1) (.imp (·.1) (.imp (·.1) (·.1)))

def PairOk (T : Tables) (L : Lists) (p : String × Int) : Prop := T.kinds.contains p.1 = true ∧ InRange L p

def mkPair (p : String × Int) : Item := Item.mk p.1 p.2

theorem validateItem_shape (T : Tables) (L : Lists) (it : Item) :
    (∃ s i, it = Item.mk s i) ∨ validateItem T L it = .error .typeError ∨
      validateItem T L it = .error .valueError := by
  rcases it with _ | (_ | ⟨a, _ | ⟨b, _ | _⟩⟩)
  · exact .inr (.inl rfl)
  · exact .inr (.inr rfl)
  · exact .inr (.inr rfl)
  · cases a with
    | str s =>
      cases b with
      | int i => exact .inl ⟨s, i, rfl⟩
      | _ => exact .inr (.inl rfl)
    | _ => exact .inr (.inl rfl)
  · exact .inr (.inr rfl)

/-- the emptiness test for the `needNonEmpty` kinds is subsumed by the range test -/
theorem validateItem_mk (T : Tables) (L : Lists) (s : String) (i : Int) :
    validateItem T L (Item.mk s i) =
      if T.kinds.contains s then
        match L.get? s with
        | none => .error .keyError
        | some l => if 0 ≤ i ∧ i < (l.length : Int) then .ok s else .error .indexError
      else .error .valueError := by
  simp only [validateItem, Item.mk]
  cases T.kinds.contains s with
  | false => rfl
  | true =>
    rw [if_neg (by decide : ¬ (!true) = true), if_pos rfl]
    cases L.get? s with
    | none => rfl
    | some l =>
      dsimp only
      split
      · rename_i h
        obtain rfl : l = [] := List.isEmpty_iff.1 (Bool.and_eq_true_iff.1 h).2
        exact (if_neg fun h => absurd h.2 (Int.not_lt.2 h.1)).symm
      · rfl

theorem validateItem_ok_iff (T : Tables) (L : Lists) (it : Item) (n : String) :
    validateItem T L it = .ok n ↔ ∃ i, it = Item.mk n i ∧ PairOk T L (n, i) := by
  constructor
  · intro h
    rcases validateItem_shape T L it with ⟨s, i, rfl⟩ | h' | h'
    · rw [validateItem_mk] at h
      split at h
      · rename_i hk
        split at h
        · cases h
        · rename_i l hl
          split at h
          · cases h; exact ⟨i, rfl, hk, (inRange_iff_get L _).2 ⟨l, hl, ‹_›⟩⟩
          · cases h
      · cases h
    · rw [h'] at h; cases h
    · rw [h'] at h; cases h
  · rintro ⟨i, rfl, hk, hr⟩
    obtain ⟨l, hl, hb⟩ := (inRange_iff_get L _).1 hr
    rw [validateItem_mk, if_pos hk, hl]
    exact if_pos hb

/-- no `KeyError`: every accepted kind is a key of the object dictionary -/
def KindsAreKeys (T : Tables) : Prop :=
  ∀ k, T.kinds.contains k = true → k = "state" ∨ k = "povm" ∨ k = "gate" ∨ k = "mprocess"

theorem get?_isSome_of_key (L : Lists) (k : String)
    (h : k = "state" ∨ k = "povm" ∨ k = "gate" ∨ k = "mprocess") : ∃ l, L.get? k = some l := by
  rcases h with rfl | rfl | rfl | rfl
  · exact ⟨_, get?_state L⟩
  · exact ⟨_, get?_povm L⟩
  · exact ⟨_, get?_gate L⟩
  · exact ⟨_, get?_mprocess L⟩

theorem validateItem_ne_keyError (T : Tables) (hK : KindsAreKeys T) (L : Lists) (it : Item) :
    validateItem T L it ≠ .error .keyError := by
  rcases validateItem_shape T L it with ⟨s, i, rfl⟩ | h | h
  · rw [validateItem_mk]
    split
    · obtain ⟨l, hl⟩ := get?_isSome_of_key L s (hK s ‹_›)
      rw [hl]
      dsimp only
      split <;> nofun
    · nofun
  · rw [h]; nofun
  · rw [h]; nofun

theorem validateItems_map (T : Tables) (L : Lists) (ps : List (String × Int)) (j : Nat)
    (h : ∀ p ∈ ps, PairOk T L p) : validateItems T L (ps.map mkPair) j = .ok (ps.map (·.1)) := by
  induction ps generalizing j with
  | nil => rfl
  | cons p t ih =>
    have hp : validateItem T L (mkPair p) = .ok p.1 := (validateItem_ok_iff T L _ _).2 ⟨p.2, rfl, h p (.head _)⟩
    simp only [List.map_cons, validateItems, hp, ih _ fun q hq => h q (.tail _ hq)]

theorem validateItems_ok_iff (T : Tables) (L : Lists) (its : List Item) (j : Nat) (names : List String) :
    validateItems T L its j = .ok names ↔
      ∃ ps : List (String × Int), its = ps.map mkPair ∧ names = ps.map (·.1) ∧ ∀ p ∈ ps, PairOk T L p := by
  refine ⟨fun h => ?_, fun ⟨ps, h1, h2, h3⟩ => h1 ▸ h2 ▸ validateItems_map T L ps j h3⟩
  induction its generalizing j names with
  | nil => cases h; exact ⟨[], rfl, rfl, nofun⟩
  | cons it rest ih =>
    simp only [validateItems] at h
    split at h
    · cases h
    · rename_i n hn
      split at h
      · cases h
      · rename_i ns hns
        cases h
        obtain ⟨i, rfl, hp⟩ := (validateItem_ok_iff T L it n).1 hn
        obtain ⟨ps, rfl, rfl, h3⟩ := ih _ _ hns
        exact ⟨(n, i) :: ps, rfl, rfl, List.forall_mem_cons.2 ⟨hp, h3⟩⟩

/-- an item error reports the position of the *first* failing item, with that item's exception -/
theorem validateItems_error (T : Tables) (L : Lists) (its : List Item) (j j' : Nat) (e : PyExc)
    (h : validateItems T L its j = .error (j', e)) :
    ∃ pre it post, its = pre ++ it :: post ∧ j' = pre.length + j ∧ validateItem T L it = .error e ∧
      ∀ x ∈ pre, ∃ p, x = mkPair p ∧ InRange L p := by
  induction its generalizing j with
  | nil => cases h
  | cons it rest ih =>
    simp only [validateItems] at h
    split at h
    · rename_i he
      cases h
      exact ⟨[], it, rest, rfl, (Nat.zero_add _).symm, he, nofun⟩
    · rename_i n hn
      split at h
      · rename_i he
        cases h
        obtain ⟨pre, x, post, rfl, rfl, h3, h4⟩ := ih (j + 1) he
        obtain ⟨i, rfl, hp⟩ := (validateItem_ok_iff T L it n).1 hn
        exact ⟨_ :: pre, x, post, rfl, (Nat.add_right_comm _ 1 j).symm, h3, List.forall_mem_cons.2 ⟨⟨(n, i), rfl, hp.2⟩, h4⟩⟩
      · cases h

theorem validateItems_ne_keyError (T : Tables) (hK : KindsAreKeys T) (L : Lists) (its : List Item)
    (j j' : Nat) : validateItems T L its j ≠ .error (j', .keyError) := fun h =>
  let ⟨_, it, _, _, _, h3, _⟩ := validateItems_error T L its j j' _ h
  validateItem_ne_keyError T hK L it h3

def LimitsOk (names : List String) (limits : List (String × Nat)) : Prop :=
  ∀ p ∈ limits, names.count p.1 < p.2

theorem checkLimits_ok_iff (names : List String) (limits : List (String × Nat)) :
    checkLimits names limits = .ok () ↔ LimitsOk names limits := by
  induction limits with
  | nil => exact ⟨fun _ => nofun, fun _ => rfl⟩
  | cons p t ih =>
    rw [LimitsOk, List.forall_mem_cons, ← LimitsOk, ← ih, checkLimits, ite_error_eq_ok, Nat.not_le]

theorem checkLimits_ne_pyIndex (names : List String) (limits : List (String × Nat)) :
    checkLimits names limits ≠ .error .pyIndex := by
  induction limits with
  | nil => simp [checkLimits]
  | cons p t ih =>
    obtain ⟨k, n⟩ := p
    simp only [checkLimits]
    split
    · intro h; cases h
    · exact ih

/-- generic statement of the order rule for arbitrary tables with `minLen ≥ 1` -/
def OrderOk (T : Tables) (names : List String) : Prop :=
  T.minLen ≤ names.length ∧ names.head? = some T.firstKind ∧
    (∃ l, names.getLast? = some l ∧ T.lastKinds.contains l = true) ∧ LimitsOk names T.limits

theorem validateOrder_ok_iff (T : Tables) (hT : 1 ≤ T.minLen) (names : List String) :
    validateOrder T names = .ok () ↔ OrderOk T names := by
  unfold validateOrder OrderOk
  rw [ite_error_eq_ok, Nat.not_lt]
  refine and_congr_right fun hlen => ?_
  cases names with
  | nil => exact absurd (Nat.le_trans hT hlen) (Nat.not_succ_le_zero 0)
  | cons a t =>
    obtain ⟨l, hl⟩ : ∃ l, (a :: t).getLast? = some l := ⟨_, List.getLast?_eq_some_getLast (List.cons_ne_nil a t)⟩
    simp only [List.head?_cons, hl, ite_error_eq_ok, checkLimits_ok_iff, Option.some.injEq, Classical.not_not,
      Bool.not_eq_true', Bool.not_eq_false, exists_eq_left']

/-- generic well-formedness of one schedule w.r.t. arbitrary tables -/
def SchedOk (T : Tables) (L : Lists) (s : Schedule) : Prop :=
  ∃ ps : List (String × Int), s = .items (ps.map mkPair) ∧ (∀ p ∈ ps, PairOk T L p) ∧
    OrderOk T (ps.map (·.1))

/-- the items an iterable schedule yields -/
def Schedule.itemsOf? : Schedule → Option (List Item)
  | .items l => some l
  | .nonSequence _ l => some l
  | .nonIterable => none

/-- the loop over the schedules: the first schedule that fails on its own decides -/
theorem validateSchedulesAux_cons (T : Tables) (L : Lists) (s : Schedule) (rest : List Schedule) (i : Nat) :
    validateSchedulesAux T L (s :: rest) i =
      match validateSchedulesAux T L [s] i with
      | .error e => .error e
      | .ok () => validateSchedulesAux T L rest (i + 1) := by
  cases s with
  | nonIterable => rfl
  | nonSequence k its =>
    simp only [validateSchedulesAux]
    split
    · rfl
    · rfl
    · cases k <;> dsimp only <;> split <;> rfl
  | items its =>
    simp only [validateSchedulesAux]
    split
    · rfl
    · rfl
    · split <;> rfl

theorem validateSchedulesAux_single_ok_iff (T : Tables) (hT : 1 ≤ T.minLen) (L : Lists) (s : Schedule) (i : Nat) :
    validateSchedulesAux T L [s] i = .ok () ↔ SchedOk T L s := by
  cases s with
  | nonIterable => exact ⟨nofun, fun ⟨_, h, _⟩ => nomatch h⟩
  | nonSequence k its =>
    refine ⟨fun h => ?_, fun ⟨_, h, _⟩ => nomatch h⟩
    simp only [validateSchedulesAux] at h
    split at h
    · cases h
    · cases h
    · cases k with
      | noLen => cases h
      | _ => dsimp only at h; split at h <;> cases h
  | items its =>
    simp only [validateSchedulesAux, SchedOk, Schedule.items.injEq]
    constructor
    · intro h
      split at h
      · cases h
      · cases h
      · rename_i names hn
        split at h
        · cases h
        · rename_i ho
          obtain ⟨ps, rfl, rfl, hp⟩ := (validateItems_ok_iff T L its 0 names).1 hn
          exact ⟨ps, rfl, hp, (validateOrder_ok_iff T hT _).1 ho⟩
    · rintro ⟨ps, rfl, hp, ho⟩
      simp only [validateItems_map T L ps 0 hp, (validateOrder_ok_iff T hT _).2 ho]

theorem validateSchedulesAux_ok_iff (T : Tables) (hT : 1 ≤ T.minLen) (L : Lists) (ss : List Schedule)
    (i : Nat) :
    validateSchedulesAux T L ss i = .ok () ↔ ∀ s ∈ ss, SchedOk T L s := by
  induction ss generalizing i with
  | nil => exact ⟨fun _ => nofun, fun _ => rfl⟩
  | cons s rest ih =>
    rw [validateSchedulesAux_cons, List.forall_mem_cons, ← validateSchedulesAux_single_ok_iff T hT L s i, ← ih (i + 1)]
    cases validateSchedulesAux T L [s] i <;> simp

theorem validateSchedulesAux_error (T : Tables) (hT : 1 ≤ T.minLen) (L : Lists)
    (ss : List Schedule) (i : Nat) (e : Err) (h : validateSchedulesAux T L ss i = .error e) :
    ∃ pre s post, ss = pre ++ s :: post ∧ (∀ x ∈ pre, SchedOk T L x) ∧ ¬ SchedOk T L s ∧
      validateSchedulesAux T L [s] (pre.length + i) = .error e := by
  induction ss generalizing i with
  | nil => cases h
  | cons s rest ih =>
    rw [validateSchedulesAux_cons] at h
    cases hs : validateSchedulesAux T L [s] i with
    | error e' =>
      rw [hs] at h; cases h
      refine ⟨[], s, rest, rfl, nofun, fun hw => ?_, (Nat.zero_add i).symm ▸ hs⟩
      rw [(validateSchedulesAux_single_ok_iff T hT L s i).2 hw] at hs; cases hs
    | ok =>
      rw [hs] at h
      obtain ⟨pre, s', post, rfl, h2, h3, h4⟩ := ih (i + 1) h
      exact ⟨s :: pre, s', post, rfl, List.forall_mem_cons.2 ⟨(validateSchedulesAux_single_ok_iff T hT L s i).1 hs, h2⟩,
        h3, by rwa [List.length_cons, Nat.add_right_comm]⟩


/-! The rule as the property states it: `InRange` (above), `OrderRule`, `WellFormed`; QProps/C20.lean spells each out
again by `Iff.rfl`. -/

/-- order rule on the kinds of a schedule -/
def OrderRule (names : List String) : Prop :=
  2 ≤ names.length ∧ names.head? = some "state" ∧ names.count "state" = 1 ∧ names.count "povm" ≤ 1 ∧
    (names.getLast? = some "povm" ∨ names.getLast? = some "mprocess")

/-- a schedule is well formed: a sequence of `(str, int)` 2-tuples `ps`, each of known kind with in-range index,
obeying the order rule -/
def WellFormed (L : Lists) (s : Schedule) : Prop :=
  ∃ ps : List (String × Int), s = .items (ps.map fun p => Item.mk p.1 p.2) ∧
    (∀ p ∈ ps, InRange L p) ∧ OrderRule (ps.map (·.1))

theorem tables_minLen : 1 ≤ tables.minLen := by decide

theorem tables_kinds : tables.kinds = ["state", "povm", "gate", "mprocess"] := rfl

theorem tables_kindsAreKeys : KindsAreKeys tables := fun k hk => by simpa [tables_kinds] using hk

theorem pairOk_iff_inRange (L : Lists) (p : String × Int) : PairOk tables L p ↔ InRange L p :=
  and_iff_right_of_imp fun h => List.contains_iff_mem.2 <| by
    simpa [tables_kinds] using inRange_kind h

/-- the head is a state, so "fewer than two states" is "exactly one" -/
theorem orderOk_iff_orderRule (names : List String) : OrderOk tables names ↔ OrderRule names := by
  constructor
  · rintro ⟨h1, h2, ⟨l, h3, h4⟩, h5⟩
    have hs : names.count "state" < 2 := h5 ("state", 2) (.head _)
    have hp : names.count "povm" < 2 := h5 ("povm", 2) (.tail _ (.head _))
    have h0 : 0 < names.count "state" := List.count_pos_iff.2 (List.mem_of_head? h2)
    refine ⟨h1, h2, Nat.le_antisymm (Nat.le_of_lt_succ hs) h0, Nat.le_of_lt_succ hp, ?_⟩
    rcases List.mem_cons.1 (List.contains_iff_mem.1 h4) with rfl | h
    · exact .inl h3
    · exact .inr (List.mem_singleton.1 h ▸ h3)
  · rintro ⟨h1, h2, h3, h4, h5⟩
    refine ⟨h1, h2, ?_, fun p hp => ?_⟩
    · rcases h5 with h5 | h5
      · exact ⟨_, h5, List.contains_iff_mem.2 (.head _)⟩
      · exact ⟨_, h5, List.contains_iff_mem.2 (.tail _ (.head _))⟩
    · rcases List.mem_cons.1 hp with rfl | hp
      · exact Nat.lt_succ_of_le (Nat.le_of_eq h3)
      · exact List.mem_singleton.1 hp ▸ Nat.lt_succ_of_le h4

theorem schedOk_iff_wellFormed (L : Lists) (s : Schedule) : SchedOk tables L s ↔ WellFormed L s :=
  exists_congr fun _ => and_congr_right fun _ =>
    and_congr (forall₂_congr fun p _ => pairOk_iff_inRange L p) (orderOk_iff_orderRule _)

theorem accept_iff_wellformed' (L : Lists) (ss : List Schedule) :
    validateSchedules tables L ss = .ok () ↔ ∀ s ∈ ss, WellFormed L s :=
  (validateSchedulesAux_ok_iff tables tables_minLen L ss 0).trans
    (forall₂_congr fun s _ => schedOk_iff_wellFormed L s)

/-- an in-range index into the object list of kind `k`, as a natural number below the list's length -/
theorem inRange_of_get {L : Lists} {k : String} {l : ObjList} {n : Nat} (h : L.get? k = some l) (hn : l.length = n)
    (x : Int) : InRange L (k, x) ↔ ∃ j : Nat, j < n ∧ x = j := by
  rw [inRange_iff_get, ← hn]
  simp only [h, Option.some.injEq, exists_eq_left']
  exact ⟨fun h => ⟨x.toNat, Int.ofNat_lt.1 (by rw [Int.toNat_of_nonneg h.1]; exact h.2), (Int.toNat_of_nonneg h.1).symm⟩,
    fun ⟨j, hj, h⟩ => h ▸ ⟨Int.natCast_nonneg j, Int.ofNat_lt.2 hj⟩⟩

theorem orderRule_cons (a : String) (rest : List String) :
    OrderRule (a :: rest) ↔ a = "state" ∧ rest ≠ [] ∧ "state" ∉ rest ∧ rest.count "povm" ≤ 1 ∧
      (rest.getLast? = some "povm" ∨ rest.getLast? = some "mprocess") := by
  unfold OrderRule
  cases rest with
  | nil => simp
  | cons b t =>
    simp only [List.length_cons, List.head?_cons, Option.some.injEq, List.getLast?_cons_cons, ne_eq,
      reduceCtorEq, not_false_eq_true, true_and]
    constructor
    · rintro ⟨_, rfl, h3, h4, h5⟩
      simp only [List.count_cons_self] at h3
      have h3' : List.count "state" (b :: t) = 0 := by omega
      refine ⟨rfl, List.count_eq_zero.1 h3', ?_, h5⟩
      rw [List.count_cons] at h4; simp at h4; exact h4
    · rintro ⟨rfl, h3, h4, h5⟩
      refine ⟨by omega, rfl, ?_, ?_, h5⟩
      · simp only [List.count_cons_self, List.count_eq_zero.2 h3]
      · rw [List.count_cons]; simp; exact h4

theorem getLast?_mem' {α : Type} (l : List α) (x : α) (h : l.getLast? = some x) : x ∈ l :=
  List.mem_of_getLast? h

def toSched (ps : List (String × Int)) : Schedule := .items (ps.map fun p => Item.mk p.1 p.2)

theorem mapM_map_eq_some {α β : Type} (f : β → α) (g : α → Option β) (hg : ∀ b, g (f b) = some b) (l : List β) :
    (l.map f).mapM g = some l := by
  induction l with
  | nil => rfl
  | cons b t ih => simp [hg, ih]

theorem pairs?_toSched (ps : List (String × Int)) : (toSched ps).pairs? = some ps :=
  mapM_map_eq_some _ Item.pair? (fun _ => rfl) ps

theorem mapM_pairs?_toSched (pss : List (List (String × Int))) : (pss.map toSched).mapM Schedule.pairs? = some pss :=
  mapM_map_eq_some toSched _ pairs?_toSched pss

theorem toSched_inj (ps ps' : List (String × Int)) (h : toSched ps = toSched ps') : ps = ps' := by
  have := congrArg Schedule.pairs? h
  rw [pairs?_toSched, pairs?_toSched] at this
  exact Option.some.inj this

/-- the class-specific test on one schedule, independent of its position: the length test (where the class has
one), the positional kind tests, the fixed index -/
def TomoOneOk (sp : TomoSpec) (ps : List (String × Int)) : Prop :=
  (∀ n, sp.len = some n → ps.length = n) ∧ posTests ps sp.pos = some false ∧ ∃ n, ps[sp.zero]? = some (n, 0)

theorem firstTest_false_iff (sp : TomoSpec) (ps : List (String × Int)) :
    firstTest sp ps = some false ↔ (∀ n, sp.len = some n → ps.length = n) ∧ posTests ps sp.pos = some false := by
  unfold firstTest
  cases h : sp.len with
  | none => simp
  | some n =>
    simp only [Option.some.injEq, forall_eq']
    by_cases hl : ps.length = n
    · simp [hl]
    · simp [hl]

theorem tomoValidateOne_ok_iff (sp : TomoSpec) (i : Nat) (ps : List (String × Int)) :
    tomoValidateOne sp i ps = .ok () ↔ TomoOneOk sp ps := by
  unfold tomoValidateOne TomoOneOk
  rw [← and_assoc, ← firstTest_false_iff]
  cases firstTest sp ps with
  | none => simp
  | some b =>
    cases b with
    | true => simp
    | false =>
      cases ps[sp.zero]? with
      | none => simp
      | some a => obtain ⟨n, x⟩ := a; simp

theorem tomoValidate_ok_iff (sp : TomoSpec) (pss : List (List (String × Int))) (i : Nat) :
    tomoValidate sp pss i = .ok () ↔ ∀ ps ∈ pss, TomoOneOk sp ps := by
  induction pss generalizing i with
  | nil => exact ⟨fun _ => nofun, fun _ => rfl⟩
  | cons ps t ih =>
    rw [tomoValidate, List.forall_mem_cons, ← tomoValidateOne_ok_iff sp i ps, ← ih (i + 1)]
    cases tomoValidateOne sp i ps <;> simp

theorem wellFormed_iff_toSched (L : Lists) (s : Schedule) :
    WellFormed L s ↔ ∃ ps, s = toSched ps ∧ (∀ p ∈ ps, InRange L p) ∧ OrderRule (ps.map (·.1)) := Iff.rfl

theorem exists_map_of_forall {α β : Type} (f : β → α) (P : β → Prop) (l : List α) (h : ∀ a ∈ l, ∃ b, a = f b ∧ P b) :
    ∃ bs : List β, l = bs.map f ∧ ∀ b ∈ bs, P b := by
  induction l with
  | nil => exact ⟨[], rfl, nofun⟩
  | cons a t ih =>
    obtain ⟨b, rfl, hb⟩ := h a (.head _)
    obtain ⟨bs, rfl, hbs⟩ := ih fun x hx => h x (.tail _ hx)
    exact ⟨b :: bs, rfl, List.forall_mem_cons.2 ⟨hb, hbs⟩⟩

/-- what a tomography class demands of one schedule: the Experiment rule w.r.t. the lists the class hands over, and the
class-specific test -/
def TomoAccepts (c : Cls) (nS nP : Nat) (s : Schedule) : Prop :=
  ∃ ps, s = toSched ps ∧ ((∀ p ∈ ps, InRange (tomoLists c.spec nS nP) p) ∧ OrderRule (ps.map (·.1))) ∧
    TomoOneOk c.spec ps

/-- the constructor on a schedule list: the error of `Experiment`, or else the verdict of the class test on well-formed
schedules -/
theorem tomoCtor_list (c : Cls) (nS nP : Nat) (ss : List Schedule) :
    (∃ x, validateSchedules tables (tomoLists c.spec nS nP) ss = .error x ∧
      tomoCtor tables c nS nP (.list ss) = .error (.exp x)) ∨
    ∃ pss : List (List (String × Int)), ss = pss.map toSched ∧
      (∀ ps ∈ pss, (∀ p ∈ ps, InRange (tomoLists c.spec nS nP) p) ∧ OrderRule (ps.map (·.1))) ∧
      tomoCtor tables c nS nP (.list ss) =
        match tomoValidate c.spec pss 0 with
        | .error e => .error e
        | .ok () => .ok ss := by
  cases hv : validateSchedules tables (tomoLists c.spec nS nP) ss with
  | error x => exact .inl ⟨x, rfl, by simp only [tomoCtor, construct, hv]⟩
  | ok =>
    obtain ⟨pss, rfl, hw⟩ := exists_map_of_forall toSched _ ss ((accept_iff_wellformed' _ ss).1 hv)
    refine .inr ⟨pss, rfl, hw, ?_⟩
    simp only [tomoCtor, construct, hv, mapM_pairs?_toSched]
    cases tomoValidate c.spec pss 0 <;> rfl

/-- acceptance by a tomography constructor, schedule by schedule -/
theorem tomoCtor_ok_iff (c : Cls) (nS nP : Nat) (ss : List Schedule) :
    tomoCtor tables c nS nP (.list ss) = .ok ss ↔ ∀ s ∈ ss, TomoAccepts c nS nP s := by
  rcases tomoCtor_list c nS nP ss with ⟨x, hv, h⟩ | ⟨pss, rfl, hw, h⟩ <;> rw [h]
  · refine ⟨nofun, fun h' => ?_⟩
    rw [(accept_iff_wellformed' _ ss).2 fun s hs => let ⟨ps, e, hw, _⟩ := h' s hs; ⟨ps, e, hw⟩] at hv
    cases hv
  · have hone : ∀ ps ∈ pss, (TomoOneOk c.spec ps ↔ TomoAccepts c nS nP (toSched ps)) := fun ps hp =>
      ⟨fun ht => ⟨ps, rfl, hw ps hp, ht⟩, fun ⟨_, e, _, ht⟩ => toSched_inj _ _ e ▸ ht⟩
    rw [List.forall_mem_map, ← forall₂_congr hone, ← tomoValidate_ok_iff c.spec pss 0]
    cases tomoValidate c.spec pss 0 <;> simp

theorem posTests_false_iff (s : List (String × Int)) (tests : List (Nat × String)) :
    posTests s tests = some false ↔ ∀ t ∈ tests, ∃ x, s[t.1]? = some (t.2, x) := by
  induction tests with
  | nil => simp [posTests]
  | cons t rest ih =>
    simp only [posTests, List.forall_mem_cons, ← ih]
    cases s[t.1]? with
    | none => simp
    | some a =>
      by_cases h : a.1 = t.2
      · simp only [h, ne_eq, not_true_eq_false, if_false, Option.some.injEq, iff_and_self]
        intro _; exact ⟨a.2, by rw [← h]⟩
      · simp only [ne_eq, h, not_false_eq_true, if_true, Option.some.injEq, reduceCtorEq, false_iff, not_and]
        intro ⟨x, hx⟩; exact absurd (congrArg Prod.fst hx) h

theorem posTests_two (k0 k1 : String) (ps : List (String × Int)) :
    posTests ps [(0, k0), (1, k1)] = some false ↔ ∃ x y t, ps = (k0, x) :: (k1, y) :: t := by
  refine ⟨fun h => ?_, fun ⟨x, y, t, h⟩ => by simp [h, posTests]⟩
  rw [posTests_false_iff] at h
  obtain ⟨x, hx⟩ := h _ (.head _)
  obtain ⟨y, hy⟩ := h _ (.tail _ (.head _))
  match ps, hx, hy with
  | a :: b :: t, hx, hy =>
    simp only [List.getElem?_cons_zero, List.getElem?_cons_succ, Option.some.injEq] at hx hy
    exact ⟨x, y, t, by rw [hx, hy]⟩

theorem posTests_three (k0 k1 k2 : String) (ps : List (String × Int)) :
    posTests ps [(0, k0), (1, k1), (2, k2)] = some false ↔ ∃ x y z t, ps = (k0, x) :: (k1, y) :: (k2, z) :: t := by
  refine ⟨fun h => ?_, fun ⟨x, y, z, t, h⟩ => by simp [h, posTests]⟩
  rw [posTests_false_iff] at h
  obtain ⟨x, hx⟩ := h _ (.head _)
  obtain ⟨y, hy⟩ := h _ (.tail _ (.head _))
  obtain ⟨z, hz⟩ := h _ (.tail _ (.tail _ (.head _)))
  match ps, hx, hy, hz with
  | a :: b :: c :: t, hx, hy, hz =>
    simp only [List.getElem?_cons_zero, List.getElem?_cons_succ, Option.some.injEq] at hx hy hz
    exact ⟨x, y, z, t, by rw [hx, hy, hz]⟩

/-- nothing follows the POVM of a well-formed schedule when there are no measurement processes: the last item would be a
second POVM or a measurement process -/
theorem tail_nil_of_povm (L : Lists) (hm : L.mprocess = []) (pre : List (String × Int)) (j : Int)
    (t : List (String × Int)) (hr : ∀ p ∈ pre ++ ("povm", j) :: t, InRange L p)
    (ho : OrderRule ((pre ++ ("povm", j) :: t).map (·.1))) : t = [] := by
  rcases List.eq_nil_or_concat t with rfl | ⟨t', x, rfl⟩
  · rfl
  · obtain ⟨_, _, _, hc, hl⟩ := ho
    have hx := hr x (by simp)
    simp only [List.concat_eq_append, List.map_append, List.map_cons, List.map_nil, ← List.append_assoc,
      ← List.cons_append, List.getLast?_concat, Option.some.injEq] at hl hc
    rcases hl with hl | hl
    · simp only [hl, List.count_append, List.count_cons_self] at hc
      omega
    · obtain ⟨x1, x2⟩ := x
      subst hl
      replace hx := (inRange_of_get (get?_mprocess L) (congrArg List.length hm) _).1 hx
      obtain ⟨_, h, _⟩ := hx
      cases h

theorem qstLists_eq (nS nP : Nat) :
    tomoLists qstSpec nS nP = ⟨[none], List.replicate nP (some [2]), [], []⟩ := rfl
theorem povmtLists_eq (nS nP : Nat) :
    tomoLists povmtSpec nS nP = ⟨List.replicate nS (some [2]), [none], [], []⟩ := rfl
theorem qptLists_eq (nS nP : Nat) :
    tomoLists qptSpec nS nP = ⟨List.replicate nS (some [2]), List.replicate nP (some [2]), [none], []⟩ := rfl
theorem qmptLists_eq (nS nP : Nat) :
    tomoLists qmptSpec nS nP = ⟨List.replicate nS (some [2]), List.replicate nP (some [2]), [], [none]⟩ := rfl

theorem qst_one (nS nP : Nat) (s : Schedule) :
    TomoAccepts .qst nS nP s ↔ ∃ j : Nat, j < nP ∧ s = .items [Item.mk "state" 0, Item.mk "povm" j] := by
  unfold TomoAccepts
  rw [Cls.spec, qstLists_eq]
  constructor
  · rintro ⟨ps, rfl, ⟨hr, ho⟩, -, hp, n, hz⟩
    obtain ⟨i, y, t, rfl⟩ := (posTests_two _ _ ps).1 hp
    obtain rfl := tail_nil_of_povm _ rfl [("state", i)] y t hr ho
    obtain ⟨j, hj, rfl⟩ := (inRange_of_get (get?_povm _) List.length_replicate _).1 (hr _ (.tail _ (.head _)))
    cases (hz : some ("state", i) = some (n, 0))
    exact ⟨j, hj, rfl⟩
  · rintro ⟨j, hj, rfl⟩
    refine ⟨[("state", 0), ("povm", j)], rfl, ⟨?_, by simp [OrderRule]⟩,
      nofun, (posTests_two _ _ _).2 ⟨_, _, _, rfl⟩, "state", rfl⟩
    exact List.forall_mem_cons.2 ⟨(inRange_of_get (get?_state _) rfl _).2 ⟨0, Nat.zero_lt_one, rfl⟩,
      List.forall_mem_cons.2 ⟨(inRange_of_get (get?_povm _) List.length_replicate _).2 ⟨j, hj, rfl⟩, nofun⟩⟩

theorem qpt_one (nS nP : Nat) (s : Schedule) :
    TomoAccepts .qpt nS nP s ↔ ∃ i j : Nat, i < nS ∧ j < nP ∧
      s = .items [Item.mk "state" i, Item.mk "gate" 0, Item.mk "povm" j] := by
  unfold TomoAccepts
  rw [Cls.spec, qptLists_eq]
  constructor
  · rintro ⟨ps, rfl, ⟨hr, ho⟩, -, hp, n, hz⟩
    obtain ⟨x, y, z, t, rfl⟩ := (posTests_three _ _ _ ps).1 hp
    obtain rfl := tail_nil_of_povm _ rfl [("state", x), ("gate", y)] z t hr ho
    obtain ⟨i, hi, rfl⟩ := (inRange_of_get (get?_state _) List.length_replicate _).1 (hr _ (.head _))
    obtain ⟨j, hj, rfl⟩ := (inRange_of_get (get?_povm _) List.length_replicate _).1 (hr _ (.tail _ (.tail _ (.head _))))
    cases (hz : some ("gate", y) = some (n, 0))
    exact ⟨i, j, hi, hj, rfl⟩
  · rintro ⟨i, j, hi, hj, rfl⟩
    refine ⟨[("state", i), ("gate", 0), ("povm", j)], rfl,
      ⟨?_, by simp [OrderRule]⟩, nofun, (posTests_three _ _ _ _).2 ⟨_, _, _, _, rfl⟩, "gate", rfl⟩
    exact List.forall_mem_cons.2 ⟨(inRange_of_get (get?_state _) List.length_replicate _).2 ⟨i, hi, rfl⟩,
      List.forall_mem_cons.2 ⟨(inRange_of_get (get?_gate _) rfl _).2 ⟨0, Nat.zero_lt_one, rfl⟩,
      List.forall_mem_cons.2 ⟨(inRange_of_get (get?_povm _) List.length_replicate _).2 ⟨j, hj, rfl⟩, nofun⟩⟩⟩

theorem povmt_one (nS nP : Nat) (s : Schedule) :
    TomoAccepts .povmt nS nP s ↔ ∃ i : Nat, i < nS ∧ s = .items [Item.mk "state" i, Item.mk "povm" 0] := by
  unfold TomoAccepts
  rw [Cls.spec, povmtLists_eq]
  constructor
  · rintro ⟨ps, rfl, ⟨hr, ho⟩, -, hp, n, hz⟩
    obtain ⟨x, y, t, rfl⟩ := (posTests_two _ _ ps).1 hp
    obtain rfl := tail_nil_of_povm _ rfl [("state", x)] y t hr ho
    obtain ⟨i, hi, rfl⟩ := (inRange_of_get (get?_state _) List.length_replicate _).1 (hr _ (.head _))
    cases (hz : some ("povm", y) = some (n, 0))
    exact ⟨i, hi, rfl⟩
  · rintro ⟨i, hi, rfl⟩
    refine ⟨[("state", i), ("povm", 0)], rfl, ⟨?_, by simp [OrderRule]⟩,
      nofun, (posTests_two _ _ _).2 ⟨_, _, _, rfl⟩, "povm", rfl⟩
    exact List.forall_mem_cons.2 ⟨(inRange_of_get (get?_state _) List.length_replicate _).2 ⟨i, hi, rfl⟩,
      List.forall_mem_cons.2 ⟨(inRange_of_get (get?_povm _) rfl _).2 ⟨0, Nat.zero_lt_one, rfl⟩, nofun⟩⟩

theorem qmpt_one (nS nP : Nat) (s : Schedule) :
    TomoAccepts .qmpt nS nP s ↔ ∃ i j : Nat, i < nS ∧ j < nP ∧
      s = .items [Item.mk "state" i, Item.mk "mprocess" 0, Item.mk "povm" j] := by
  unfold TomoAccepts
  rw [Cls.spec, qmptLists_eq]
  constructor
  · rintro ⟨ps, rfl, ⟨hr, ho⟩, hlen, hp, n, hz⟩
    obtain ⟨x, y, z, t, rfl⟩ := (posTests_three _ _ _ ps).1 hp
    obtain rfl : t = [] := by simpa using hlen 3 rfl
    obtain ⟨i, hi, rfl⟩ := (inRange_of_get (get?_state _) List.length_replicate _).1 (hr _ (.head _))
    obtain ⟨j, hj, rfl⟩ := (inRange_of_get (get?_povm _) List.length_replicate _).1 (hr _ (.tail _ (.tail _ (.head _))))
    cases (hz : some ("mprocess", y) = some (n, 0))
    exact ⟨i, j, hi, hj, rfl⟩
  · rintro ⟨i, j, hi, hj, rfl⟩
    refine ⟨[("state", i), ("mprocess", 0), ("povm", j)], rfl,
      ⟨?_, by simp [OrderRule]⟩,
      fun n h => by cases h; rfl, (posTests_three _ _ _ _).2 ⟨_, _, _, _, rfl⟩, "mprocess", rfl⟩
    exact List.forall_mem_cons.2 ⟨(inRange_of_get (get?_state _) List.length_replicate _).2 ⟨i, hi, rfl⟩,
      List.forall_mem_cons.2 ⟨(inRange_of_get (get?_mprocess _) rfl _).2 ⟨0, Nat.zero_lt_one, rfl⟩,
      List.forall_mem_cons.2 ⟨(inRange_of_get (get?_povm _) List.length_replicate _).2 ⟨j, hj, rfl⟩, nofun⟩⟩⟩

/-- a kind test raises IndexError only if its position is missing; it is reached only if all tests before it passed -/
theorem posTests_cons_ne_none (s : List (String × Int)) {p : Nat} {k n : String} {x : Int} {rest : List (Nat × String)}
    (h : s[p]? = some (n, x)) (h' : n = k → posTests s rest ≠ none) : posTests s ((p, k) :: rest) ≠ none := by
  rw [posTests, h]
  dsimp only
  split
  · nofun
  · exact h' (Classical.not_not.1 ‹_›)

theorem posTests_ne_none (s : List (String × Int)) (tests : List (Nat × String))
    (h : ∀ t ∈ tests, t.1 < s.length) : posTests s tests ≠ none := by
  induction tests with
  | nil => nofun
  | cons t rest ih =>
    exact posTests_cons_ne_none s (List.getElem?_eq_getElem (h t (.head _))) fun _ => ih fun t ht => h t (.tail _ ht)

theorem firstTest_ne_none (sp : TomoSpec) (s : List (String × Int))
    (h : ∀ t ∈ sp.pos, t.1 < s.length) : firstTest sp s ≠ none := by
  unfold firstTest
  split
  · split
    · simp
    · exact posTests_ne_none s _ h
  · exact posTests_ne_none s _ h

/-- `IndexError` is the only other outcome of the class test, and it needs a tested position beyond the schedule's end -/
theorem tomoValidateOne_of_firstTest (sp : TomoSpec) (i : Nat) (s : List (String × Int))
    (h1 : firstTest sp s ≠ none) (h2 : sp.zero < s.length) :
    tomoValidateOne sp i s = .ok () ∨ tomoValidateOne sp i s = .error (.value i) := by
  unfold tomoValidateOne
  split
  · contradiction
  · exact .inr rfl
  · simp only [List.getElem?_eq_getElem h2]
    split
    · exact .inr rfl
    · exact .inl rfl

theorem spec_positions (c : Cls) : c.spec.zero < 2 ∧ ∀ t ∈ c.spec.pos, t.1 < 3 := by cases c <;> decide

/-- the kind tests reach position 2 only in Qpt and Qmpt; on a two-item schedule Qpt's test of position 1 fires before
(the last kind is not `"gate"`), and Qmpt's length test before all of them -/
theorem firstTest_ne_none_of_orderRule (c : Cls) (ps : List (String × Int)) (ho : OrderRule (ps.map (·.1))) :
    firstTest c.spec ps ≠ none := by
  match ps, ho with
  | [], ho => exact absurd ho.1 (by decide)
  | [a], ho => exact absurd ho.1 (by decide : ¬ 2 ≤ 1)
  | [(a1, a2), (b1, b2)], ho =>
    cases c with
    | qst => exact firstTest_ne_none _ _ (show ∀ t ∈ qstSpec.pos, t.1 < 2 by decide)
    | povmt => exact firstTest_ne_none _ _ (show ∀ t ∈ povmtSpec.pos, t.1 < 2 by decide)
    | qpt =>
      have hg : b1 ≠ "gate" := by
        rcases (ho.2.2.2.2 : some b1 = some "povm" ∨ some b1 = some "mprocess") with h | h <;> cases h <;> decide
      exact posTests_cons_ne_none [(a1, a2), (b1, b2)] (p := 0) rfl fun _ =>
        posTests_cons_ne_none [(a1, a2), (b1, b2)] (p := 1) rfl fun h => absurd h hg
    | qmpt => exact (nofun : some true ≠ none)
  | a :: b :: d :: rest, _ =>
    exact firstTest_ne_none _ _ fun t ht => Nat.lt_of_lt_of_le ((spec_positions c).2 t ht) (Nat.le_add_left 3 _)

/-- per schedule: on an Experiment-accepted schedule the class test never raises IndexError -/
theorem tomoValidateOne_no_index (c : Cls) (i : Nat) (ps : List (String × Int))
    (ho : OrderRule (ps.map (·.1))) :
    tomoValidateOne c.spec i ps = .ok () ∨ tomoValidateOne c.spec i ps = .error (.value i) :=
  tomoValidateOne_of_firstTest _ i ps (firstTest_ne_none_of_orderRule c ps ho)
    (Nat.lt_of_lt_of_le (spec_positions c).1 (by simpa using ho.1))

theorem tomoValidate_no_index (c : Cls) (pss : List (List (String × Int))) (i : Nat) (e : TomoErr)
    (hw : ∀ ps ∈ pss, OrderRule (ps.map (·.1))) (h : tomoValidate c.spec pss i = .error e) : ∃ j, e = .value j := by
  induction pss generalizing i with
  | nil => cases h
  | cons ps t ih =>
    rw [tomoValidate] at h
    rcases tomoValidateOne_no_index c i ps (hw ps (.head _)) with g | g <;> rw [g] at h
    · exact ih (i + 1) (fun q hq => hw q (.tail _ hq)) h
    · cases h; exact ⟨i, rfl⟩

/-- the object a `(kind, index)` pair refers to: `some none` = the `None` placeholder -/
def objOf (L : Lists) (p : String × Int) : Option (Option (List Nat)) := (L.get? p.1).bind fun l => pyIndex l p.2

theorem pyIndex_inRange {α : Type} (l : List α) (i : Int) (h0 : 0 ≤ i) (h1 : i < (l.length : Int)) :
    ∃ o, pyIndex l i = some o ∧ l[i.toNat]? = some o := by
  have hlt : i.toNat < l.length := (Int.toNat_lt h0).2 h1
  exact ⟨l[i.toNat], by rw [pyIndex, if_pos h0, List.getElem?_eq_getElem hlt], List.getElem?_eq_getElem hlt⟩

theorem lookupTargets_cons (L : Lists) (p : String × Int) (rest : List Item) (pos : Nat) :
    lookupTargets L (Item.mk p.1 p.2 :: rest) pos =
      match objOf L p with
      | none => .error (.py (if L.get? p.1 = none then .keyError else .indexError))
      | some none => .error (.isNone pos)
      | some (some m) =>
        match lookupTargets L rest (pos + 1) with
        | .error e => .error e
        | .ok ts => .ok (qtOf p.1 m :: ts) := by
  simp only [Item.mk, lookupTargets, objOf]
  cases L.get? p.1 with
  | none => rfl
  | some l => rfl

theorem lookupTargets_ok (L : Lists) (outc : String × Int → List Nat) (ps : List (String × Int)) (pos : Nat)
    (h : ∀ p ∈ ps, objOf L p = some (some (outc p))) :
    lookupTargets L (ps.map fun p => Item.mk p.1 p.2) pos = .ok (ps.map fun p => qtOf p.1 (outc p)) := by
  induction ps generalizing pos with
  | nil => rfl
  | cons p t ih =>
    rw [List.map_cons, lookupTargets_cons, h p (.head _), ih _ fun q hq => h q (.tail _ hq)]
    rfl

/-- `None` placeholders are rejected: the first item (in schedule order) that refers to `None` raises -/
theorem lookupTargets_none (L : Lists) (outc : String × Int → List Nat) (pre : List (String × Int)) (p : String × Int)
    (post : List (String × Int)) (pos : Nat)
    (h : ∀ q ∈ pre, objOf L q = some (some (outc q))) (hp : objOf L p = some none) :
    lookupTargets L ((pre ++ p :: post).map fun p => Item.mk p.1 p.2) pos = .error (.isNone (pos + pre.length)) := by
  induction pre generalizing pos with
  | nil => rw [List.nil_append, List.map_cons, lookupTargets_cons, hp]; rfl
  | cons a t ih =>
    rw [List.cons_append, List.map_cons, lookupTargets_cons, h a (.head _), ih _ fun q hq => h q (.tail _ hq),
      List.length_cons, Nat.add_assoc, Nat.add_comm 1]

theorem objOf_of_inRange (L : Lists) (p : String × Int) (h : InRange L p) : ∃ o, objOf L p = some o := by
  obtain ⟨l, hl, h0, h1⟩ := (inRange_iff_get L p).1 h
  obtain ⟨o, ho, _⟩ := pyIndex_inRange l p.2 h0 h1
  exact ⟨o, by simp only [objOf, hl, Option.bind_some, ho]⟩

/-- look-ups of in-range items never raise: they deliver all objects or stop at the first `None` placeholder -/
theorem lookupTargets_total (L : Lists) (ps : List (String × Int)) (pos : Nat) (h : ∀ p ∈ ps, InRange L p) :
    (∃ ts, lookupTargets L (ps.map fun p => Item.mk p.1 p.2) pos = .ok ts ∧ ts.length = ps.length) ∨
    (∃ k, lookupTargets L (ps.map fun p => Item.mk p.1 p.2) pos = .error (.isNone k) ∧ k < pos + ps.length) := by
  induction ps generalizing pos with
  | nil => exact Or.inl ⟨[], rfl, rfl⟩
  | cons p t ih =>
    obtain ⟨o, ho⟩ := objOf_of_inRange L p (h p (.head _))
    rw [List.map_cons, lookupTargets_cons, ho, List.length_cons]
    cases o with
    | none => exact Or.inr ⟨pos, rfl, Nat.lt_add_of_pos_right (Nat.succ_pos _)⟩
    | some m =>
      rcases ih (pos + 1) fun q hq => h q (.tail _ hq) with ⟨ts, h1, h2⟩ | ⟨k, h1, h3⟩
      · exact Or.inl ⟨qtOf p.1 m :: ts, by rw [h1], by rw [List.length_cons, h2]⟩
      · exact Or.inr ⟨k, by rw [h1], by rwa [Nat.add_comm t.length, ← Nat.add_assoc]⟩

/-- closed form: the shapes of the measurement processes in order, then the POVM's local outcomes; flat when there is none -/
def shapeOfRun (shs : List (List Nat)) (m : List Nat) : List Nat :=
  if shs.isEmpty then [prodNat m] else shs.flatten ++ m

theorem qtOf_state (m : List Nat) : qtOf "state" m = .state := by simp [qtOf]
theorem qtOf_povm (m : List Nat) : qtOf "povm" m = .povm m := by simp [qtOf]
theorem qtOf_gate (m : List Nat) : qtOf "gate" m = .gate := by simp [qtOf]
theorem qtOf_mprocess (m : List Nat) : qtOf "mprocess" m = .mproc m := by simp [qtOf]

/-! `compose` on the pairs that occur when a schedule is run from the state outwards -/
theorem compose_gate_state : compose .gate .state = .ok .state := rfl
theorem compose_gate_ens (sh : List Nat) : compose .gate (.ens sh) = .ok (.ens sh) := rfl
theorem compose_mproc_state (m : List Nat) : compose (.mproc m) .state = .ok (.ens m) := rfl
theorem compose_mproc_ens (m sh : List Nat) : compose (.mproc m) (.ens sh) = .ok (.ens (sh ++ m)) := rfl
theorem compose_povm_state (m : List Nat) : compose (.povm m) .state = .ok (.dist [prodNat m]) := rfl
theorem compose_povm_ens (m sh : List Nat) : compose (.povm m) (.ens sh) = .ok (.dist (sh ++ m)) := rfl

/-- the intermediate result once the state has passed measurement processes of shapes `pre` (and any gates): flat as
long as there was none -/
def runState (pre : List (List Nat)) : QT := if pre.isEmpty then .state else .ens pre.flatten

/-- composition typing: from any point of the run on through gates and measurement processes into a POVM -/
theorem composeFrom_run (outc : String × Int → List Nat) (mid : List (String × Int))
    (hmid : ∀ q ∈ mid, q.1 = "gate" ∨ q.1 = "mprocess") (m : List Nat) (pre : List (List Nat)) :
    composeFrom (runState pre) (mid.map (fun p => qtOf p.1 (outc p)) ++ [.povm m]) =
      .ok (.dist (shapeOfRun (pre ++ (mid.filter fun p => p.1 = "mprocess").map outc) m)) := by
  induction mid generalizing pre with
  | nil => cases pre <;> simp [composeFrom, runState, shapeOfRun, compose_povm_state, compose_povm_ens]
  | cons q t ih =>
    obtain ⟨k, x⟩ := q
    have iht := ih fun q hq => hmid q (.tail _ hq)
    rcases hmid _ (.head _) with h | h <;> cases h
    · have hc : compose .gate (runState pre) = .ok (runState pre) := by cases pre <;> rfl
      simpa [composeFrom, hc, qtOf_gate] using iht pre
    · have hc : compose (.mproc (outc ("mprocess", x))) (runState pre) =
          .ok (runState (pre ++ [outc ("mprocess", x)])) := by
        cases pre <;> simp [runState, compose_mproc_state, compose_mproc_ens]
      simpa [composeFrom, hc, qtOf_mprocess] using iht (pre ++ [outc ("mprocess", x)])

theorem calcProbDist_of_lookup_error (st : ExpState) (i : Nat) (its : List Item) (e : CalcErr)
    (hi : st.schedules[i]? = some (.items its)) (h : lookupTargets st.lists its 0 = .error e) :
    calcProbDist st (.int i) = .error e := by
  have hlen := (List.getElem?_eq_some_iff.1 hi).1
  simp only [calcProbDist, Int.toNat_natCast, hi, h]
  exact if_neg (Classical.not_not.2 ⟨Int.natCast_nonneg i, Int.ofNat_lt.2 hlen⟩)

theorem calcProbDist_of_compose (st : ExpState) (i : Nat) (its : List Item) (t : QT) (ts : List QT) (sh : List Nat)
    (hi : st.schedules[i]? = some (.items its)) (h : lookupTargets st.lists its 0 = .ok (t :: ts)) (hne : ts ≠ [])
    (hc : composeFrom t ts = .ok (.dist sh)) : calcProbDist st (.int i) = .ok sh := by
  have hlen := (List.getElem?_eq_some_iff.1 hi).1
  simp only [calcProbDist, Int.toNat_natCast, hi, h, hc, List.isEmpty_eq_false_iff.2 hne]
  exact if_neg (Classical.not_not.2 ⟨Int.natCast_nonneg i, Int.ofNat_lt.2 hlen⟩)

/-- a state, then gates and measurement processes, then a POVM, none of them a `None` placeholder: executed, and the
outcome shape is that of the measurement processes in order followed by the POVM's -/
theorem executable_of_shape (st : ExpState) (i : Nat) (a b : Int) (mid : List (String × Int))
    (outc : String × Int → List Nat)
    (hi : st.schedules[i]? = some (toSched (("state", a) :: (mid ++ [("povm", b)]))))
    (hmid : ∀ q ∈ mid, q.1 = "gate" ∨ q.1 = "mprocess")
    (hobj : ∀ p ∈ ("state", a) :: (mid ++ [("povm", b)]), objOf st.lists p = some (some (outc p))) :
    calcProbDist st (.int i) =
      .ok (shapeOfRun ((mid.filter fun p => p.1 = "mprocess").map outc) (outc ("povm", b))) := by
  refine calcProbDist_of_compose st i _ .state _ _ hi ?_ ?_ (composeFrom_run outc mid hmid _ [])
  · rw [lookupTargets_ok _ outc _ _ hobj, List.map_cons, List.map_append]; rfl
  · exact List.append_ne_nil_of_right_ne_nil _ (List.cons_ne_nil _ _)

theorem shape_of_povm_last (ps : List (String × Int))
    (hk : ∀ p ∈ ps, p.1 = "state" ∨ p.1 = "povm" ∨ p.1 = "gate" ∨ p.1 = "mprocess")
    (ho : OrderRule (ps.map (·.1))) (hlast : (ps.map (·.1)).getLast? = some "povm") :
    ∃ a mid b, ps = ("state", a) :: (mid ++ [("povm", b)]) ∧ ∀ q ∈ mid, q.1 = "gate" ∨ q.1 = "mprocess" := by
  match ps, hk, ho, hlast with
  | [], _, ho, _ => exact absurd ho.1 (by decide)
  | (k, a) :: rest, hk, ho, hlast =>
    obtain ⟨rfl, hne, hns, hcnt, -⟩ := (orderRule_cons _ _).1 ho
    rcases List.eq_nil_or_concat rest with rfl | ⟨mid, ⟨k', b⟩, rfl⟩
    · exact absurd rfl hne
    · simp only [List.concat_eq_append, List.map_cons, List.map_append, List.map_nil, ← List.cons_append,
        List.getLast?_concat, Option.some.injEq] at hlast
      subst hlast
      refine ⟨a, mid, b, by rw [List.concat_eq_append], fun q hq => ?_⟩
      have hq1 : q.1 ∈ mid.map (·.1) := List.mem_map_of_mem hq
      rcases hk q (by simp [hq]) with h | h | h
      · exact absurd (h ▸ hq1) fun hh => hns (by simp [hh])
      · rw [List.concat_eq_append, List.map_append, List.count_append] at hcnt
        exact absurd (h ▸ hq1) (List.count_eq_zero.1 (by simp at hcnt; omega))
      · exact h

/-! the generated `objdict` tables of the setters are the expected ones -/

theorem setterLists_eq (L : Lists) (w : Which) (v : ObjList) : setterLists L w v = L.set w v := by
  cases w <;> rfl

theorem setterAssign_eq (L : Lists) (w : Which) (v : ObjList) : setterAssign L w v = L.set w v := by
  cases w <;> rfl

/-- the state a setter call moves to when it succeeds -/
def Op.apply (o : Op) (st : ExpState) : ExpState :=
  match o with
  | .setList w v => { st with lists := st.lists.set w v }
  | .setSchedules ss => { st with schedules := ss }

/-- every setter validates the would-be state and moves to it on success -/
theorem step_eq (T : Tables) (st : ExpState) (o : Op) :
    step T st o =
      match validateSchedules T (o.apply st).lists (o.apply st).schedules with
      | .error e => .error e
      | .ok () => .ok (o.apply st) := by
  cases o with
  | setList w v =>
    simp only [step, Op.apply, setterLists_eq, setterAssign_eq]
    cases validateSchedules T (st.lists.set w v) st.schedules <;> rfl
  | setSchedules ss =>
    simp only [step, Op.apply]
    cases validateSchedules T st.lists ss <;> rfl

theorem step_error_iff (st : ExpState) (o : Op) (e : Err) :
    step tables st o = .error e ↔ validateSchedules tables (o.apply st).lists (o.apply st).schedules = .error e := by
  rw [step_eq]
  cases validateSchedules tables (o.apply st).lists (o.apply st).schedules <;> simp

/-- a setter call succeeds exactly when every schedule of the would-be state is well formed w.r.t. its lists -/
theorem step_rule (st : ExpState) (o : Op) :
    (step tables st o = .ok (o.apply st) ∧ ∀ s ∈ (o.apply st).schedules, WellFormed (o.apply st).lists s) ∨
    ((∃ e, step tables st o = .error e) ∧ ¬ ∀ s ∈ (o.apply st).schedules, WellFormed (o.apply st).lists s) := by
  rw [step_eq, ← accept_iff_wellformed']
  cases validateSchedules tables (o.apply st).lists (o.apply st).schedules <;> simp

theorem pyIndex_replicate {α : Type} (n j : Nat) (x : α) (h : j < n) : pyIndex (List.replicate n x) (j : Int) = some x := by
  simp [pyIndex, h]

theorem pyIndex_single {α : Type} (x : α) : pyIndex [x] (0 : Int) = some x := by simp [pyIndex]

/-- the experiment a tomography object executes: its own lists with the `[None]` placeholder replaced by the true object
(`generate_prob_dists_sequence`: `tmp_experiment.<attr>[target_index] = true_object`), `sh` = the true object's outcome shape -/
def substTrue (c : Cls) (nS nP : Nat) (sh : List Nat) : Lists :=
  match c with
  | .qst => { tomoLists c.spec nS nP with state := [some []] }
  | .povmt => { tomoLists c.spec nS nP with povm := [some sh] }
  | .qpt => { tomoLists c.spec nS nP with gate := [some []] }
  | .qmpt => { tomoLists c.spec nS nP with mprocess := [some sh] }

/-- outcome shape of one tomography schedule: testers are POVMs with one local outcome count 2 in the model -/
def tomoShape (c : Cls) (sh : List Nat) : List Nat :=
  match c with
  | .qst => [2] | .povmt => [prodNat sh] | .qpt => [2] | .qmpt => sh ++ [2]

end QM.C20
