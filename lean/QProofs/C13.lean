import QModel.C13
/-!
# C13 — helper lemmas for the state machines (no Mathlib needed: everything is induction over histories)
-/
namespace QM.C13

/-! ## (a) caches -/

theorem cacheOk_empty {T : Type} (tbl : Key → T) : CacheOk tbl Cache.empty := by
  intro k v h; simp [Cache.empty] at h

theorem build_ok {T : Type} (tbl : Key → T) (g : Grp) (s : Cache T) (h : CacheOk tbl s) :
    CacheOk tbl (build tbl g s) := by
  intro k v hk
  unfold build at hk
  split at hk
  · injection hk with hk; exact hk.symm
  · exact h k v hk

theorem cstep_ok {T : Type} (tbl : Key → T) (s : Cache T) (op : COp) (h : CacheOk tbl s) :
    CacheOk tbl (cstep tbl s op).1 := by
  cases op with
  | get k =>
      simp only [cstep]
      split
      · exact build_ok tbl _ s h
      · exact h
  | delete k =>
      simp only [cstep]
      split
      · intro j v hj
        simp only at hj
        split at hj
        · cases hj
        · exact h j v hj
      · exact h

theorem crun_ok {T : Type} (tbl : Key → T) (ops : List COp) :
    ∀ s : Cache T, CacheOk tbl s → CacheOk tbl (crun tbl s ops).1 := by
  induction ops with
  | nil => intro s h; exact h
  | cons op ops ih => intro s h; exact ih _ (cstep_ok tbl s op h)

theorem get_out {T : Type} (tbl : Key → T) (s : Cache T) (k : Key) (h : CacheOk tbl s) :
    (cstep tbl s (.get k)).2 = .table (some (tbl k)) := by
  simp only [cstep]
  cases hk : s k with
  | none => simp [build]
  | some v => simp [hk, h k v hk]

theorem crun_length {T : Type} (tbl : Key → T) (ops : List COp) :
    ∀ s : Cache T, (crun tbl s ops).2.length = ops.length := by
  induction ops with
  | nil => intro s; rfl
  | cons op ops ih => intro s; simp [crun, ih]

theorem crun_gets_pure {T : Type} (tbl : Key → T) (ops : List COp) :
    ∀ s : Cache T, CacheOk tbl s →
      ∀ p ∈ ops.zip (crun tbl s ops).2, ∀ k, p.1 = .get k → p.2 = .table (some (tbl k)) := by
  induction ops with
  | nil => intro s _ p hp; simp [crun] at hp
  | cons op ops ih =>
      intro s h p hp k hk
      simp only [crun, List.zip_cons_cons, List.mem_cons] at hp
      rcases hp with rfl | hp
      · simp only at hk; subst hk; exact get_out tbl s k h
      · exact ih _ (cstep_ok tbl s op h) p hp k hk

/-! ## (b) loss -/

section loss
variable {A Q W : Type}

theorem calcExt_ext (s : Loss A Q W) : (calcExt s).ext = s.weights := rfl

/-- the state after one `set_from_standard_qtomography_option_data`, field by field -/
theorem configure_eq (s : Loss A Q W) (c : Cfg A Q W) :
    configure s c =
      { option := some (c.mode, c.optWeights)
        q := some c.q
        matA := some c.matA
        weights := match c.mode with
          | .identity => none | .custom => c.optWeights | .invCov => some c.dataW
        ext := match c.mode with
          | .identity => none | .custom => c.optWeights | .invCov => some c.dataW } := by
  obtain ⟨o, q, a, w, e⟩ := s
  obtain ⟨mode, ow, ma, cq, dw, g⟩ := c
  cases g <;> cases mode <;> simp [configure, cfgOps, lstep, calcExt, setWeights]

end loss

/-! ## (c) algorithm -/

theorem arun_proj_some {QT : Type} (h : List (QT × AlgoOpt)) :
    ∀ (s : Algo QT) (p : Proj QT), s.funcProj = some p → (arun s h).funcProj = some p := by
  induction h with
  | nil => intro s p hp; exact hp
  | cons c h ih => intro s p hp; exact ih _ p (by simp [setConstraint, hp])

/-! ## (d) atol -/

theorem arunAtol_append (a : Rat) (x y : List AOp) :
    arunAtol a (x ++ y) = ((arunAtol (arunAtol a x).1 y).1, (arunAtol a x).2 ++ (arunAtol (arunAtol a x).1 y).2) := by
  induction x generalizing a with
  | nil => simp [arunAtol]
  | cons op x ih => simp [arunAtol, ih]

theorem arunAtol_bracket (a x : Rat) (body rest : List AOp) :
    arunAtol a (bracket a x body ++ rest) =
      ((arunAtol a rest).1, .ok :: (arunAtol x body).2 ++ .ok :: (arunAtol a rest).2) := by
  simp only [bracket, List.cons_append, List.append_assoc, arunAtol, astep, arunAtol_append, List.nil_append]

/-! ## interleavings -/

theorem crun_fst_foldl {T : Type} (tbl : Key → T) (ops : List COp) :
    ∀ s : Cache T, (crun tbl s ops).1 = ops.foldl (fun s op => (cstep tbl s op).1) s := by
  induction ops with
  | nil => intro s; rfl
  | cons op ops ih => intro s; simp [crun, ih]

theorem arunAtol_fst_foldl (ops : List AOp) :
    ∀ a : Rat, (arunAtol a ops).1 = ops.foldl (fun a op => (astep a op).1) a := by
  induction ops with
  | nil => intro a; rfl
  | cons op ops ih => intro a; simp [arunAtol, ih]

/-- a component of the state that each call either leaves alone or advances by the component's own step (`sel` says
which) ends where the selected calls alone take it -/
theorem foldl_component {σ τ α β : Type} (step : σ → α → σ) (proj : σ → τ) (sel : α → Option β) (sub : τ → β → τ)
    (hstep : ∀ s a, proj (step s a) = match sel a with | some b => sub (proj s) b | none => proj s)
    (l : List α) (s : σ) : proj (l.foldl step s) = (l.filterMap sel).foldl sub (proj s) := by
  induction l generalizing s with
  | nil => rfl
  | cons a l ih =>
    rw [List.foldl_cons, ih, hstep, List.filterMap_cons]
    cases sel a <;> rfl

end QM.C13
