import QModel.C11
import QProofs.C10
import Mathlib.Analysis.InnerProductSpace.Basic
import Mathlib.Analysis.InnerProductSpace.Dual
import Mathlib.Analysis.Calculus.Gradient.Basic
import Mathlib.Analysis.Calculus.LocalExtr.Basic
import Mathlib.Analysis.SpecialFunctions.Log.Basic
/-! helper lemmas for C11: metric projection via its variational inequality and what it says about the projected-gradient
direction; sums over the model's `lsum`; the line search on a smooth loss; the window potential; Gibbs' inequality -/
namespace QM.C11
open QM.C10
open scoped RealInnerProductSpace

variable {E : Type} [NormedAddCommGroup E] [InnerProductSpace ℝ E]

/-- `P` is the metric projection onto `C`, given by its variational inequality -/
def IsProjOn (P : E → E) (C : Set E) : Prop :=
  ∀ z, P z ∈ C ∧ ∀ w ∈ C, ⟪z - P z, w - P z⟫ ≤ 0

variable {P : E → E} {C : Set E} {mu : ℝ}

theorem IsProjOn.mem (hP : IsProjOn P C) (z : E) : P z ∈ C := (hP z).1

theorem IsProjOn.eq_of_vi (hP : IsProjOn P C) {z x : E} (hx : x ∈ C)
    (h : ∀ w ∈ C, ⟪z - x, w - x⟫ ≤ 0) : P z = x := by
  have h1 := (hP z).2 x hx
  have h2 := h (P z) (hP z).1
  -- the two inequalities add up to `‖x − P z‖² ≤ 0`
  have e : ⟪x - P z, x - P z⟫ = ⟪z - P z, x - P z⟫ + ⟪z - x, P z - x⟫ := by
    rw [← neg_sub x (P z), inner_neg_right, ← sub_eq_add_neg, ← inner_sub_left, sub_sub_sub_cancel_left]
  have h3 : ⟪x - P z, x - P z⟫ ≤ 0 := by rw [e]; linarith
  exact (sub_eq_zero.1 (inner_self_eq_zero.1 (le_antisymm h3 real_inner_self_nonneg))).symm

/-- a point of `C` is fixed by the projection -/
theorem IsProjOn.fix {P : E → E} {C : Set E} (hP : IsProjOn P C) {x : E} (hx : x ∈ C) : P x = x :=
  hP.eq_of_vi hx (fun w _ => by simp)

/-- the model's direction, unfolded at `K = ℝ`, `V = E` -/
theorem pgdbDir_def (P g : E → E) (mu : ℝ) (x : E) : pgdbDir P g mu x = P (x - (1 / mu) • g x) - x := rfl

/-- the variational inequality of `P` at `x − ∇f(x)/μ`, in terms of the direction `y = P(x − ∇f(x)/μ) − x` and scaled by `μ`:
`⟪∇f(x), y⟫ + μ‖y‖² ≤ ⟪∇f(x), w − x⟫ + μ⟪y, w − x⟫` for every `w ∈ C` -/
theorem pgdbDir_vi (hP : IsProjOn P C) (g : E → E) (hmu : 0 < mu) (x : E) {w : E} (hw : w ∈ C) :
    ⟪g x, pgdbDir P g mu x⟫ + mu * ‖pgdbDir P g mu x‖ ^ 2 ≤ ⟪g x, w - x⟫ + mu * ⟪pgdbDir P g mu x, w - x⟫ := by
  have hvi := (hP (x - (1 / mu) • g x)).2 w hw
  set y := pgdbDir P g mu x with hy
  set d := w - x with hd
  have e1 : x - (1 / mu) • g x - P (x - (1 / mu) • g x) = (1 / mu) • (-(g x) - mu • y) := by
    rw [hy, pgdbDir_def, smul_sub, smul_neg, smul_smul, one_div_mul_cancel hmu.ne', one_smul]; abel
  have e2 : w - P (x - (1 / mu) • g x) = d - y := by rw [hy, hd, pgdbDir_def]; abel
  rw [e1, e2, real_inner_smul_left] at hvi
  have h := nonpos_of_mul_nonpos_right hvi (one_div_pos.2 hmu)
  simp only [inner_sub_left, inner_sub_right, inner_neg_left, real_inner_smul_left, real_inner_self_eq_norm_sq] at h
  linarith

theorem fixed_iff_first_order (hP : IsProjOn P C) (g : E → E) (hmu : 0 < mu) {x : E} (hx : x ∈ C) : pgdbDir P g mu x = 0 ↔ ∀ w ∈ C, 0 ≤ ⟪g x, w - x⟫ := by
  constructor
  · intro h w hw
    have hvi := pgdbDir_vi hP g hmu x hw
    rw [h, inner_zero_right, inner_zero_left, norm_zero] at hvi
    linarith
  · intro h
    rw [pgdbDir_def, sub_eq_zero]
    refine hP.eq_of_vi hx fun w hw => ?_
    rw [sub_sub_cancel_left, inner_neg_left, real_inner_smul_left]
    have := mul_nonneg (one_div_pos.2 hmu).le (h w hw)
    linarith

/-- minimiser on a convex set ⇒ first-order condition (Fermat on the tangent cone) -/
theorem first_order_of_min [CompleteSpace E] {f : E → ℝ} {g : E → E} (hC : Convex ℝ C) {x : E} (hx : x ∈ C)
    (hg : HasGradientAt f (g x) x) (hmin : ∀ w ∈ C, f x ≤ f w) : ∀ w ∈ C, 0 ≤ ⟪g x, w - x⟫ := by
  intro w hw
  have hloc : IsLocalMinOn f C x := (show IsMinOn f C x from fun w hw => hmin w hw).localize
  have hfd : HasFDerivWithinAt f (InnerProductSpace.toDual ℝ E (g x)) C x := hg.hasFDerivAt.hasFDerivWithinAt
  have hcone : w - x ∈ posTangentConeAt C x :=
    sub_mem_posTangentConeAt_of_segment_subset (hC.segment_subset hx hw)
  have := hloc.hasFDerivWithinAt_nonneg hfd hcone
  simpa [InnerProductSpace.toDual_apply_apply] using this

section cvx
variable {K : Type} [Field K] [LinearOrder K] [IsStrictOrderedRing K]

theorem lsum_cons' (a : K) (l : List K) : lsum (a :: l) = a + lsum l := rfl

theorem lsum_nonneg' (l : List K) (h : ∀ v ∈ l, 0 ≤ v) : 0 ≤ lsum l := by
  rw [lsum_eq_sum]; exact List.sum_nonneg h

theorem weighted_const_gen (phi : List K × List K → K) (c : K) (l : List (List K × List K)) :
    lsum (((List.replicate l.length c).zip l).map fun (cpq : K × List K × List K) => cpq.1 * phi cpq.2)
      = c * lsum (l.map phi) := by
  induction l with
  | nil => simp [lsum]
  | cons a l ih =>
    rw [List.length_cons, List.replicate_succ, List.zip_cons_cons, List.map_cons, List.map_cons, lsum_cons', lsum_cons', ih]
    ring

/-- equal shot counts: every schedule's weight `N_i / N_total` is `1/S`, which factors out of the weighted objective -/
theorem equal_shots_weighted (phi : List K × List K → K) (n : K) (hn : n ≠ 0) (S : Nat) (ps qs : List (List K))
    (hp : ps.length = S) (hq : qs.length = S) :
    lsum (((numRatios (List.replicate S n)).zip (ps.zip qs)).map fun (cpq : K × List K × List K) => cpq.1 * phi cpq.2)
      = 1 / (S : K) * lsum ((ps.zip qs).map phi) := by
  have hl : (ps.zip qs).length = S := by rw [List.length_zip, hp, hq, min_self]
  have hr : numRatios (List.replicate S n) = List.replicate S (1 / (S : K)) := by
    rw [numRatios, lsum_eq_sum, List.sum_replicate, nsmul_eq_mul, List.map_replicate, div_mul_cancel_right₀ hn, one_div]
  rw [hr, ← hl]
  exact weighted_const_gen phi _ _

end cvx

/-- the line search ends as soon as the tested step size is below a threshold under which every step `≤ 1` is accepted -/
theorem backtrack_terminates_of_threshold (f : E → ℝ) (g : E → E) (dot : E → E → ℝ) (x y : E) (gamma tau : ℝ)
    (hacc : ∀ a, 0 < a → a ≤ tau → a ≤ 1 → isDoingForAlpha f g dot x y a gamma = false) :
    ∀ (fuel : Nat) (a0 : ℝ), 0 < a0 → a0 ≤ 1 → a0 / 2 ^ fuel ≤ tau →
      ∃ a, backtrack f g dot x y gamma (fuel + 1) a0 = some a := by
  intro fuel
  induction fuel with
  | zero =>
    intro a0 h0 h1 h
    have h' : a0 ≤ tau := by simpa using h
    refine ⟨a0, ?_⟩
    unfold backtrack
    rw [hacc a0 h0 h' h1]; simp
  | succ fuel ih =>
    intro a0 h0 h1 h
    unfold backtrack
    by_cases hd : isDoingForAlpha f g dot x y a0 gamma = true
    · rw [if_pos hd, one_add_one_eq_two, one_div_mul_eq_div]
      refine ih (a0 / 2) (half_pos h0) ((half_le_self h0.le).trans h1) ?_
      rw [div_div, ← pow_succ']
      exact h
    · rw [if_neg hd]; exact ⟨a0, rfl⟩

/-- the arithmetic of the sufficient-decrease test: slope `s ≤ −μ n` (`n = ‖y‖²`) and `a L ≤ 2(1−γ)μ` turn the quadratic upper
bound `a s + L/2 · a² n` into the accepted decrease `γ a s` -/
theorem armijo_arith {a Lc mu gamma s n : ℝ} (ha : 0 < a) (hgam1 : gamma < 1) (hn : 0 ≤ n) (hs : s ≤ -mu * n)
    (hle : a * Lc ≤ 2 * (1 - gamma) * mu) : a * s + Lc / 2 * (a ^ 2 * n) ≤ gamma * a * s := by
  have h1 := mul_le_mul_of_nonneg_left hs (mul_nonneg (sub_nonneg.2 hgam1.le) ha.le)
  have h2 := mul_le_mul_of_nonneg_right hle (mul_nonneg ha.le hn)
  linarith

/-- sum of the squared distances between consecutive entries of a history -/
noncomputable def sumSqSteps : List E → ℝ
  | a :: b :: t => ‖a - b‖ ^ 2 + sumSqSteps (b :: t)
  | _ => 0

/-- every step of the history is at least `eps` long -/
def AllStepsGe (eps : ℝ) : List E → Prop
  | a :: b :: t => eps ≤ ‖a - b‖ ∧ AllStepsGe eps (b :: t)
  | _ => True

theorem sumSqSteps_nonneg : ∀ l : List E, 0 ≤ sumSqSteps l
  | [] => le_refl _
  | [_] => le_refl _
  | _ :: b :: t => add_nonneg (sq_nonneg _) (sumSqSteps_nonneg (b :: t))

theorem count_le_sumSq {eps : ℝ} (heps : 0 ≤ eps) : ∀ l : List E, AllStepsGe eps l →
    ((l.length - 1 : Nat) : ℝ) * eps ^ 2 ≤ sumSqSteps l
  | [], _ => by simp [sumSqSteps]
  | [_], _ => by simp [sumSqSteps]
  | a :: b :: t, h => by
    have ih := count_le_sumSq heps (b :: t) h.2
    have hsq : eps ^ 2 ≤ ‖a - b‖ ^ 2 := pow_le_pow_left₀ heps h.1 2
    simp only [sumSqSteps, List.length_cons, Nat.add_sub_cancel, Nat.cast_succ] at ih ⊢
    linarith

/-- sum over the history (newest first) of the squared projected-gradient residuals at the points the steps were taken from -/
noncomputable def sumSqResiduals (P g : E → E) (mu : ℝ) : List E → ℝ
  | _ :: a :: t => ‖pgdbDir P g mu a‖ ^ 2 + sumSqResiduals P g mu (a :: t)
  | _ => 0

/-- every step of the history was taken from a point whose residual is at least `eps` -/
def AllResidualsGe (P g : E → E) (mu eps : ℝ) : List E → Prop
  | _ :: a :: t => eps ≤ ‖pgdbDir P g mu a‖ ∧ AllResidualsGe P g mu eps (a :: t)
  | _ => True

theorem count_le_sumSqResiduals (P g : E → E) (mu : ℝ) {eps : ℝ} (heps : 0 ≤ eps) : ∀ l : List E, AllResidualsGe P g mu eps l →
    ((l.length - 1 : Nat) : ℝ) * eps ^ 2 ≤ sumSqResiduals P g mu l
  | [], _ => by simp [sumSqResiduals]
  | [_], _ => by simp [sumSqResiduals]
  | b :: a :: t, h => by
    have ih := count_le_sumSqResiduals P g mu heps (a :: t) h.2
    have hsq : eps ^ 2 ≤ ‖pgdbDir P g mu a‖ ^ 2 := pow_le_pow_left₀ heps h.1 2
    simp only [sumSqResiduals, List.length_cons, Nat.add_sub_cancel, Nat.cast_succ] at ih ⊢
    linarith

/-! ## windows > 1: a potential that decreases by the window sum -/

/-- weighted tail potential over the error values, most recent first: `m·e₁ + (m−1)·e₂ + …` -/
def pot : Nat → List ℝ → ℝ
  | 0, _ => 0
  | _, [] => 0
  | m + 1, e :: t => ((m : ℝ) + 1) * e + pot m t

theorem pot_nil (m : Nat) : pot m [] = 0 := by cases m <;> rfl

theorem pot_nonneg : ∀ (m : Nat) (r : List ℝ), (∀ v ∈ r, 0 ≤ v) → 0 ≤ pot m r
  | 0, _, _ => le_refl _
  | _ + 1, [], _ => le_refl _
  | m + 1, e :: t, h => by
    have h1 := pot_nonneg m t (List.forall_mem_cons.1 h).2
    have h2 := (List.forall_mem_cons.1 h).1
    simp only [pot]
    positivity

theorem pot_succ_sub : ∀ (m : Nat) (r : List ℝ), pot (m + 1) r = pot m r + lsum (r.take (m + 1))
  | m, [] => by rw [pot_nil, pot_nil]; exact (add_zero _).symm
  | 0, e :: t => by simp [pot, lsum]
  | m + 1, e :: t => by
    have ih := pot_succ_sub m t
    simp only [pot, List.take_succ_cons, lsum_cons'] at ih ⊢
    rw [ih]
    push_cast
    ring

/-- one more entry `c` in front, while the tracked value drops from `a` to `a' ≤ a − c`: the potential `(m+1)·a + pot m r`
drops by the sum of the window of the `m + 1` most recent entries -/
theorem pot_cons_le (m : Nat) (r : List ℝ) {a a' c : ℝ} (h : a' ≤ a - c) :
    ((m : ℝ) + 1) * a' + pot m (c :: r) + lsum ((c :: r).take (m + 1)) ≤ ((m : ℝ) + 1) * a + pot m r := by
  have h1 : pot m (c :: r) + lsum ((c :: r).take (m + 1)) = ((m : ℝ) + 1) * c + pot m r := (pot_succ_sub m (c :: r)).symm
  have h2 := mul_le_mul_of_nonneg_left h (add_nonneg m.cast_nonneg zero_le_one)
  linarith

theorem windowSum_eq_take_reverse (l : List ℝ) (n : Nat) : windowSum l n = lsum (l.reverse.take n) := by
  unfold windowSum
  rw [List.take_reverse, lsum_eq_sum, lsum_eq_sum, List.sum_reverse]
  have : l.length - min l.length n = l.length - n := by omega
  rw [this]

theorem windowSum_concat (errs : List ℝ) (e : ℝ) (m : Nat) :
    windowSum (errs ++ [e]) (m + 1) = e + lsum (errs.reverse.take m) := by
  rw [windowSum_eq_take_reverse, List.reverse_append, List.reverse_singleton, List.singleton_append, List.take_succ_cons,
    lsum_cons']

theorem isDoing_iff (l : List ℝ) (n : Nat) (eps : ℝ) : isDoing l n eps = true ↔ eps < lsum (l.reverse.take n) := by
  rw [isDoing, decide_eq_true_iff, windowSum_eq_take_reverse]

/-- Cauchy–Schwarz for the window: `(Σ a)² ≤ length · Σ a²` -/
theorem sq_lsum_le : ∀ l : List ℝ, (lsum l) ^ 2 ≤ (l.length : ℝ) * lsum (l.map (· ^ 2))
  | [] => by simp [lsum]
  | a :: l => by
    have ih := sq_lsum_le l
    simp only [List.map_cons, lsum_cons', List.length_cons, Nat.cast_succ]
    -- `2 a S ≤ k a² + S²/k ≤ k a² + Q`, from `(k a − S)² ≥ 0` (`k` the length of `l`, `S`, `Q` its sum and sum of squares)
    rcases Nat.eq_zero_or_pos l.length with h0 | hpos
    · rw [List.length_eq_zero_iff.1 h0]; simp [lsum]
    · have hk : (0 : ℝ) < (l.length : ℝ) := Nat.cast_pos.2 hpos
      have h2 : 2 * a * lsum l ≤ (l.length : ℝ) * a ^ 2 + lsum (l.map (· ^ 2)) := by
        refine le_of_mul_le_mul_left ?_ hk
        linarith [sq_nonneg ((l.length : ℝ) * a - lsum l)]
      linarith

/-- a window of `n ≥ 1` error values summing to more than `eps ≥ 0` has `κ`-weighted squares summing to at least `κ eps² / n` -/
theorem window_sq_le {kappa eps : ℝ} (hk : 0 ≤ kappa) (heps : 0 ≤ eps) {n : Nat} (hn : 1 ≤ n) (l : List ℝ)
    (h : eps < lsum (l.take n)) : kappa * eps ^ 2 / n ≤ lsum ((l.map fun e => kappa * e ^ 2).take n) := by
  have hn0 : (0 : ℝ) < n := Nat.cast_pos.2 hn
  have hCS := sq_lsum_le (l.take n)
  have hlen : ((l.take n).length : ℝ) ≤ n := Nat.cast_le.2 (List.length_take_le n l)
  have hQ : 0 ≤ lsum ((l.take n).map (· ^ 2)) :=
    lsum_nonneg' _ fun v hv => by obtain ⟨w, _, rfl⟩ := List.mem_map.1 hv; exact sq_nonneg w
  have hsq : eps ^ 2 < lsum (l.take n) ^ 2 := pow_lt_pow_left₀ h heps two_ne_zero
  rw [← List.map_take, lsum_eq_sum, List.sum_map_mul_left, ← lsum_eq_sum, mul_div_assoc]
  refine mul_le_mul_of_nonneg_left ((div_le_iff₀ hn0).2 ?_) hk
  have := mul_le_mul_of_nonneg_right hlen hQ
  linarith

/-! ## Gibbs' inequality for `relEnt` -/

/-- one outcome: `q (log q − log p) ≥ q − p` when `p > 0` wherever `q > 0` -/
theorem relEnt_term_ge (a b : ℝ) (ha : 0 ≤ a) (hb : 0 ≤ b) (hab : 0 < b → 0 < a) :
    b - a ≤ (if (0 : ℝ) < b then b * Real.log b - b * Real.log a else 0) := by
  split_ifs with h
  · have ha' := hab h
    have hl := Real.log_le_sub_one_of_pos (div_pos ha' h)
    rw [Real.log_div ha'.ne' h.ne'] at hl
    have := mul_le_mul_of_nonneg_left hl h.le
    rw [mul_sub b (a / b), mul_div_cancel₀ a h.ne', mul_one] at this
    linarith
  · have : b = 0 := le_antisymm (not_lt.1 h) hb
    linarith

theorem relEnt_ge : ∀ (p q : List ℝ), p.length = q.length →
    (∀ ab ∈ p.zip q, 0 ≤ ab.1 ∧ 0 ≤ ab.2 ∧ ((0 : ℝ) < ab.2 → 0 < ab.1)) → lsum q - lsum p ≤ relEnt Real.log 0 p q
  | [], [], _, _ => by simp [relEnt, lsum]
  | [], _ :: _, h, _ => by simp at h
  | _ :: _, [], h, _ => by simp at h
  | a :: p, b :: q, h, hall => by
    have ih := relEnt_ge p q (by simpa using h) (fun ab hab => hall ab (by simp [hab]))
    obtain ⟨ha, hb, hab⟩ := hall (a, b) (by simp)
    have ht := relEnt_term_ge a b ha hb hab
    unfold relEnt at *
    simp only [List.zip_cons_cons, List.map_cons, lsum_cons']
    linarith

theorem relEnt_self : ∀ q : List ℝ, relEnt Real.log 0 q q = 0
  | [] => by simp [relEnt, lsum]
  | b :: q => by
    have ih := relEnt_self q
    unfold relEnt at *
    simp only [List.zip_cons_cons, List.map_cons, lsum_cons', ih]
    split_ifs <;> ring

end QM.C11
