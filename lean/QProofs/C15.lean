import QModel.C15
import Mathlib.Tactic.Ring
import Mathlib.LinearAlgebra.Matrix.PosDef
import Mathlib.Analysis.RCLike.Basic
/-!
# C15 — helper lemmas: loops over repetitions, lookup in result maps, batches, the check's quantifier structure
-/
namespace QM.C15

/-! ## repetition loop -/
section loop
variable {S G D : Type}

theorem loopS_gen (P : Prng S G D) (glob : G) (n : Nat) :
    ∀ g : G, loopS P n (.gen g) glob
      = ((List.range n).map (fun k => (P.draw (advance P k g)).1), .gen (advance P n g), glob) := by
  induction n with
  | zero => intro g; rfl
  | succ n ih =>
      intro g
      simp only [loopS, rep, ih, List.range_succ_eq_map, List.map_cons, List.map_map]
      rfl

theorem loopS_none (P : Prng S G D) (n : Nat) :
    ∀ glob : G, loopS P n .none glob
      = ((List.range n).map (fun k => (P.draw (advance P k glob)).1), .none, advance P n glob) := by
  induction n with
  | zero => intro g; rfl
  | succ n ih =>
      intro g
      simp only [loopS, rep, ih, List.range_succ_eq_map, List.map_cons, List.map_map]
      rfl

theorem loopS_int (P : Prng S G D) (s : S) (glob : G) (n : Nat) :
    loopS P n (.int s) glob = (List.replicate n (P.draw (P.ofSeed s)).1, .int s, glob) := by
  induction n with
  | zero => rfl
  | succ n ih => simp [loopS, rep, ih, List.replicate_succ]

end loop

/-! ## result maps -/

theorem lookup_execute {R : Type} (task : Nat → R) (sched : List Nat) (j : Nat) :
    (execute task sched).lookup j = if j ∈ sched then some (task j) else none := by
  induction sched with
  | nil => simp [execute]
  | cons i r ih =>
      simp only [execute, List.map_cons, List.lookup_cons, List.mem_cons] at ih ⊢
      by_cases h : j = i
      · subst h; simp
      · have : (j == i) = false := by simpa using h
        simp [this, h, ih]

theorem runBatch_pure {R St : Type} (task : Nat → St → R × St) (s0 : St)
    (hp : ∀ i s s', (task i s).1 = (task i s').1) (sched : List Nat) :
    ∀ s, runBatch task s sched = execute (fun i => (task i s0).1) sched := by
  induction sched with
  | nil => intro s; rfl
  | cons i r ih =>
      intro s
      simp only [runBatch, execute, List.map_cons]
      rw [ih]; simp [execute, hp i s s0]

theorem runBatches_pure {R St : Type} (task : Nat → St → R × St) (s0 : St)
    (hp : ∀ i s s', (task i s).1 = (task i s').1) (batches : List (List Nat)) :
    runBatches task s0 batches = execute (fun i => (task i s0).1) batches.flatten := by
  unfold runBatches
  induction batches with
  | nil => rfl
  | cons b bs ih =>
      simp only [List.map_cons, List.flatten_cons, ih, runBatch_pure task s0 hp b s0]
      simp [execute]

theorem lookup_runBatch_pure {R St : Type} (task : Nat → St → R × St) (s0 : St)
    (hp : ∀ i s s', (task i s).1 = (task i s').1) (sched : List Nat) (s : St) (i : Nat) (hi : i ∈ sched) :
    (runBatch task s sched).lookup i = some (task i s0).1 := by
  rw [runBatch_pure task s0 hp sched s, lookup_execute, if_pos hi]

theorem storedEstimates_pure {D E St : Type} (est : D → St → E × St) (s0 : St)
    (hp : ∀ d s s', (est d s).1 = (est d s').1) (ds : List D) :
    ∀ s, storedEstimates est s ds = ds.map fun d => (est d s0).1 := by
  induction ds with
  | nil => intro s; rfl
  | cons d ds ih => intro s; simp [storedEstimates, ih, hp d s s0]

/-! ## the check's quantifier structure -/

/-- the comprehension over the results raises on a result with too few estimates and is a conjunction otherwise -/
theorem rowsPass_eq (f : Verdict → Bool) (k : Nat) (rs : List (List Verdict)) :
    rowsPass f k rs = if rs.all (k < ·.length) then some (rs.all fun r => r[k]?.all f) else none := by
  induction rs with
  | nil => rfl
  | cons r rs ih =>
    rw [rowsPass, ih, List.all_cons, List.all_cons]
    by_cases hk : k < r.length
    · rw [List.getElem?_eq_getElem hk, decide_eq_true hk]
      cases rs.all (k < ·.length) <;> rfl
    · rw [List.getElem?_eq_none (Nat.le_of_not_lt hk), decide_eq_false hk]; rfl

theorem allPassFrom_eq (f : Verdict → Bool) (rs : List (List Verdict)) (ks : List Nat) :
    allPassFrom f rs ks = if ks.all (fun k => rs.all (k < ·.length))
      then some (ks.all fun k => rs.all fun r => r[k]?.all f) else none := by
  induction ks with
  | nil => rfl
  | cons k ks ih =>
    rw [allPassFrom, ih, rowsPass_eq, List.all_cons, List.all_cons]
    cases rs.all (k < ·.length) <;> cases ks.all (fun k => rs.all (k < ·.length)) <;> rfl

theorem all_take {α : Type} (f : α → Bool) (r : List α) (n : Nat) :
    (r.take n).all f = (List.range n).all fun k => r[k]?.all f := by
  induction r generalizing n with
  | nil => rw [List.take_nil]; exact (List.all_eq_true.2 fun _ _ => rfl).symm
  | cons x r ih =>
    cases n with
    | zero => rfl
    | succ n => rw [List.take_succ_cons, List.all_cons, ih, List.range_succ_eq_map, List.all_cons, List.all_map]; rfl

/-- the column-wise loops raise when some result holds fewer estimates than there are sample sizes, and otherwise test the
first `nNum` estimates of every result -/
theorem allPass_eq (f : Verdict → Bool) (nNum : Nat) (rs : List (List Verdict)) :
    allPass f nNum rs = if rs.all (nNum ≤ ·.length) then some (rs.all fun r => (r.take nNum).all f) else none := by
  have hc : (List.range nNum).all (fun k => rs.all (k < ·.length)) = rs.all (nNum ≤ ·.length) := by
    rw [Bool.eq_iff_iff]
    simp only [List.all_eq_true, List.mem_range, decide_eq_true_eq]
    exact ⟨fun h r hr => Nat.le_of_not_lt fun hlt => Nat.lt_irrefl _ (h _ hlt r hr),
      fun h k hk r hr => Nat.lt_of_lt_of_le hk (h r hr)⟩
  have hv : (List.range nNum).all (fun k => rs.all fun r => r[k]?.all f) = rs.all fun r => (r.take nNum).all f := by
    rw [Bool.eq_iff_iff]
    simp only [all_take, List.all_eq_true]
    exact ⟨fun h r hr k hk => h k hk r hr, fun h k hk r hr => h r hr k hk⟩
  rw [allPass, allPassFrom_eq, hc, hv]

theorem all_all_and {α β : Type} (t : β → List α) (f g : α → Bool) (rs : List β) :
    (rs.all fun r => (t r).all fun v => f v && g v) = (rs.all (fun r => (t r).all f) && rs.all fun r => (t r).all g) := by
  rw [Bool.eq_iff_iff]
  simp only [List.all_eq_true, Bool.and_eq_true, forall_and]

/-- the check proper: when the estimator enforces a constraint, a result with fewer estimates than sample sizes raises;
otherwise the verdict is the conjunction, over the first `nNum` estimates of every result, of the tests the estimator enforces -/
theorem violationCheckCore_eq (kind : EstKind) (para : Bool) (nNum : Nat) (rs : List (List Verdict)) :
    violationCheckCore kind para nNum rs =
      if !(enforcesEq kind para || enforcesIneq kind) || rs.all (nNum ≤ ·.length) then
        some (rs.all fun r => (r.take nNum).all fun v =>
          (!enforcesEq kind para || v.eqOK) && (!enforcesIneq kind || v.ineqOK))
      else none := by
  cases hc : rs.all (nNum ≤ ·.length) <;> cases kind with
  | lossMin o =>
      rcases o with _ | ⟨_ | _, _ | _⟩ <;>
        simp [violationCheckCore, enforcesEq, enforcesIneq, allPass_eq, hc, ← all_all_and]
  | _ => cases para <;> simp [violationCheckCore, enforcesEq, enforcesIneq, allPass_eq, hc]

theorem violationCheck_of_ne_nil (kind : EstKind) (para : Bool) (nNum : Nat) {results : List (List Verdict)}
    (hne : results ≠ []) : violationCheck kind para nNum results = violationCheckCore kind para nNum results := by
  cases results with
  | nil => exact absurd rfl hne
  | cons r rs => rfl

/-- with one estimate per sample size in every result, the check is the conjunction, over all stored estimates, of the
tests the estimator enforces -/
theorem violationCheckCore_of_length (kind : EstKind) (para : Bool) (nNum : Nat) (rs : List (List Verdict))
    (hlen : ∀ r ∈ rs, r.length = nNum) :
    violationCheckCore kind para nNum rs = some (rs.all fun r => r.all fun v =>
      (!enforcesEq kind para || v.eqOK) && (!enforcesIneq kind || v.ineqOK)) := by
  rw [violationCheckCore_eq, List.all_eq_true.2 fun r hr => decide_eq_true (hlen r hr).ge, Bool.or_true, if_pos rfl]
  congr 1
  rw [Bool.eq_iff_iff, List.all_eq_true, List.all_eq_true]
  exact forall₂_congr fun r hr => by rw [List.take_of_length_le (hlen r hr).le]

/-! ## depolarising noise over a commutative ring -/
section depol
variable {K : Type} [CommRing K]

theorem depolDiag_length (n : Nat) (p : K) : (depolDiag n p).length = n := by simp [depolDiag]

end depol

end QM.C15
