import Mathlib.Analysis.Matrix.Order
import Mathlib.Analysis.Matrix.PosDef
/-! PSD toolbox: trace of a product of PSD matrices is non-negative; eigenvalue clipping satisfies the
variational inequality of the metric projection onto the PSD cone (Frobenius norm). -/
open Matrix
namespace QM.Psd
open scoped MatrixOrder ComplexOrder

variable {n : Type*} [Fintype n] [DecidableEq n] {𝕜 : Type*} [RCLike 𝕜]

lemma psd_trace_mul_nonneg {A B : Matrix n n 𝕜} (hA : A.PosSemidef) (hB : B.PosSemidef) :
    0 ≤ (A * B).trace := by
  -- `B = Cᴴ C`, so `tr (A B) = tr (C A Cᴴ)`
  obtain ⟨C, rfl⟩ := CStarAlgebra.nonneg_iff_eq_star_mul_self.mp hB.nonneg
  rw [← Matrix.mul_assoc, Matrix.trace_mul_comm, ← Matrix.mul_assoc]
  exact (hA.mul_mul_conjTranspose_same C).trace_nonneg

/-- clipped reconstruction -/
noncomputable def clip (U : Matrix n n 𝕜) (d : n → ℝ) : Matrix n n 𝕜 :=
  U * diagonal (fun i => ((max (d i) 0 : ℝ) : 𝕜)) * Uᴴ

lemma conj_diag_psd (U : Matrix n n 𝕜) (e : n → ℝ) (he : ∀ i, 0 ≤ e i) :
    (U * diagonal (fun i => ((e i : ℝ) : 𝕜)) * Uᴴ).PosSemidef :=
  (PosSemidef.diagonal fun i => RCLike.ofReal_nonneg.2 (he i)).mul_mul_conjTranspose_same U

/-- conjugates of diagonal matrices by an isometry multiply entrywise -/
lemma conj_diag_mul (U : Matrix n n 𝕜) (hU : Uᴴ * U = 1) (e f : n → 𝕜) :
    U * diagonal e * Uᴴ * (U * diagonal f * Uᴴ) = U * diagonal (fun i => e i * f i) * Uᴴ := by
  rw [← diagonal_mul_diagonal, Matrix.mul_assoc (U * diagonal e), ← Matrix.mul_assoc Uᴴ, ← Matrix.mul_assoc Uᴴ, hU,
    Matrix.one_mul, ← Matrix.mul_assoc, Matrix.mul_assoc U]

theorem clip_vi (U : Matrix n n 𝕜) (hU : Uᴴ * U = 1) (d : n → ℝ) (A : Matrix n n 𝕜)
    (hA : A = U * diagonal (fun i => ((d i : ℝ) : 𝕜)) * Uᴴ)
    {X : Matrix n n 𝕜} (hX : X.PosSemidef) :
    ((A - clip U d) * (X - clip U d)).trace ≤ 0 := by
  -- `A - clip U d = -N` with `N` the PSD matrix built from the negative parts of the eigenvalues, and `N * clip U d = 0`
  set N : Matrix n n 𝕜 := U * diagonal (fun i => ((max (- d i) 0 : ℝ) : 𝕜)) * Uᴴ with hN
  have hAP : A - clip U d = -N := by
    rw [hA, clip, hN, ← Matrix.sub_mul, ← Matrix.mul_sub, ← Matrix.neg_mul, ← Matrix.mul_neg, diagonal_sub, diagonal_neg]
    congr 3
    funext i
    rw [← RCLike.ofReal_sub, ← RCLike.ofReal_neg]
    congr 1
    linarith [max_zero_sub_max_neg_zero_eq_self (d i)]
  have hNP : N * clip U d = 0 := by
    rw [hN, clip, conj_diag_mul U hU]
    have hz : (fun i => ((max (- d i) 0 : ℝ) : 𝕜) * ((max (d i) 0 : ℝ) : 𝕜)) = fun _ => 0 := by
      funext i
      rw [← RCLike.ofReal_mul, RCLike.ofReal_eq_zero]
      rcases le_total (d i) 0 with h0 | h0
      · rw [max_eq_right h0, mul_zero]
      · rw [max_eq_right (neg_nonpos.mpr h0), zero_mul]
    rw [hz, diagonal_zero, Matrix.mul_zero, Matrix.zero_mul]
  rw [hAP, Matrix.mul_sub, Matrix.neg_mul, Matrix.neg_mul, hNP, neg_zero, sub_zero, Matrix.trace_neg]
  exact neg_nonpos.mpr (psd_trace_mul_nonneg (conj_diag_psd U _ fun i => le_max_right _ _) hX)
end QM.Psd
