import QModel.C09
import QProofs.C08
import QProofs.Bridge
import Mathlib.LinearAlgebra.Matrix.NonsingularInverse
import Mathlib.LinearAlgebra.Matrix.DotProduct
import Mathlib.LinearAlgebra.Matrix.Rank
import Mathlib.Algebra.Order.BigOperators.Group.Finset
import Mathlib.Algebra.Order.Field.Basic
import Mathlib.Tactic.Ring
import Mathlib.Tactic.Linarith
/-!
# helper lemmas for C09: least squares through the normal equations, at the level of Mathlib matrices
-/
open Matrix
namespace QM.C09

section field
variable {K : Type} [Field K] {m n : Nat}

theorem m_assoc (G : Matrix (Fin n) (Fin n) K) (A : Matrix (Fin m) (Fin n) K) (x : Fin m → K) :
    (G * Aᵀ) *ᵥ x = G *ᵥ (Aᵀ *ᵥ x) := by
  rw [Matrix.mulVec_mulVec]

/-- the Gram matrix `AᵀA` whose inverse the estimator asks numpy for -/
def gram (A : Matrix (Fin m) (Fin n) K) : Matrix (Fin n) (Fin n) K := Aᵀ * A

/-- exact data through an inexact inverse: the error is `(G·AᵀA − 1)·v₀` -/
theorem m_exact_err (G : Matrix (Fin n) (Fin n) K) (A : Matrix (Fin m) (Fin n) K)
    (b : Fin m → K) (v0 : Fin n → K) :
    (G * Aᵀ) *ᵥ ((A *ᵥ v0 + b) - b) - v0 = (G * gram A - 1) *ᵥ v0 := by
  rw [gram, add_sub_cancel_right, Matrix.mulVec_mulVec, Matrix.mul_assoc, Matrix.sub_mulVec, Matrix.one_mulVec]

/-- prediction residual `A v + b − f` of a variable vector, on Mathlib matrices -/
def mres (A : Matrix (Fin m) (Fin n) K) (b f : Fin m → K) (v : Fin n → K) : Fin m → K := A *ᵥ v + b - f

theorem mres_eq (A : Matrix (Fin m) (Fin n) K) (b f : Fin m → K) (v : Fin n → K) :
    mres A b f v = A *ᵥ v - (f - b) := by
  rw [mres, add_sub_assoc, ← neg_sub f b, ← sub_eq_add_neg]

theorem mres_sub (A : Matrix (Fin m) (Fin n) K) (b f : Fin m → K) (v w : Fin n → K) :
    mres A b f w = mres A b f v + A *ᵥ (w - v) := by
  rw [mres_eq, mres_eq, Matrix.mulVec_sub]
  abel

/-- arbitrary data through an inexact inverse: the normal-equation residual is `((AᵀA)·G − 1)·Aᵀ(f − b)` -/
theorem m_normal_err (G : Matrix (Fin n) (Fin n) K) (A : Matrix (Fin m) (Fin n) K)
    (b f : Fin m → K) :
    Aᵀ *ᵥ mres A b f ((G * Aᵀ) *ᵥ (f - b)) = (gram A * G - 1) *ᵥ (Aᵀ *ᵥ (f - b)) := by
  rw [gram, mres_eq, Matrix.mulVec_sub, Matrix.sub_mulVec, Matrix.one_mulVec, Matrix.mulVec_mulVec,
    Matrix.mulVec_mulVec, Matrix.mulVec_mulVec, Matrix.mul_assoc, Matrix.mul_assoc, Matrix.mul_assoc]

/-- distance of any `v` to the coded estimate in terms of its normal-equation residual -/
theorem m_dist {G : Matrix (Fin n) (Fin n) K} {A : Matrix (Fin m) (Fin n) K}
    (h : G * gram A = 1) (b f : Fin m → K) (v : Fin n → K) :
    v - (G * Aᵀ) *ᵥ (f - b) = G *ᵥ (Aᵀ *ᵥ mres A b f v) := by
  rw [gram] at h
  rw [mres_eq, Matrix.mulVec_sub (A := Aᵀ), Matrix.mulVec_sub (A := G), Matrix.mulVec_mulVec,
    Matrix.mulVec_mulVec, Matrix.mulVec_mulVec, Matrix.mul_assoc, h, Matrix.one_mulVec]

/-- the contract forces `A` to be injective (full column rank) -/
theorem m_injective {G : Matrix (Fin n) (Fin n) K} {A : Matrix (Fin m) (Fin n) K}
    (h : G * gram A = 1) (d : Fin n → K) (hd : A *ᵥ d = 0) : d = 0 := by
  rw [gram] at h
  rw [← Matrix.one_mulVec d, ← h, ← Matrix.mul_assoc, ← Matrix.mulVec_mulVec, hd, Matrix.mulVec_zero]

/-- the squared residual at `w` expanded around `v`; the cross term is the normal-equation residual at `v` -/
theorem m_expand (A : Matrix (Fin m) (Fin n) K) (b f : Fin m → K) (v w : Fin n → K) :
    mres A b f w ⬝ᵥ mres A b f w =
      mres A b f v ⬝ᵥ mres A b f v + 2 * ((Aᵀ *ᵥ mres A b f v) ⬝ᵥ (w - v))
        + (A *ᵥ (w - v)) ⬝ᵥ (A *ᵥ (w - v)) := by
  rw [mres_sub A b f v w, Matrix.mulVec_transpose, ← Matrix.dotProduct_mulVec, add_dotProduct, dotProduct_add,
    dotProduct_add, dotProduct_comm (A *ᵥ (w - v))]
  ring

end field

section ordered
variable {K : Type} [Field K] [LinearOrder K] [IsStrictOrderedRing K] {m n : Nat}

theorem dot_self_nonneg (x : Fin m → K) : 0 ≤ x ⬝ᵥ x :=
  Finset.sum_nonneg fun i _ => mul_self_nonneg (x i)

theorem abs_dot_le (g d : Fin n → K) (tol : K) (hg : ∀ i, |g i| ≤ tol) :
    |g ⬝ᵥ d| ≤ tol * ∑ i, |d i| := by
  rw [Finset.mul_sum]
  refine (Finset.abs_sum_le_sum_abs _ _).trans (Finset.sum_le_sum fun i _ => ?_)
  rw [abs_mul]
  exact mul_le_mul_of_nonneg_right (hg i) (abs_nonneg _)

/-- approximate normal equations ⇒ approximate optimality (exact when `tol = 0`) -/
theorem m_lsq_tol (A : Matrix (Fin m) (Fin n) K) (b f : Fin m → K) (v : Fin n → K) (tol : K)
    (hg : ∀ i, |(Aᵀ *ᵥ mres A b f v) i| ≤ tol) (w : Fin n → K) :
    mres A b f v ⬝ᵥ mres A b f v ≤ mres A b f w ⬝ᵥ mres A b f w + 2 * tol * ∑ i, |(w - v) i| := by
  rw [m_expand A b f v w]
  have h1 := neg_le_of_abs_le (abs_dot_le _ (w - v) tol hg)
  have h2 := dot_self_nonneg (A *ᵥ (w - v))
  linarith

theorem m_lsq (A : Matrix (Fin m) (Fin n) K) (b f : Fin m → K) (v : Fin n → K)
    (hv : Aᵀ *ᵥ mres A b f v = 0) (w : Fin n → K) :
    mres A b f v ⬝ᵥ mres A b f v ≤ mres A b f w ⬝ᵥ mres A b f w := by
  rw [m_expand A b f v w, hv, zero_dotProduct, mul_zero, add_zero]
  exact le_add_of_nonneg_right (dot_self_nonneg _)

/-- the minimiser is unique when `A` is injective -/
theorem m_lsq_unique {G : Matrix (Fin n) (Fin n) K} {A : Matrix (Fin m) (Fin n) K}
    (h : G * gram A = 1) (b f : Fin m → K) (v : Fin n → K) (hv : Aᵀ *ᵥ mres A b f v = 0)
    (w : Fin n → K) (hw : mres A b f w ⬝ᵥ mres A b f w ≤ mres A b f v ⬝ᵥ mres A b f v) : w = v := by
  rw [m_expand A b f v w, hv, zero_dotProduct, mul_zero, add_zero, add_le_iff_nonpos_right] at hw
  exact sub_eq_zero.1 (m_injective h _
    (dotProduct_self_eq_zero.1 (le_antisymm hw (dot_self_nonneg _))))

end ordered

section plumbing
variable {K : Type}

theorem map_snd_counts (ds : List (Nat × List K)) (g : Nat → Nat) :
    (ds.map fun d => (g d.1, d.2)).map (·.2) = ds.map (·.2) := by
  simp [List.map_map, Function.comp_def]

end plumbing

/-- contract of `np.linalg.inv(A.T @ A)`: the value `G` handed to the model is a left inverse of `AᵀA` -/
def Contract {K : Type} [Field K] {m n : Nat} (G : Mat K n n) (A : Mat K m n) : Prop :=
  G.mul (A.transpose.mul A) = Mat.one

theorem Contract.toM {K : Type} [Field K] {m n : Nat} {G : Mat K n n} {A : Mat K m n}
    (h : Contract G A) : G.toM * gram A.toM = 1 := by
  rw [gram, ← Mat.toM_transpose, ← Mat.toM_mul, ← Mat.toM_mul, show G.mul _ = _ from h, Mat.toM_one]

/-- squared Euclidean norm of the prediction residual, as executed -/
def sqRes {K : Type} [Add K] [Mul K] [Sub K] [Zero K] {m n : Nat}
    (A : Mat K m n) (b f : Vec K m) (v : Vec K n) : K :=
  (residual A b f v).dot (residual A b f v)

theorem toV_residual {K : Type} [Field K] {m n : Nat} (A : Mat K m n) (b f : Vec K m) (v : Vec K n) :
    Vec.toV (residual A b f v) = mres A.toM (Vec.toV b) (Vec.toV f) (Vec.toV v) := by
  rw [residual, Vec.toV_sub, Vec.toV_add, Mat.toV_mulVec, mres]

theorem toV_normalResidual {K : Type} [Field K] {m n : Nat} (A : Mat K m n) (b f : Vec K m)
    (v : Vec K n) :
    Vec.toV (normalResidual A b f v) = A.toMᵀ *ᵥ mres A.toM (Vec.toV b) (Vec.toV f) (Vec.toV v) := by
  rw [normalResidual, Mat.toV_mulVec, Mat.toM_transpose, toV_residual]

theorem toV_estOne {K : Type} [Field K] {m n : Nat} (G : Mat K n n) (A : Mat K m n) (b f : Vec K m) :
    Vec.toV (estOne (aDdag G A) b f) = (G.toM * A.toMᵀ) *ᵥ (Vec.toV f - Vec.toV b) := by
  rw [estOne, aDdag, Mat.toV_mulVec, Mat.toM_mul, Mat.toM_transpose, Vec.toV_sub]

/-- under the contract the coded estimate solves the normal equations -/
theorem normal_estOne {K : Type} [Field K] {m n : Nat} {G : Mat K n n} {A : Mat K m n} (h : Contract G A)
    (b f : Vec K m) :
    A.toMᵀ *ᵥ mres A.toM (Vec.toV b) (Vec.toV f) (Vec.toV (estOne (aDdag G A) b f)) = 0 := by
  rw [toV_estOne, m_normal_err, mul_eq_one_comm.1 h.toM, sub_self, Matrix.zero_mulVec]

theorem sqRes_eq {K : Type} [Field K] {m n : Nat} (A : Mat K m n) (b f : Vec K m) (v : Vec K n) :
    sqRes A b f v = mres A.toM (Vec.toV b) (Vec.toV f) (Vec.toV v) ⬝ᵥ
      mres A.toM (Vec.toV b) (Vec.toV f) (Vec.toV v) := by
  rw [sqRes, Vec.dot_eq, toV_residual]

/-- the part of `estData` that reads the data: only the arrays, never the counts -/
def estArr {K : Type} [Add K] [Mul K] [Sub K] [Zero K] {m n : Nat} (Ad : Mat K n m) (b : Vec K m)
    (arrs : List (List K)) : Except Err (Vec K n) := do
  let flat ← concatArrays arrs
  let f ← toDataVec m flat
  pure (estOne Ad b f)

theorem lsqCert_iff {K : Type} [Field K] [LinearOrder K] [IsStrictOrderedRing K] [DecidableLE K]
    {m n : Nat} (A : Mat K m n) (b f : Vec K m) (v : Vec K n) (tol : K) :
    lsqCert A b f v tol = true ↔ ∀ i, |Vec.toV (normalResidual A b f v) i| ≤ tol := by
  simp only [lsqCert, List.all_eq_true, List.mem_finRange, true_implies, Bool.and_eq_true,
    decide_eq_true_eq, abs_le, Vec.toV]

end QM.C09

/-! ## bridge to the C08 forward model (lists) -/
namespace QM.C09
open QM.C08
variable {K : Type} {mm nn : Nat}

/-- rows of an executable matrix as lists -/
def rowsOf (A : Mat K mm nn) : List (List K) := A.toList.map Vector.toList

theorem zipWith_mul_eq [Mul K] (l : List K) (v : Vec K nn) (h : l.length = nn) :
    List.zipWith (· * ·) l v.toList = (List.finRange nn).map fun k => l[k.val]'(by rw [h]; exact k.isLt) * v.get k := by
  apply List.ext_getElem
  · simp [h]
  · intro i h1 h2
    simp [Vec.get]

theorem mulVec_toList [Add K] [Mul K] [Zero K] (A : Mat K mm nn) (v : Vec K nn) :
    (A.mulVec v).toList = (rowsOf A).map fun row => ldot row v.toList := by
  apply List.ext_getElem
  · simp [rowsOf]
  · intro i h1 h2
    have hi : i < mm := by simpa using h1
    simp only [rowsOf, List.getElem_map, Vector.getElem_toList, Mat.mulVec, Vec.ofFn, Vector.getElem_ofFn,
      fsum, ldot]
    rw [zipWith_mul_eq (A[i]).toList v (by simp)]
    congr 2

theorem add_toList [Add K] (u w : Vec K mm) :
    (u.add w).toList = List.zipWith (· + ·) u.toList w.toList := by
  apply List.ext_getElem
  · simp
  · intro i h1 h2
    simp [Vec.add, Vec.ofFn, Vec.get]

theorem predictRaw_eq [Add K] [Mul K] [Zero K] (cs : List (Coeff K)) (v : List K) :
    predictRaw cs v = List.zipWith (· + ·) ((matA cs).map fun row => ldot row v) (vecB cs) := by
  simp only [predictRaw, matA, vecB, List.map_map, List.zipWith_map_left, List.zipWith_map_right]
  apply List.ext_getElem
  · simp
  · intro i h1 h2
    simp

/-- the forward model as executed by C09 (`A v + b` on vectors) is the C08 prediction `matA @ var + vecB` -/
theorem forward_toList [Add K] [Mul K] [Zero K] (cs : List (Coeff K)) (A : Mat K mm nn) (b : Vec K mm)
    (hA : rowsOf A = matA cs) (hb : b.toList = vecB cs) (v : Vec K nn) :
    ((A.mulVec v).add b).toList = predictRaw cs v.toList := by
  rw [add_toList, mulVec_toList, hA, hb, predictRaw_eq]

/-- a data vector that lists the C08 prediction for `v` is `A v + b` -/
theorem eq_forward_of_toList [Add K] [Mul K] [Zero K] (cs : List (Coeff K)) (A : Mat K mm nn) (b : Vec K mm)
    (hA : rowsOf A = matA cs) (hb : b.toList = vecB cs) (v : Vec K nn) (f : Vec K mm)
    (hf : f.toList = predictRaw cs v.toList) : f = (A.mulVec v).add b :=
  Vector.toList_inj.1 (hf.trans (forward_toList cs A b hA hb v).symm)

end QM.C09

/-! ## rank: what the contract forces, and when a left inverse of `AᵀA` exists -/
namespace QM.C09
variable {K : Type} {m n : Nat}

theorem m_contract_rank [Field K] {G : Matrix (Fin n) (Fin n) K} {A : Matrix (Fin m) (Fin n) K}
    (h : G * gram A = 1) : A.rank = n ∧ n ≤ m := by
  have h2 := (Matrix.rank_mul_le_right G (gram A)).trans (Matrix.rank_mul_le_right Aᵀ A)
  rw [h, Matrix.rank_one, Fintype.card_fin] at h2
  exact ⟨le_antisymm (Matrix.rank_le_width A) h2, h2.trans (Matrix.rank_le_height A)⟩

/-- full column rank = trivial kernel (rank–nullity) -/
theorem m_rank_eq_iff [Field K] (A : Matrix (Fin m) (Fin n) K) :
    A.rank = n ↔ ∀ d, A *ᵥ d = 0 → d = 0 := by
  have hrn := LinearMap.finrank_range_add_finrank_ker A.mulVecLin
  rw [Module.finrank_fintype_fun_eq_card, Fintype.card_fin] at hrn
  have hk : LinearMap.ker A.mulVecLin = ⊥ ↔ ∀ d, A *ᵥ d = 0 → d = 0 := LinearMap.ker_eq_bot'
  rw [← hk, ← Submodule.finrank_eq_zero, Matrix.rank]
  omega

theorem m_contract_exists [Field K] [LinearOrder K] [IsStrictOrderedRing K] (A : Matrix (Fin m) (Fin n) K)
    (hinj : ∀ d, A *ᵥ d = 0 → d = 0) : ∃ G : Matrix (Fin n) (Fin n) K, G * gram A = 1 := by
  -- `AᵀA` has the kernel of `A` (ordered field), so it is injective, hence a unit
  have hM : Function.Injective (gram A).mulVec := by
    rw [← Matrix.coe_mulVecLin, ← LinearMap.ker_eq_bot, gram, Matrix.ker_mulVecLin_transpose_mul_self]
    exact LinearMap.ker_eq_bot'.2 hinj
  obtain ⟨u, hu⟩ := Matrix.mulVec_injective_iff_isUnit.1 hM
  exact ⟨(↑u⁻¹ : Matrix (Fin n) (Fin n) K), by rw [← hu]; exact Units.inv_mul u⟩

/-- a Mathlib left inverse of `AᵀA` as an executable matrix satisfying the contract -/
theorem contract_of_matrix [Field K] (A : Mat K m n) (Gm : Matrix (Fin n) (Fin n) K)
    (h : Gm * gram A.toM = 1) : Contract (Mat.ofFn fun i j => Gm i j) A := by
  apply Mat.toM_injective
  rw [Mat.toM_mul, Mat.toM_mul, Mat.toM_transpose, Mat.toM_ofFn, Mat.toM_one]
  exact h

end QM.C09
