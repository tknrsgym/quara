import QModel.C12
import QGen.C12
import QProofs.Bridge
import Mathlib.Tactic.Ring
import Mathlib.Tactic.Abel
import Mathlib.Tactic.FieldSimp
import Mathlib.Tactic.Linarith
import Mathlib.Algebra.BigOperators.Ring.Finset
import Mathlib.Data.Matrix.Basic
import Mathlib.Data.Matrix.Mul
import Mathlib.Analysis.SpecialFunctions.Log.Deriv
/-! helper lemmas for C12: quadratic expansion of the weighted squared error, block-diagonal weights, the common shape of the
relative-entropy kernels, extended weights of the fast relative entropy; then the interpreter of the generated mode table and
call order, and the definitions the statements of QProps/C12.lean use -/
open Matrix
namespace QM.C12
open QM

section quad
variable {K : Type} [Field K] {m nv : Nat}

/-- the weight actually applied: the matrix, or the identity when there is none -/
def wmat (W : Option (Mat K m m)) : Matrix (Fin m) (Fin m) K :=
  match W with
  | some W => W.toM
  | none => 1

theorem bil_eq (W : Option (Mat K m m)) (a b : Vec K m) :
    bil W a b = a.toV ⬝ᵥ (wmat W *ᵥ b.toV) := by
  cases W with
  | none => rw [wmat, Matrix.one_mulVec]; exact Vec.dot_eq a b
  | some W => rw [wmat, ← Mat.toV_mulVec]; exact Vec.dot_eq a _

theorem resid_toV (s : Sched K m nv) (x : Vec K nv) :
    (resid s x).toV = s.A.toM *ᵥ x.toV + s.b.toV - s.q.toV := by
  rw [resid, Vec.toV_sub, Vec.toV_add, Mat.toV_mulVec]

theorem resid_add (s : Sched K m nv) (x h : Vec K nv) :
    (resid s (x.add h)).toV = (resid s x).toV + s.A.toM *ᵥ h.toV := by
  simp only [resid_toV, Vec.toV_add, Matrix.mulVec_add]
  abel

theorem gradP_toV (s : Sched K m nv) (α : Fin nv) : (gradP s α).toV = fun i => s.A.toM i α := by
  funext i; simp [gradP, Vec.toV]

theorem sym_swap (M : Matrix (Fin m) (Fin m) K) (hM : Mᵀ = M) (u v : Fin m → K) :
    u ⬝ᵥ (M *ᵥ v) = v ⬝ᵥ (M *ᵥ u) := by
  rw [Matrix.dotProduct_mulVec, ← Matrix.mulVec_transpose, hM, dotProduct_comm]

theorem quad_expand (M : Matrix (Fin m) (Fin m) K) (hM : Mᵀ = M) (r d : Fin m → K) :
    (r + d) ⬝ᵥ (M *ᵥ (r + d)) = r ⬝ᵥ (M *ᵥ r) + 2 * (d ⬝ᵥ (M *ᵥ r)) + d ⬝ᵥ (M *ᵥ d) := by
  simp only [Matrix.mulVec_add, add_dotProduct, dotProduct_add]
  rw [sym_swap M hM r d]
  ring

theorem sum_col (A : Matrix (Fin m) (Fin nv) K) (h : Fin nv → K) (u : Fin m → K) :
    ∑ α, h α * ((fun i => A i α) ⬝ᵥ u) = (A *ᵥ h) ⬝ᵥ u := by
  rw [← Matrix.vecMul_transpose, ← Matrix.dotProduct_mulVec]
  rfl

theorem sum_col2 (A : Matrix (Fin m) (Fin nv) K) (M : Matrix (Fin m) (Fin m) K) (hM : Mᵀ = M)
    (h : Fin nv → K) :
    ∑ α, ∑ β, h α * h β * ((fun i => A i α) ⬝ᵥ (M *ᵥ fun j => A j β))
      = (A *ᵥ h) ⬝ᵥ (M *ᵥ (A *ᵥ h)) := by
  have inner : ∀ α, ∑ β, h α * h β * ((fun i => A i α) ⬝ᵥ (M *ᵥ fun j => A j β))
      = h α * ((fun i => A i α) ⬝ᵥ (M *ᵥ (A *ᵥ h))) := by
    intro α
    rw [sym_swap M hM (fun i => A i α) (A *ᵥ h), ← sum_col A h, Finset.mul_sum]
    refine Finset.sum_congr rfl fun β _ => ?_
    rw [sym_swap M hM (fun i => A i α) (fun j => A j β)]
    ring
  simp only [inner]
  exact sum_col A h _

/-- exact second-order expansion of one schedule's term -/
theorem sched_taylor (s : Sched K m nv) (W : Option (Mat K m m)) (hW : (wmat W)ᵀ = wmat W)
    (x h : Vec K nv) :
    bil W (resid s (x.add h)) (resid s (x.add h))
      = bil W (resid s x) (resid s x)
        + 2 * ∑ α, h.get α * bil W (gradP s α) (resid s x)
        + ∑ α, ∑ β, h.get α * h.get β *
            (bil W (gradP s α) (gradP s β) + bil W Vec.zero (resid s x)) := by
  simp only [bil_eq, resid_add, gradP_toV, Vec.toV_zero, zero_dotProduct, add_zero]
  rw [quad_expand _ hW]
  have e1 := sum_col s.A.toM h.toV (wmat W *ᵥ (resid s x).toV)
  have e2 := sum_col2 s.A.toM (wmat W) hW h.toV
  simp only [Vec.toV] at e1 e2 ⊢
  rw [e1, e2]

end quad

section sums
variable {K : Type} [Field K] {m nv : Nat}

/-- schedules paired with the weight the code looks up for them; `none` = IndexError -/
def resolve (Ws : Option (List (Mat K m m))) :
    List (Sched K m nv) → Nat → Option (List (Sched K m nv × Option (Mat K m m)))
  | [], _ => some []
  | s :: r, j =>
    match weightAt Ws j with
    | none => none
    | some W => (resolve Ws r (j + 1)).map fun l => (s, W) :: l

theorem sumSched_go_eq (Ws : Option (List (Mat K m m)))
    (f : Sched K m nv → Option (Mat K m m) → K) (ss : List (Sched K m nv)) (j : Nat) :
    sumSched.go Ws f ss j =
      match resolve Ws ss j with
      | none => .error .index
      | some l => .ok (l.map fun p => f p.1 p.2).sum := by
  induction ss generalizing j with
  | nil => simp [sumSched.go, resolve]
  | cons s r ih =>
    simp only [sumSched.go, resolve]
    cases hw : weightAt Ws j with
    | none => rfl
    | some W =>
      simp only [ih (j + 1)]
      cases hr : resolve Ws r (j + 1) with
      | none => rfl
      | some l => simp [bind, Except.bind]

theorem sumSched_of_resolve {Ws : Option (List (Mat K m m))} {ss : List (Sched K m nv)}
    {l : List (Sched K m nv × Option (Mat K m m))} (hl : resolve Ws ss 0 = some l)
    (f : Sched K m nv → Option (Mat K m m) → K) :
    sumSched ss Ws f = .ok (l.map fun p => f p.1 p.2).sum := by
  rw [sumSched, sumSched_go_eq, hl]

/-- a second-order expansion that holds term by term holds for the sums -/
theorem taylor_sum {ι : Type} (l : List ι) (h : Fin nv → K) (v0 v1 : ι → K) (g : ι → Fin nv → K)
    (H : ι → Fin nv → Fin nv → K)
    (hl : ∀ p ∈ l, v1 p = v0 p + 2 * ∑ α, h α * g p α + ∑ α, ∑ β, h α * h β * H p α β) :
    (l.map v1).sum = (l.map v0).sum + 2 * ∑ α, h α * (l.map fun p => g p α).sum
      + ∑ α, ∑ β, h α * h β * (l.map fun p => H p α β).sum := by
  induction l with
  | nil => simp only [List.map_nil, List.sum_nil, mul_zero, Finset.sum_const_zero, add_zero]
  | cons p r ih =>
    simp only [List.map_cons, List.sum_cons]
    obtain ⟨hp, hr⟩ := List.forall_mem_cons.mp hl
    rw [hp, ih hr]
    simp only [mul_add, Finset.sum_add_distrib]
    ring

/-- the shape in which the code reports gradient (`2·`) and Hessian (`2·`, used with `½`) -/
theorem taylor_form [CharZero K] (v0 : K) (h g : Fin nv → K) (H : Fin nv → Fin nv → K) :
    v0 + 2 * ∑ α, h α * g α + ∑ α, ∑ β, h α * h β * H α β
      = v0 + ∑ α, (2 * g α) * h α + (1 / 2) * ∑ α, ∑ β, h α * (2 * H α β) * h β := by
  rw [Finset.mul_sum, Finset.mul_sum, add_assoc, add_assoc]
  refine congrArg (v0 + ·) (congrArg₂ (· + ·) (Finset.sum_congr rfl fun α _ => by ring) ?_)
  refine Finset.sum_congr rfl fun α _ => ?_
  rw [Finset.mul_sum]
  exact Finset.sum_congr rfl fun β _ => by ring

end sums

section blocks
variable {K : Type} [Field K] {m : Nat}

theorem catEntry_lt (v : Vec K m) (r : List (Vec K m)) (i : Nat) (h : i < m) :
    catEntry (v :: r) i = v.get ⟨i, h⟩ := by
  simp [catEntry, h]

theorem catEntry_ge (v : Vec K m) (r : List (Vec K m)) (i : Nat) :
    catEntry (v :: r) (m + i) = catEntry r i := by
  simp [catEntry]

theorem blockEntry_cons (W : Mat K m m) (r : List (Mat K m m)) (i j : Nat) :
    blockEntry (W :: r) i j =
      if h : i < m ∧ j < m then W.get ⟨i, h.1⟩ ⟨j, h.2⟩
      else if m ≤ i ∧ m ≤ j then blockEntry r (i - m) (j - m) else 0 := by
  rw [blockEntry]

/-- `Σ_j a_j · b_j` over the blocks -/
def dotBlocks : List (Vec K m) → List (Vec K m) → K
  | a :: as, b :: bs => a.dot b + dotBlocks as bs
  | _, _ => 0

/-- a sum over `(n+1)·m` stacked indices: the first block, then the rest -/
theorem fsum_succ_mul (F : Nat → K) (n : Nat) :
    fsum ((n + 1) * m) (fun j => F j.val)
      = fsum m (fun j => F j.val) + fsum (n * m) (fun j => F (m + j.val)) := by
  rw [fsum_eq_sum, fsum_eq_sum, fsum_eq_sum, Fin.sum_univ_eq_sum_range, Fin.sum_univ_eq_sum_range,
    Fin.sum_univ_eq_sum_range fun j => F (m + j), Nat.succ_mul, Nat.add_comm, Finset.sum_range_add]

/-- the stacked `a · b` is the sum of the blocks' dot products -/
theorem bilFlat_none_cat (as bs : List (Vec K m)) (h : as.length = bs.length) :
    bilFlat (as.length * m) none (catEntry as) (catEntry bs) = dotBlocks as bs := by
  induction as generalizing bs with
  | nil =>
    obtain rfl : bs = [] := List.length_eq_zero_iff.mp h.symm
    rw [List.length_nil, Nat.zero_mul]; rfl
  | cons a as ih =>
    obtain _ | ⟨b, bs⟩ := bs
    · cases h
    · rw [List.length_cons, bilFlat, fsum_succ_mul fun i => catEntry (a :: as) i * catEntry (b :: bs) i, dotBlocks,
        ← ih bs (Nat.succ.inj h)]
      simp only [catEntry_ge, catEntry_lt _ _ _ (Fin.isLt _)]
      rfl

/-- `np.block(diag W)` applied to a stacked vector acts block by block -/
theorem blockEntry_mulVec (Ws : List (Mat K m m)) (bs : List (Vec K m)) (i : Nat) :
    fsum (Ws.length * m) (fun j => blockEntry Ws i j.val * catEntry bs j.val)
      = catEntry (List.zipWith Mat.mulVec Ws bs) i := by
  induction Ws generalizing bs i with
  | nil => rw [List.length_nil, Nat.zero_mul]; rfl
  | cons W Ws ih =>
    obtain _ | ⟨b, bs⟩ := bs
    · simp only [catEntry, mul_zero, List.zipWith_nil_right, fsum_eq_sum, Finset.sum_const_zero]
    · rw [List.length_cons, fsum_succ_mul fun j => blockEntry (W :: Ws) i j * catEntry (b :: bs) j,
        List.zipWith_cons_cons]
      simp only [catEntry_ge, catEntry_lt _ _ _ (Fin.isLt _), blockEntry_cons]
      by_cases hi : i < m
      · -- row in the first block: the columns of the other blocks hold zeros
        simp only [hi, Fin.isLt, and_self, dif_pos, catEntry_lt _ _ _ hi, not_le.mpr hi, false_and, if_false,
          show ∀ j, ¬ (m + j < m) from fun j => by omega, and_false, dif_neg, not_false_eq_true, zero_mul,
          fsum_eq_sum, Finset.sum_const_zero, add_zero]
        simp only [Mat.mulVec, Vec.get_ofFn, fsum_eq_sum]
      · have hi' : m ≤ i := not_lt.mp hi
        simp only [hi, false_and, dif_neg, not_false_eq_true, hi', true_and,
          show ∀ j : Fin m, ¬ m ≤ j.val from fun j => by omega, if_false, zero_mul, fsum_eq_sum,
          Finset.sum_const_zero, zero_add, Nat.le_add_right, if_true, Nat.add_sub_cancel_left]
        rw [← fsum_eq_sum, ih, catEntry, dif_neg hi]

/-- `vec · (np.block(diag W) vec)` over the stacked vectors = `Σ_j vec_j · (W_j vec_j)` -/
theorem bilFlat_block (as bs : List (Vec K m)) (Ws : List (Mat K m m))
    (h1 : as.length = Ws.length) (h2 : bs.length = Ws.length) :
    bilFlat (Ws.length * m) (some (blockEntry Ws)) (catEntry as) (catEntry bs)
      = dotBlocks as (List.zipWith Mat.mulVec Ws bs) := by
  rw [bilFlat]
  simp only [blockEntry_mulVec]
  rw [← h1]
  exact bilFlat_none_cat as _ (by rw [List.length_zipWith, h1, h2, min_self])

end blocks
section noweights
variable {K : Type} [Field K] {m nv : Nat}

theorem resolve_none (ss : List (Sched K m nv)) (j : Nat) :
    resolve (none : Option (List (Mat K m m))) ss j = some (ss.map fun s => (s, none)) := by
  induction ss generalizing j with
  | nil => rfl
  | cons s r ih => rw [resolve, ih (j + 1)]; rfl

theorem map_sum_eq_dotBlocks (f g : Sched K m nv → Vec K m) (ss : List (Sched K m nv)) :
    ((ss.map fun s => (s, (none : Option (Mat K m m)))).map fun p => bil p.2 (f p.1) (g p.1)).sum
      = dotBlocks (ss.map f) (ss.map g) := by
  induction ss with
  | nil => rfl
  | cons s r ih =>
    simp only [List.map_cons, List.sum_cons, dotBlocks]
    rw [ih]
    rfl

end noweights
section kernels
variable {K : Type} [Field K]

/-- `Σ_i f q_i p_i x_i` over three lists read in step (up to the shortest): the shape of every relative-entropy kernel -/
def sum3 (f : K → K → K → K) : List K → List K → List K → K
  | q :: qs, p :: ps, x :: xs => f q p x + sum3 f qs ps xs
  | _, _, _ => 0

theorem sum3_congr {f g : K → K → K → K} (qs ps xs : List K) (h : ∀ q ∈ qs, ∀ p x, f q p x = g q p x) :
    sum3 f qs ps xs = sum3 g qs ps xs := by
  fun_induction sum3 f qs ps xs with
  | case1 q qs p ps x xs ih =>
    obtain ⟨hq, hr⟩ := List.forall_mem_cons.mp h
    rw [sum3, hq, ih hr]
  | case2 qs ps xs hn => rw [sum3]; exact hn

theorem sum3_map {α : Type} (f : K → K → K → K) (a b c : α → K) (l : List α) :
    sum3 f (l.map a) (l.map b) (l.map c) = (l.map fun x => f (a x) (b x) (c x)).sum := by
  induction l with
  | nil => rfl
  | cons x r ih => simp only [List.map_cons, sum3, List.sum_cons, ih]

variable (f : K → K → K → K) (qs ps : List K)

theorem sum3_add (hf : ∀ q p x y, f q p (x + y) = f q p x + f q p y) (g1 g2 : List K)
    (h : g1.length = g2.length) :
    sum3 f qs ps (List.zipWith (· + ·) g1 g2) = sum3 f qs ps g1 + sum3 f qs ps g2 := by
  induction g1 generalizing qs ps g2 with
  | nil =>
    obtain rfl : g2 = [] := List.length_eq_zero_iff.mp h.symm
    simp [sum3]
  | cons a g1 ih =>
    obtain _ | ⟨b, g2⟩ := g2
    · simp at h
    · obtain _ | ⟨q, qs⟩ := qs
      · simp [sum3]
      · obtain _ | ⟨p, ps⟩ := ps
        · simp [sum3]
        · simp only [List.zipWith_cons_cons, sum3, hf, ih qs ps g2 (Nat.succ.inj h)]
          ring

theorem sum3_smul (c : K) (hf : ∀ q p x, f q p (c * x) = c * f q p x) (g : List K) :
    sum3 f qs ps (g.map (c * ·)) = c * sum3 f qs ps g := by
  fun_induction sum3 f qs ps g with
  | case1 q qs p ps x xs ih => rw [List.map_cons, sum3, hf, ih, mul_add]
  | case2 qs ps xs hn =>
    rw [sum3, mul_zero]
    intro q qs' p ps' x xs' h1 h2 h3
    obtain _ | ⟨y, ys⟩ := xs
    · cases h3
    · exact hn q qs' p ps' y ys h1 h2 rfl

end kernels

section kernelShapes
variable {K : Type} [Field K] [LinearOrder K] (epsq epsp : K) (qs ps xs : List K)

theorem relEnt_eq_sum3 :
    relEnt epsq epsp qs ps xs = sum3 (fun q _ l => if epsq ≤ q then roundVarz q epsq * l else 0) qs ps xs := by
  fun_induction relEnt epsq epsp qs ps xs with
  | case1 q qs p ps l ls ih => rw [sum3, ih]
  | case2 qs ps ls h => rw [sum3]; exact h

theorem relEntVec_eq_sum3 :
    relEntVec epsq epsp qs ps xs = sum3 (fun q _ l => truncQ q epsq * l) qs ps xs := by
  fun_induction relEntVec epsq epsp qs ps xs with
  | case1 q qs p ps l ls ih => rw [sum3, ih]
  | case2 qs ps ls h => rw [sum3]; exact h

theorem relEntGrad_eq_sum3 :
    relEntGrad epsq epsp qs ps xs
      = sum3 (fun q p g => if epsq ≤ q then -q * g / roundVarz p epsp else 0) qs ps xs := by
  fun_induction relEntGrad epsq epsp qs ps xs with
  | case1 q qs p ps g gs ih => rw [sum3, ih]
  | case2 qs ps gs h => rw [sum3]; exact h

theorem relEntGradVec_eq_sum3 :
    relEntGradVec epsq epsp qs ps xs
      = sum3 (fun q p g => -(truncQ q epsq) / roundVarz p epsp * g) qs ps xs := by
  fun_induction relEntGradVec epsq epsp qs ps xs with
  | case1 q qs p ps g gs ih => rw [sum3, ih]
  | case2 qs ps gs h => rw [sum3]; exact h

theorem relEntHess_map {α : Type} (q p a b : α → K) (l : List α) :
    relEntHess epsq epsp (l.map q) (l.map p) (l.map a) (l.map b)
      = (l.map fun x => if epsq ≤ q x then -q x * 0 / roundVarz (p x) epsp
          + q x / (roundVarz (p x) epsp * roundVarz (p x) epsp) * (a x * b x) else 0).sum := by
  induction l with
  | nil => rfl
  | cons x r ih => simp only [List.map_cons, relEntHess, List.sum_cons, ih]

end kernelShapes
section wreHelpers
variable {K : Type} [Field K]

/-- `_calc_extend_weights`: every weight repeated once per outcome of its schedule -/
def extendW (w : List K) (lens : List Nat) : List K := (w.zip lens).flatMap fun (a, n) => List.replicate n a

theorem lsum_append (a b : List K) : lsum (a ++ b) = lsum a + lsum b := by
  rw [lsum_eq_sum, lsum_eq_sum, lsum_eq_sum, List.sum_append]

theorem lsum_flatten (ts : List (List K)) : lsum ts.flatten = lsum (ts.map lsum) := by
  induction ts with
  | nil => rfl
  | cons t r ih => rw [List.flatten_cons, lsum_append, ih]; simp [lsum]

theorem lsum_replicate_zip (a : K) (t : List K) :
    lsum (((List.replicate t.length a).zip t).map fun (x, y) => x * y) = a * lsum t := by
  induction t with
  | nil => simp [lsum]
  | cons y t ih =>
    simp only [List.length_cons, List.replicate_succ, List.zip_cons_cons, List.map_cons]
    simp only [lsum, List.foldr_cons] at ih ⊢
    rw [ih]; ring

theorem extendW_cons (a : K) (w : List K) (n : Nat) (lens : List Nat) :
    extendW (a :: w) (n :: lens) = List.replicate n a ++ extendW w lens := rfl

theorem extendW_length (w : List K) (ts : List (List K)) (h : w.length = ts.length) :
    (extendW w (ts.map List.length)).length = ts.flatten.length := by
  induction w generalizing ts with
  | nil => cases ts <;> simp_all [extendW]
  | cons a w ih =>
    cases ts with
    | nil => simp at h
    | cons t r =>
      rw [List.map_cons, extendW_cons, List.length_append, List.length_replicate, ih r (Nat.succ.inj h),
        List.flatten_cons, List.length_append]

theorem extend_dot (w : List K) (ts : List (List K)) (h : w.length = ts.length) :
    lsum (((extendW w (ts.map List.length)).zip ts.flatten).map fun (x, y) => x * y)
      = lsum ((w.zip (ts.map lsum)).map fun (x, y) => x * y) := by
  induction w generalizing ts with
  | nil => cases ts <;> simp_all [extendW, lsum]
  | cons a w ih =>
    cases ts with
    | nil => simp at h
    | cons t r =>
      rw [List.map_cons, extendW_cons, List.flatten_cons, List.zip_append (List.length_replicate ..), List.map_append,
        lsum_append, lsum_replicate_zip, ih r (Nat.succ.inj h)]
      rfl

end wreHelpers

theorem ok_bind {ε α β : Type} (a : α) (f : α → Except ε β) : (Except.ok a >>= f) = f a := rfl

theorem bind_ok {ε α : Type} (x : Except ε α) : (x >>= fun a => Except.ok a) = x := bind_pure x

theorem exists_ok_ite {ε α : Type} {c : Prop} [Decidable c] {a : α} {e : ε} :
    (∃ b, (if c then Except.ok a else Except.error e) = .ok b) ↔ c := by
  by_cases h : c
  · simp only [h, iff_true]
    exact ⟨a, rfl⟩
  · simp only [h, iff_false]
    exact fun ⟨_, hb⟩ => nomatch hb

/-! ## interpretation of the GENERATED mode table / call order (QGen.C12) over the state records -/
section generated
variable {K : Type} [Add K] [Sub K] [Mul K] [Div K] [Zero K] [One K] [LT K] [DecidableLT K] [NatCast K] {m : Nat}

/-- the argument a generated branch hands to the setter -/
def interpBranch (opt : Opt K m) (G : List (Mat K (m - 1) (m - 1))) :
    QGen.C12.Branch → Option (List (Mat K m m))
  | .reset => none
  | .optionWeights => opt.weights
  | .invCov _ => some (invCovWeights G)

/-- one call of the generated wiring list on the fast loss's weighting state; an unknown method is an error -/
def stepFast (atol : K) (opt : Opt K m) (grad : Bool) (G : List (Mat K (m - 1) (m - 1)))
    (call : String × String) (st : FastWse K m) : Except Err (FastWse K m) :=
  let active := call.2 = "always" || (call.2 = "grad" && grad)
  if call.1 = "set_func_prob_dists_from_standard_qt" || call.1 = "set_func_gradient_prob_dists_from_standard_qt" then
    (if active then calcExt st else .ok st)
  else if call.1 = "set_from_option" || call.1 = "set_prob_dists_q"
      || call.1 = "set_func_hessian_prob_dists_from_standard_qt" then .ok st
  else if call.1 = "_set_weights_by_mode" then
    match QGen.C12.wseBranch (modeName opt.mode) with
    | none => .ok st
    | some b =>
      let w := interpBranch opt G b
      if validWs atol w then setWeightsFast st w else .error .notSymmetric
  else .error .shape

def interpFast (atol : K) (opt : Opt K m) (grad : Bool) (G : List (Mat K (m - 1) (m - 1))) :
    List (String × String) → FastWse K m → Except Err (FastWse K m)
  | [], st => .ok st
  | c :: r, st => do
    let st' ← stepFast atol opt grad G c st
    interpFast atol opt grad G r st'

/-- the branch the hand-written model implements for each handled mode -/
def expectedBranch : Mode → QGen.C12.Branch
  | .identity => .reset | .custom => .optionWeights | .invSample => .invCov false | .invUnbiased => .invCov true
  | .unbiasedInv => .invCov true

end generated
/-! ## definitions used in the statements of QProps/C12.lean (QProps holds theorems only) -/

section statementDefs
variable {K : Type} [Field K] [LinearOrder K] {m nv : Nat}

/-- every weight matrix in force is symmetric (the constructor / setter validate `is_hermitian`) -/
def SymWeights (l : List (Sched K m nv × Option (Mat K m m))) : Prop :=
  ∀ p ∈ l, (wmat p.2)ᵀ = wmat p.2

/-- the weight matrices a mode string stands for: none (identity weights) for `identity`, the option's for
`custom`, the symmetrised inverse-covariance matrices for the covariance modes -/
def modeWeights (opt : Opt K m) (G : List (Mat K (m - 1) (m - 1))) : Option (List (Mat K m m)) :=
  match opt.mode with
  | .identity => none
  | .custom => opt.weights
  | .invSample | .invUnbiased | .unbiasedInv => some (G.map invCovWeight)

/-- one outcome along a line: data `q`, probability `p`, gradient component `g = ∂_α p`, direction `d = (A h)_i` -/
structure Pt where
  q : ℝ
  p : ℝ
  g : ℝ
  d : ℝ

def qsOf (l : List Pt) : List ℝ := l.map (·.q)
def psAt (l : List Pt) (t : ℝ) : List ℝ := l.map fun x => x.p + t * x.d
def gsOf (l : List Pt) : List ℝ := l.map (·.g)
def dsOf (l : List Pt) : List ℝ := l.map (·.d)
/-- numpy's `log` values as the kernel receives them: `Real.log` of the clipped ratio -/
noncomputable def logsAt (epsq epsp : ℝ) (l : List Pt) (t : ℝ) : List ℝ :=
  l.map fun x => Real.log (logArg x.q (x.p + t * x.d) epsq epsp)

/-- one outcome away from the clipping thresholds at parameter `t` -/
def Away (epsq epsp : ℝ) (x : Pt) (t : ℝ) : Prop :=
  0 < x.q ∧ epsq ≤ x.q ∧ 0 < x.p + t * x.d ∧ epsp < x.p + t * x.d ∧ epsp < x.q / (x.p + t * x.d)

/-- away from the clipping thresholds at parameter `t` -/
def AwayAt (epsq epsp : ℝ) (l : List Pt) (t : ℝ) : Prop :=
  ∀ x ∈ l, 0 < x.q ∧ epsq ≤ x.q ∧ 0 < x.p + t * x.d ∧ epsp < x.p + t * x.d ∧ epsp < x.q / (x.p + t * x.d)

/-- the model's relative-entropy kernel with `np.log = Real.log`, along the line `p(t) = p + t d` -/
noncomputable def valueAt (epsq epsp : ℝ) (l : List Pt) (t : ℝ) : ℝ :=
  relEnt epsq epsp (qsOf l) (psAt l t) (logsAt epsq epsp l t)

/-- one outcome's term of the model's `relative_entropy` kernel as a function of the predicted probability -/
noncomputable def termAt (epsq epsp q : ℝ) (p : ℝ) : ℝ :=
  relEnt epsq epsp [q] [p] [Real.log (logArg q p epsq epsp)]

/-- every outcome is either skipped by the kernel (`q < eps_q`, e.g. an exactly-zero empirical entry) or away from
all clipping thresholds -/
def AwayOrSkipped (epsq epsp : ℝ) (l : List Pt) (t : ℝ) : Prop :=
  ∀ x ∈ l, x.q < epsq ∨
    (0 < x.q ∧ epsq ≤ x.q ∧ 0 < x.p + t * x.d ∧ epsp < x.p + t * x.d ∧ epsp < x.q / (x.p + t * x.d))

noncomputable def kept (epsq : ℝ) (l : List Pt) : List Pt := l.filter fun x => decide (epsq ≤ x.q)

/-- value of the WEIGHTED relative-entropy loss along a line: `Σ_j w_j · (kernel value of schedule j)`; `scheds` pairs each schedule's
weight with its outcomes -/
noncomputable def lossAt (epsq epsp : ℝ) (scheds : List (ℝ × List Pt)) (t : ℝ) : ℝ :=
  (scheds.map fun s => s.1 * valueAt epsq epsp s.2 t).sum


/-- `Σ_α h_α · column_α` of a list of (coefficient, column) pairs, all columns of length `n` -/
def lincomb (n : Nat) : List (K × List K) → List K
  | [] => List.replicate n 0
  | (c, col) :: r => List.zipWith (· + ·) (col.map (c * ·)) (lincomb n r)


end statementDefs
end QM.C12
