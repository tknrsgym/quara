import QModel.C03
import Mathlib.Tactic.Ring
import Mathlib.Algebra.Ring.Defs
/-!
# C03 — helper lemmas

The four object types share three facts, each proved once in variables: floor division by `n` is a bijection
`[0, n·b) → [0, b) × [0, n)` (the GENERATED index maps are this map, shifted past the implied entries; a measurement
process is `m` blocks laid out as gates); `reshape` of a flattened regular array gives the array back (the conversions per
flag on such input); the implied entries are a block inserted into / deleted from the variable vector, whose sum over
strided slices responds to a perturbation of one variable in one entry. Then the prefix-sum layout of SetQOperations.
-/
open QGen.C03
namespace QM.C03
variable {K : Type}

/-! ## floor division: `i ↦ (i fdiv n, i fmod n)` is a bijection `[0, n·b) → [0, b) × [0, n)` -/
theorem lin_lt (n q r b : Int) (hn : 0 < n) (hr : r < n) (h : q < b) : n * q + r < n * b := by
  have := Int.mul_le_mul_of_nonneg_left (Int.add_one_le_of_lt h) (Int.le_of_lt hn)
  rw [Int.mul_add, Int.mul_one] at this
  omega

theorem divmod_v2o (n b i : Int) (hn : 0 < n) (h0 : 0 ≤ i) (h : i < n * b) :
    (0 ≤ i.fdiv n ∧ i.fdiv n < b) ∧ (0 ≤ i.fmod n ∧ i.fmod n < n) ∧ n * i.fdiv n + i.fmod n = i := by
  rw [Int.fdiv_eq_ediv_of_nonneg _ (Int.le_of_lt hn), Int.fmod_eq_emod_of_nonneg _ (Int.le_of_lt hn)]
  exact ⟨⟨Int.ediv_nonneg h0 (Int.le_of_lt hn), Int.ediv_lt_of_lt_mul hn (Int.mul_comm n b ▸ h)⟩,
    ⟨Int.emod_nonneg _ (Int.ne_of_gt hn), Int.emod_lt_of_pos _ hn⟩, Int.mul_ediv_add_emod i n⟩

theorem divmod_o2v (n b q r : Int) (hn : 0 < n) (hq0 : 0 ≤ q) (hqb : q < b) (hr0 : 0 ≤ r) (hrn : r < n) :
    (0 ≤ n * q + r ∧ n * q + r < n * b) ∧ (n * q + r).fdiv n = q ∧ (n * q + r).fmod n = r := by
  rw [Int.fdiv_eq_ediv_of_nonneg _ (Int.le_of_lt hn), Int.fmod_eq_emod_of_nonneg _ (Int.le_of_lt hn)]
  exact ⟨⟨Int.add_nonneg (Int.mul_nonneg (Int.le_of_lt hn) hq0) hr0, lin_lt n q r b hn hrn hqb⟩,
    (Int.ediv_emod_unique hn).2 ⟨Int.add_comm _ _, hr0, hrn⟩⟩

/-! ## the generated index maps and `num_variables_*` in closed form -/
/-- free (non-implied) entries -/
def StateFree (d : Int) (f : Bool) (a : Int) : Prop := (if f then 1 else 0) ≤ a ∧ a < d ^ (2:Nat)
def PovmFree (d m : Int) (f : Bool) (a : Int × Int) : Prop :=
  0 ≤ a.1 ∧ a.1 < (if f then m - 1 else m) ∧ 0 ≤ a.2 ∧ a.2 < d ^ (2:Nat)
def GateFree (d : Int) (f : Bool) (a : Int × Int) : Prop :=
  (if f then 1 else 0) ≤ a.1 ∧ a.1 < d ^ (2:Nat) ∧ 0 ≤ a.2 ∧ a.2 < d ^ (2:Nat)
def MpFree (d m : Int) (f : Bool) (a : Int × Int × Int) : Prop :=
  0 ≤ a.1 ∧ a.1 < m ∧ (if f = true ∧ a.1 = m - 1 then 1 else 0) ≤ a.2.1 ∧ a.2.1 < d ^ (2:Nat) ∧
    0 ≤ a.2.2 ∧ a.2.2 < d ^ (2:Nat)

theorem num_variables_qst_eq (d : Int) (f : Bool) :
    num_variables_qst d f = d ^ (2:Nat) - (if f then 1 else 0) := by
  cases f <;> simp [num_variables_qst]

theorem gen_state_index (i : Int) (f : Bool) :
    convert_var_index_to_state_index i f = i + (if f then 1 else 0) := by
  cases f <;> simp [convert_var_index_to_state_index]

theorem gen_state_index_inv (a : Int) (f : Bool) :
    convert_state_index_to_var_index a f = a - (if f then 1 else 0) := by
  cases f <;> simp [convert_state_index_to_var_index]

theorem num_variables_povmt_eq (d m : Int) (f : Bool) :
    num_variables_povmt d m f = d ^ (2:Nat) * (if f then m - 1 else m) := by
  unfold num_variables_povmt; cases f <;> exact Int.mul_comm _ _

theorem num_variables_qpt_eq (d : Int) (f : Bool) :
    num_variables_qpt d f = d ^ (2:Nat) * (d ^ (2:Nat) - (if f then 1 else 0)) := by
  unfold num_variables_qpt; cases f <;> simp only [Bool.false_eq_true, ↓reduceIte] <;> ring

theorem num_variables_qpt_range (d : Int) (f : Bool) (hd : 0 < d) :
    0 ≤ num_variables_qpt d f ∧ num_variables_qpt d f ≤ d ^ (2:Nat) * d ^ (2:Nat) := by
  have hn := Int.pow_pos (m := 2) hd
  rw [num_variables_qpt_eq]
  exact ⟨Int.mul_nonneg (Int.le_of_lt hn) (by split <;> omega),
    Int.mul_le_mul_of_nonneg_left (by split <;> omega) (Int.le_of_lt hn)⟩

/-- a measurement process is `m` blocks of `d⁴` entries, each laid out as a gate; only the last has the implied row -/
theorem num_variables_qmpt_eq (d m : Int) (f : Bool) :
    num_variables_qmpt d m f = d ^ (2:Nat) * d ^ (2:Nat) * (m - 1) + num_variables_qpt d f := by
  unfold num_variables_qmpt num_variables_qpt
  cases f <;> simp only [Bool.false_eq_true, ↓reduceIte] <;> ring

/-- floor division by `d²`, the row shifted past the implied first row -/
theorem gen_gate_index (d i : Int) (f : Bool) :
    convert_var_index_to_gate_index d i f =
      (i.fdiv (d ^ (2:Nat)) + (if f then 1 else 0), i.fmod (d ^ (2:Nat))) := by
  cases f <;> simp [convert_var_index_to_gate_index]

theorem gen_gate_index_inv (d : Int) (a : Int × Int) (f : Bool) :
    convert_gate_index_to_var_index d a f = d ^ (2:Nat) * (a.1 - (if f then 1 else 0)) + a.2 := by
  cases f <;> simp [convert_gate_index_to_var_index]

/-- floor division by `d⁴` picks the block; inside the block the index is the gate index, with the implied row in the last block -/
theorem gen_mp_index (d m s i : Int) (f : Bool) :
    convert_var_index_to_mprocess_index d m s i f =
      (i.fdiv (d ^ (2:Nat) * d ^ (2:Nat)), convert_var_index_to_gate_index d (i.fmod (d ^ (2:Nat) * d ^ (2:Nat)))
        (f && decide (i.fdiv (d ^ (2:Nat) * d ^ (2:Nat)) = m - 1))) := by
  unfold convert_var_index_to_mprocess_index convert_var_index_to_gate_index
  cases f
  · rfl
  · by_cases h : i.fdiv (d ^ (2:Nat) * d ^ (2:Nat)) = m - 1 <;>
      simp only [h, ↓reduceIte, Bool.true_and, decide_true, decide_false, Bool.false_eq_true]

theorem gen_mp_index_inv (d m s : Int) (a : Int × Int × Int) (f : Bool) :
    convert_mprocess_index_to_var_index d a m s f =
      d ^ (2:Nat) * d ^ (2:Nat) * a.1 + convert_gate_index_to_var_index d a.2 (f && decide (a.1 = m - 1)) := by
  unfold convert_mprocess_index_to_var_index convert_gate_index_to_var_index
  cases f
  · simp only [Bool.false_eq_true, ↓reduceIte, Bool.false_and]; ring
  · by_cases h : a.1 = m - 1 <;>
      simp only [h, ↓reduceIte, Bool.true_and, decide_true, decide_false, Bool.false_eq_true] <;> ring

theorem MpFree_iff (d m : Int) (f : Bool) (a : Int × Int × Int) :
    MpFree d m f a ↔ (0 ≤ a.1 ∧ a.1 < m) ∧ GateFree d (f && decide (a.1 = m - 1)) a.2 := by
  simp only [MpFree, GateFree, Bool.and_eq_true, decide_eq_true_eq, and_assoc]

/-! ## flat positions of the generated indices: the variable index, moved past the implied entries -/
/-- flat (row-major) position of an entry (row, col) of a `· × n` array -/
def flat2 (n : Int) (a : Int × Int) : Int := a.1 * n + a.2
/-- flat position of an entry (k, row, col) of `k` stacked `n × n` arrays -/
def flat3 (n : Int) (a : Int × Int × Int) : Int := a.1 * (n * n) + a.2.1 * n + a.2.2

theorem flat2_povm_index (d m i : Int) (f : Bool) :
    flat2 (d ^ (2:Nat)) (convert_var_index_to_povm_index d m (d ^ (2:Nat)) i f) = i := by
  unfold flat2 convert_var_index_to_povm_index
  rw [Int.mul_comm]; exact Int.mul_fdiv_add_fmod i _

theorem flat2_gate_index (d i : Int) (f : Bool) :
    flat2 (d ^ (2:Nat)) (convert_var_index_to_gate_index d i f) = i + (if f then d ^ (2:Nat) else 0) := by
  have := Int.mul_fdiv_add_fmod i (d ^ (2:Nat))
  rw [gen_gate_index]; unfold flat2
  cases f <;> simp only [Bool.false_eq_true, ↓reduceIte, Int.add_zero, Int.add_mul, Int.one_mul] <;>
    rw [Int.mul_comm] <;> omega

theorem flat3_mp_index (d m s i : Int) (f : Bool) :
    flat3 (d ^ (2:Nat)) (convert_var_index_to_mprocess_index d m s i f) =
      i + (if f = true ∧ i.fdiv (d ^ (2:Nat) * d ^ (2:Nat)) = m - 1 then d ^ (2:Nat) else 0) := by
  have := Int.mul_fdiv_add_fmod i (d ^ (2:Nat) * d ^ (2:Nat))
  have e := flat2_gate_index d (i.fmod (d ^ (2:Nat) * d ^ (2:Nat)))
    (f && decide (i.fdiv (d ^ (2:Nat) * d ^ (2:Nat)) = m - 1))
  rw [gen_mp_index]; unfold flat3; unfold flat2 at e
  dsimp only
  simp only [Bool.and_eq_true, decide_eq_true_eq] at e
  rw [Int.add_assoc, e, Int.mul_comm]
  omega

/-! ## from the `Int` arithmetic of the generated maps to `Nat` list positions -/
theorem natCast_sq (d : Nat) : ((d ^ 2 : Nat) : Int) = (d : Int) ^ (2:Nat) := Int.natCast_pow d 2

theorem natCast_hsSize (d : Nat) : ((hsSize d : Nat) : Int) = (d : Int) ^ (2:Nat) * (d : Int) ^ (2:Nat) := by
  unfold hsSize; rw [Int.natCast_mul, natCast_sq]

theorem gate_flat_toNat (d i : Nat) (f : Bool) :
    (flat2 ((d : Int) ^ (2:Nat)) (convert_var_index_to_gate_index d i f)).toNat = if f then d ^ 2 + i else i := by
  rw [flat2_gate_index, ← natCast_sq]
  cases f <;> simp only [Bool.false_eq_true, ↓reduceIte] <;> omega

theorem natOf?_of_range (x : Int) (b : Nat) (h0 : 0 ≤ x) (h1 : x < (b : Int)) : natOf? x b = some x.toNat := by
  unfold natOf?; rw [if_pos ⟨h0, h1⟩]

theorem natOf?_eq_some (x : Int) (b p : Nat) (h : natOf? x b = some p) : p = x.toNat := by
  unfold natOf? at h
  split at h
  · exact (Option.some.inj h).symm
  · cases h

theorem toNat_lin (k j : Int) (n : Nat) (hk : 0 ≤ k) (hj : 0 ≤ j) :
    k.toNat * n + j.toNat = (k * (n : Int) + j).toNat := by
  obtain ⟨k, rfl⟩ := Int.eq_ofNat_of_zero_le hk
  obtain ⟨j, rfl⟩ := Int.eq_ofNat_of_zero_le hj
  rw [Int.toNat_natCast, Int.toNat_natCast, ← Int.natCast_mul, ← Int.natCast_add, Int.toNat_natCast]

/-! ## numpy reshape / flatten -/
theorem rows_length (n k : Nat) (l : List K) : (rows n k l).length = k := by
  induction k generalizing l with
  | zero => rfl
  | succ k ih => simp [rows, ih]

theorem rows_flatten_take (n k : Nat) (l : List K) : (rows n k l).flatten = l.take (n * k) := by
  induction k generalizing l with
  | zero => rfl
  | succ k ih => rw [rows, List.flatten_cons, ih, Nat.mul_succ, Nat.add_comm, List.take_add]

theorem rows_flatten (n k : Nat) (l : List K) (h : l.length = k * n) : (rows n k l).flatten = l := by
  rw [rows_flatten_take, List.take_of_length_le (by rw [h, Nat.mul_comm])]

theorem rows_row_length (n k : Nat) (l : List K) (h : l.length = k * n) :
    ∀ r ∈ rows n k l, r.length = n := by
  induction k generalizing l with
  | zero => intro r hr; cases hr
  | succ k ih =>
    rw [Nat.succ_mul] at h
    intro r hr
    rcases List.mem_cons.1 hr with rfl | hr
    · rw [List.length_take, h]; exact Nat.min_eq_left (Nat.le_add_left _ _)
    · exact ih _ (by rw [List.length_drop, h, Nat.add_sub_cancel]) r hr

theorem rows_of_flatten (n : Nat) (L : List (List K)) (h : ∀ r ∈ L, r.length = n) :
    rows n L.length L.flatten = L := by
  induction L with
  | nil => rfl
  | cons a L ih =>
    obtain ⟨rfl, hL⟩ := List.forall_mem_cons.1 h
    rw [List.length_cons, rows, List.flatten_cons, List.take_left' rfl, List.drop_left' rfl, ih hL]

theorem flatten_length_of (n : Nat) (L : List (List K)) (h : ∀ r ∈ L, r.length = n) :
    L.flatten.length = L.length * n := by
  induction L with
  | nil => exact (Nat.zero_mul n).symm
  | cons a L ih =>
    obtain ⟨ha, hL⟩ := List.forall_mem_cons.1 h
    rw [List.flatten_cons, List.length_append, ih hL, ha, List.length_cons, Nat.succ_mul, Nat.add_comm]

theorem rows_append (n k j : Nat) (l1 l2 : List K) (h : l1.length = k * n) :
    rows n (k + j) (l1 ++ l2) = rows n k l1 ++ rows n j l2 := by
  induction k generalizing l1 with
  | zero => rw [List.length_eq_zero_iff.1 (h.trans (Nat.zero_mul n)), Nat.zero_add]; rfl
  | succ k ih =>
    have hn : n ≤ l1.length := by rw [h, Nat.succ_mul]; exact Nat.le_add_left _ _
    rw [Nat.add_right_comm, rows, rows, List.take_append_of_le_length hn, List.drop_append_of_le_length hn,
      ih _ (by rw [List.length_drop, h, Nat.succ_mul, Nat.add_sub_cancel]), List.cons_append]

theorem rows_snoc (n k : Nat) (l : List K) : rows n (k + 1) l = rows n k l ++ [(l.drop (n * k)).take n] := by
  induction k generalizing l with
  | zero => rfl
  | succ k ih =>
    rw [rows, ih, rows, List.drop_drop, Nat.mul_succ, Nat.add_comm n]; rfl

theorem rows_eq_map (n k : Nat) (l : List K) : rows n k l = (List.range k).map fun o => (l.drop (n * o)).take n := by
  induction k with
  | zero => rfl
  | succ k ih => rw [rows_snoc, ih, List.range_succ, List.map_append]; rfl

/-- a list of length `k·n` is the flattening of a regular `k × n` array -/
theorem exists_regular (n k : Nat) (l : List K) (h : l.length = k * n) :
    ∃ L : List (List K), L.flatten = l ∧ L.length = k ∧ ∀ r ∈ L, r.length = n :=
  ⟨rows n k l, rows_flatten n k l h, rows_length n k l, rows_row_length n k l h⟩

theorem reshape2_ok (k n : Nat) (l : List K) (h : l.length = k * n) : reshape2 k n l = some (rows n k l) := by
  simp [reshape2, h]

theorem reshape2_some (k n : Nat) (l : List K) (r : List (List K)) (h : reshape2 k n l = some r) :
    l.length = k * n ∧ r = rows n k l := by
  unfold reshape2 at h
  split at h
  · rename_i hl; exact ⟨hl, (Option.some.inj h).symm⟩
  · cases h

theorem reshape2_flatten (n : Nat) (L : List (List K)) (h : ∀ r ∈ L, r.length = n) :
    reshape2 L.length n L.flatten = some L := by
  rw [reshape2_ok _ _ _ (flatten_length_of n L h), rows_of_flatten n L h]

/-! ## inserting and deleting a block (`np.insert`, `np.delete` with a slice) -/
theorem length_insert (v blk : List K) (p : Nat) : (v.take p ++ blk ++ v.drop p).length = v.length + blk.length := by
  rw [List.length_append, List.length_append, List.length_take, List.length_drop]; omega

theorem getElem?_insert (v blk : List K) (p i : Nat) (hp : p ≤ v.length) :
    (v.take p ++ blk ++ v.drop p)[if i < p then i else i + blk.length]? = v[i]? := by
  have htl : (v.take p).length = p := by rw [List.length_take]; exact Nat.min_eq_left hp
  by_cases h : i < p
  · rw [if_pos h, List.append_assoc, List.getElem?_append_left (htl.symm ▸ h), List.getElem?_take_of_lt h]
  · rw [if_neg h, List.getElem?_append_right (by rw [List.length_append, htl]; omega), List.length_append, htl,
      List.getElem?_drop]
    congr 1; omega

theorem delete_insert (v blk : List K) (p : Nat) (hp : p ≤ v.length) :
    (v.take p ++ blk ++ v.drop p).take p ++ (v.take p ++ blk ++ v.drop p).drop (p + blk.length) = v := by
  have htl : (v.take p).length = p := by rw [List.length_take]; exact Nat.min_eq_left hp
  rw [List.append_assoc, List.take_left' htl, ← List.drop_drop, List.drop_left' htl, List.drop_left' rfl,
    List.take_append_drop]

theorem length_delete (st : List K) (p b : Nat) (h : p + b ≤ st.length) :
    (st.take p ++ st.drop (p + b)).length + b = st.length := by
  rw [List.length_append, List.length_take, List.length_drop]; omega

/-- inserting a block where `b` entries were deleted gives the list back exactly when the block is what was deleted -/
theorem insert_delete_iff (st blk : List K) (p b : Nat) (h : p + b ≤ st.length) :
    (st.take p ++ st.drop (p + b)).take p ++ blk ++ (st.take p ++ st.drop (p + b)).drop p = st ↔
      (st.drop p).take b = blk := by
  have htl : (st.take p).length = p := by rw [List.length_take]; omega
  have hsplit : st.take p ++ ((st.drop p).take b ++ st.drop (p + b)) = st := by
    rw [← List.drop_drop, List.take_append_drop, List.take_append_drop]
  rw [List.take_left' htl, List.drop_left' htl, List.append_assoc]
  exact (Eq.congr_right hsplit).symm.trans
    ((List.append_right_inj _).trans ((List.append_left_inj _).trans eq_comm))

/-! ## entrywise operations: lengths, append, take, drop -/
theorem vadd_length [Add K] (a b : List K) : (vadd a b).length = min a.length b.length := by
  simp [vadd]
theorem vsub_length [Sub K] (a b : List K) : (vsub a b).length = min a.length b.length := by
  simp [vsub]
theorem e0_length [Zero K] (c : K) (n : Nat) (h : 0 < n) : (e0 c n).length = n := by
  simp [e0]; omega

theorem vadd_append [Add K] (a b c e : List K) (h : a.length = c.length) :
    vadd (a ++ b) (c ++ e) = vadd a c ++ vadd b e := by
  unfold vadd; exact List.zipWith_append h

theorem take_vadd [Add K] (a b : List K) (n : Nat) : (vadd a b).take n = vadd (a.take n) (b.take n) := by
  unfold vadd; exact List.take_zipWith
theorem drop_vadd [Add K] (a b : List K) (n : Nat) : (vadd a b).drop n = vadd (a.drop n) (b.drop n) := by
  unfold vadd; exact List.drop_zipWith

theorem colSum_length [Add K] [Zero K] (n : Nat) (rs : List (List K)) (h : ∀ r ∈ rs, r.length = n) :
    (colSum n rs).length = n :=
  List.foldlRecOn rs vadd (motive := fun acc => acc.length = n) List.length_replicate
    fun acc hacc a ha => by rw [vadd_length, hacc, h a ha, Nat.min_self]

theorem povmLast_length [Add K] [Sub K] [Zero K] (d : Nat) (sq : K) (pre : List (List K)) (hd : 0 < d)
    (h : ∀ r ∈ pre, r.length = d ^ 2) : (povmLast d sq pre).length = d ^ 2 := by
  unfold povmLast
  rw [vsub_length, e0_length _ _ (Nat.pow_pos hd), colSum_length _ _ h]; simp

/-! ## generated `num_variables_*` as natural numbers: the variables and the implied entries make up the object -/
theorem hsSize_eq_pow (d : Nat) : hsSize d = d ^ 4 := (Nat.pow_add d 2 2).symm

theorem hsSize_pos (d : Nat) (hd : 0 < d) : 0 < hsSize d := Nat.mul_pos (Nat.pow_pos hd) (Nat.pow_pos hd)
theorem sq_le_hsSize (d : Nat) : d ^ 2 ≤ hsSize d := Nat.le_mul_self _

/-- a variable index below `(j+1)·d⁴` lies in the last of the `j+1` blocks exactly from position `d⁴·j` on -/
theorem fdiv_eq_last_iff (d j i : Nat) (hd : 0 < d) (h : i < (j + 1) * hsSize d) :
    (i : Int).fdiv ((d : Int) ^ (2:Nat) * (d : Int) ^ (2:Nat)) = ((j + 1 : Nat) : Int) - 1 ↔ hsSize d * j ≤ i := by
  rw [← natCast_hsSize, ← Int.ofNat_fdiv, Int.natCast_add, Int.natCast_one, Int.add_sub_cancel, Int.natCast_inj,
    Nat.div_eq_iff (hsSize_pos d hd), Nat.mul_comm]
  rw [Nat.succ_mul, Nat.mul_comm] at h
  omega

theorem pred_mul_add (d : Nat) (hd : 0 < d) : (d ^ 2 - 1) * d ^ 2 + d ^ 2 = hsSize d := by
  unfold hsSize; rw [← Nat.succ_mul, Nat.succ_eq_add_one, Nat.sub_add_cancel (Nat.pow_pos hd)]

theorem nv_qst (d L : Nat) (f : Bool) :
    (L : Int) = num_variables_qst d f ↔ L + (if f then 1 else 0) = d ^ 2 := by
  unfold num_variables_qst
  cases f <;> simp only [Bool.false_eq_true, ↓reduceIte, Nat.add_zero]
  · norm_cast
  · rw [eq_sub_iff_add_eq]; norm_cast

theorem nv_povmt (d m L : Nat) (f : Bool) :
    (L : Int) = num_variables_povmt d m f ↔ L + (if f then d ^ 2 else 0) = m * d ^ 2 := by
  unfold num_variables_povmt
  cases f <;> simp only [Bool.false_eq_true, ↓reduceIte, Nat.add_zero]
  · norm_cast
  · rw [Int.sub_mul, Int.one_mul, eq_sub_iff_add_eq]; norm_cast

theorem nv_qpt (d L : Nat) (f : Bool) :
    (L : Int) = num_variables_qpt d f ↔ L + (if f then d ^ 2 else 0) = hsSize d := by
  unfold num_variables_qpt; rw [hsSize_eq_pow]
  cases f <;> simp only [Bool.false_eq_true, ↓reduceIte, Nat.add_zero]
  · norm_cast
  · rw [eq_sub_iff_add_eq]; norm_cast

theorem nv_qmpt (d m L : Nat) (f : Bool) :
    (L : Int) = num_variables_qmpt d m f ↔ L + (if f then d ^ 2 else 0) = m * hsSize d := by
  unfold num_variables_qmpt; rw [hsSize_eq_pow]
  cases f <;> simp only [Bool.false_eq_true, ↓reduceIte, Nat.add_zero]
  · norm_cast
  · rw [eq_sub_iff_add_eq]; norm_cast

/-- `L` variables and the `d²` implied entries fill `k + 1` blocks of size `d⁴`: the first `k` blocks are variables only -/
theorem mp_len (d k L : Nat) (hd : 0 < d) (hl : L + d ^ 2 = (k + 1) * hsSize d) :
    L / hsSize d = k ∧ hsSize d * k ≤ L := by
  have := sq_le_hsSize d
  have := Nat.pow_pos (n := 2) hd
  rw [Nat.succ_mul] at hl
  have h1 : k * hsSize d ≤ L := by omega
  exact ⟨Nat.div_eq_of_lt_le h1 (by rw [Nat.succ_mul]; omega), Nat.mul_comm k _ ▸ h1⟩

theorem nv_povmt_true (d m L : Nat) (hm : 2 ≤ m) (h : (L : Int) = num_variables_povmt d m true) :
    ∃ k, m = k + 2 ∧ L = (k + 1) * d ^ 2 := by
  obtain ⟨k, rfl⟩ := Nat.exists_eq_add_of_le' hm
  have := (nv_povmt d (k + 2) L true).1 h
  rw [if_pos rfl, Nat.succ_mul (k + 1)] at this
  exact ⟨k, rfl, Nat.add_right_cancel this⟩

theorem nv_qmpt_true (d m L : Nat) (hd : 0 < d) (hm : 1 ≤ m) (h : (L : Int) = num_variables_qmpt d m true) :
    ∃ k, m = k + 1 ∧ L + d ^ 2 = (k + 1) * hsSize d ∧ hsSize d * k ≤ L := by
  obtain ⟨k, rfl⟩ := Nat.exists_eq_add_of_le' hm
  have hl := (nv_qmpt d (k + 1) L true).1 h
  exact ⟨k, rfl, hl, (mp_len d k L hd hl).2⟩

/-! ## the conversions on a flattened regular array (what `reshape` gives back) -/
theorem vecsOfVar_false_flatten [Add K] [Sub K] [Zero K] (d : Nat) (sq : K) (L : List (List K)) (hd : 0 < d)
    (h : ∀ r ∈ L, r.length = d ^ 2) : vecsOfVar d sq L.flatten false = some L := by
  simp only [vecsOfVar, Nat.ne_of_gt hd, ↓reduceIte, Bool.false_eq_true, flatten_length_of _ L h,
    Nat.mul_div_cancel _ (Nat.pow_pos hd)]
  exact reshape2_flatten _ L h

theorem vecsOfVar_true_flatten [Add K] [Sub K] [Zero K] (d : Nat) (sq : K) (L : List (List K)) (hd : 0 < d)
    (h : ∀ r ∈ L, r.length = d ^ 2) : vecsOfVar d sq L.flatten true = some (L ++ [povmLast d sq L]) := by
  have h2 := reshape2_flatten _ _ (List.forall_mem_append.2 ⟨h, List.forall_mem_singleton.2 (povmLast_length d sq L hd h)⟩)
  rw [List.flatten_append, List.flatten_singleton, List.length_append] at h2
  simp only [vecsOfVar, Nat.ne_of_gt hd, ↓reduceIte, flatten_length_of _ L h, Nat.mul_div_cancel _ (Nat.pow_pos hd),
    Nat.add_sub_cancel, reshape2_flatten _ L h, Option.bind_eq_bind, Option.bind_some]
  exact h2

theorem varOfVecs_false (vecs : List (List K)) (h : vecs ≠ []) : varOfVecs vecs false = some vecs.flatten := by
  cases vecs with
  | nil => exact absurd rfl h
  | cons a t => rfl

theorem varOfVecs_concat (pre : List (List K)) (lst : List K) (h : pre ≠ []) :
    varOfVecs (pre ++ [lst]) true = some pre.flatten := by
  unfold varOfVecs
  rw [if_pos rfl, List.dropLast_concat]
  cases pre with
  | nil => exact absurd rfl h
  | cons a t => rfl

/-- explicit stacked vector of a POVM variable vector of the right length (flag on): `var ++ implied last element` -/
theorem povmStacked_explicit [Add K] [Sub K] [Zero K] (d k : Nat) (sq : K) (v : List K) (hd : 0 < d)
    (hl : v.length = (k + 1) * d ^ 2) :
    povmStackedOfVar d sq v true = some (v ++ povmLast d sq (rows (d ^ 2) (k + 1) v)) := by
  have := vecsOfVar_true_flatten d sq _ hd (rows_row_length _ _ _ hl)
  rw [rows_flatten _ _ _ hl] at this
  rw [povmStackedOfVar, if_pos rfl, this, Option.map_some, List.flatten_append, rows_flatten _ _ _ hl,
    List.flatten_singleton]

theorem povm_stacked_prefix [Add K] [Sub K] [Zero K] (d : Nat) (sq : K) (var st : List K) (f : Bool)
    (hst : povmStackedOfVar d sq var f = some st) : ∃ last, st = var ++ last := by
  cases f
  · exact ⟨[], by rw [List.append_nil]; exact (Option.some.inj hst).symm⟩
  · obtain ⟨vecs, hv, rfl⟩ := Option.map_eq_some_iff.1 hst
    unfold vecsOfVar at hv
    split at hv
    · cases hv
    · obtain ⟨pre, hp, hv⟩ := Option.bind_eq_some_iff.1 hv
      obtain ⟨hl, rfl⟩ := reshape2_some _ _ _ _ hp
      obtain ⟨hl2, rfl⟩ := reshape2_some _ _ _ _ hv
      rw [rows_flatten _ _ _ hl] at hl2 ⊢
      exact ⟨_, rows_flatten _ _ _ hl2⟩

theorem hsOfVar_false_flatten [Zero K] [One K] (d : Nat) (L : List (List K)) (hd : 0 < d) (hl : L.length = d ^ 2)
    (h : ∀ r ∈ L, r.length = d ^ 2) : hsOfVar d L.flatten false = some L := by
  simp only [hsOfVar, Nat.ne_of_gt hd, ↓reduceIte, Bool.false_eq_true]
  have := reshape2_flatten _ L h
  rwa [hl] at this

theorem hsOfVar_true_flatten [Zero K] [One K] (d : Nat) (t : List (List K)) (hd : 0 < d) (hl : t.length = d ^ 2 - 1)
    (h : ∀ r ∈ t, r.length = d ^ 2) : hsOfVar d t.flatten true = some (e0 1 (d ^ 2) :: t) := by
  simp only [hsOfVar, Nat.ne_of_gt hd, ↓reduceIte, ← hl, reshape2_flatten _ t h, Option.bind_eq_bind, Option.bind_some]

theorem gateStackedOfVar_some [Zero K] [One K] (d : Nat) (var : List K) (f : Bool) (hd : 0 < d) :
    gateStackedOfVar d var f = some ((if f then e0 1 (d ^ 2) else []) ++ var) := by
  unfold gateStackedOfVar; rw [if_neg (Nat.ne_of_gt hd)]; cases f <;> rfl

/-! ## mprocess: the implied row inserted into / deleted from the stacked vector -/
theorem firstRowSum_length [Add K] [Zero K] (d cnt : Nat) (v : List K)
    (h : hsSize d * cnt ≤ v.length) : (firstRowSum d cnt v).length = d ^ 2 := by
  refine List.foldlRecOn _ _ (motive := fun acc : List K => acc.length = d ^ 2) List.length_replicate
    fun acc hacc o ho => ?_
  have := Nat.mul_le_mul_left (hsSize d) (Nat.succ_le_of_lt (List.mem_range.1 ho))
  have := sq_le_hsSize d
  rw [Nat.mul_succ] at *
  rw [vadd_length, hacc, List.length_take, List.length_drop]
  omega

theorem mpLast_length [Add K] [Sub K] [Zero K] [One K] (d cnt : Nat) (v : List K) (hd : 0 < d)
    (h : hsSize d * cnt ≤ v.length) : (mpLast d cnt v).length = d ^ 2 := by
  unfold mpLast
  rw [vsub_length, e0_length _ _ (Nat.pow_pos hd), firstRowSum_length d cnt v h, Nat.min_self]

theorem firstRowSum_eq_colSum [Add K] [Zero K] (d cnt : Nat) (v : List K) :
    firstRowSum d cnt v = colSum (d ^ 2) ((List.range cnt).map fun o => (v.drop (hsSize d * o)).take (d ^ 2)) :=
  List.foldl_map.symm

/-- the sum of the first rows of the first `cnt` HS blocks reads only the first `H·cnt` entries -/
theorem firstRowSum_take [Add K] [Zero K] (d cnt : Nat) (v : List K) :
    firstRowSum d cnt (v.take (hsSize d * cnt)) = firstRowSum d cnt v := by
  rw [firstRowSum_eq_colSum, firstRowSum_eq_colSum]
  congr 1
  refine List.map_congr_left fun o ho => ?_
  have := Nat.mul_le_mul_left (hsSize d) (Nat.succ_le_of_lt (List.mem_range.1 ho))
  have := sq_le_hsSize d
  rw [Nat.mul_succ] at *
  rw [List.drop_take, List.take_take, Nat.min_eq_left (by omega)]

theorem mpStackedOfVar_true [Add K] [Sub K] [Zero K] [One K] (d k : Nat) (v : List K) (hd : 0 < d)
    (hl : v.length + d ^ 2 = (k + 1) * hsSize d) :
    mpStackedOfVar d v true = some (v.take (hsSize d * k) ++ mpLast d k v ++ v.drop (hsSize d * k)) := by
  simp only [mpStackedOfVar, Nat.ne_of_gt hd, ↓reduceIte, Nat.add_sub_cancel,
    (mp_len d k _ hd hl).1]

theorem mpVarOfStacked_true (d k : Nat) (st : List K) (hd : 0 < d) (h : st.length = (k + 1) * hsSize d) :
    mpVarOfStacked d st true = some (st.take (hsSize d * k) ++ st.drop (hsSize d * k + d ^ 2)) := by
  simp only [mpVarOfStacked, Nat.ne_of_gt hd, ↓reduceIte, h, Nat.mul_div_cancel _ (hsSize_pos d hd),
    Nat.succ_ne_zero, Nat.add_sub_cancel]

theorem mpStacked_length [Add K] [Sub K] [Zero K] [One K] (d k : Nat) (v : List K) (hd : 0 < d)
    (hl : v.length + d ^ 2 = (k + 1) * hsSize d) :
    (v.take (hsSize d * k) ++ mpLast d k v ++ v.drop (hsSize d * k)).length = (k + 1) * hsSize d := by
  rw [length_insert, mpLast_length d k v hd (mp_len d k _ hd hl).2, hl]

theorem hssOfVar_true [Add K] [Sub K] [Zero K] [One K] (d k : Nat) (v : List K) (hd : 0 < d)
    (hl : v.length + d ^ 2 = (k + 1) * hsSize d) :
    hssOfVar d v true =
      some (rows (hsSize d) (k + 1) (v.take (hsSize d * k) ++ mpLast d k v ++ v.drop (hsSize d * k))) := by
  simp only [hssOfVar, Nat.ne_of_gt hd, ↓reduceIte, mpStackedOfVar_true d k v hd hl, Option.bind_eq_bind,
    Option.bind_some, (mp_len d k _ hd hl).1,
    reshape2_ok _ _ _ (mpStacked_length d k v hd hl)]

theorem hssOfVar_false_flatten [Add K] [Sub K] [Zero K] [One K] (d : Nat) (L : List (List K)) (hd : 0 < d)
    (h : ∀ r ∈ L, r.length = hsSize d) : hssOfVar d L.flatten false = some L := by
  simp only [hssOfVar, Nat.ne_of_gt hd, ↓reduceIte, Bool.false_eq_true, flatten_length_of _ L h,
    Nat.mul_div_cancel _ (hsSize_pos d hd)]
  exact reshape2_flatten _ L h

theorem mpStackedOfVar_false [Add K] [Sub K] [Zero K] [One K] (d : Nat) (v : List K) (hd : 0 < d) :
    mpStackedOfVar d v false = some v := by
  unfold mpStackedOfVar; rw [if_neg (Nat.ne_of_gt hd)]; rfl

theorem varOfHss_rows (d m : Nat) (st : List K) (f : Bool) (hd : 0 < d) (hm : 1 ≤ m)
    (h : st.length = m * hsSize d) :
    varOfHss d (rows (hsSize d) m st) f = mpVarOfStacked d st f := by
  cases f
  · exact congrArg some (rows_flatten _ _ _ h)
  · obtain ⟨k, rfl⟩ := Nat.exists_eq_add_of_le' hm
    rw [mpVarOfStacked_true d k st hd h, rows_snoc,
      List.take_of_length_le (by rw [List.length_drop, h, Nat.succ_mul, Nat.mul_comm]; omega)]
    simp only [varOfHss, ↓reduceIte, List.getLast?_append, List.getLast?_singleton, Option.some_or,
      List.dropLast_concat, rows_flatten_take, List.drop_drop]

/-! ## SetQOperations layout -/
theorem nsum_cons (a : Nat) (l : List Nat) : nsum (a :: l) = a + nsum l := rfl
theorem nsum_nil : nsum [] = 0 := rfl

theorem nsum_take_le (l : List Nat) (k : Nat) (hk : k < l.length) :
    nsum (l.take k) + l[k] ≤ nsum l := by
  induction l generalizing k with
  | nil => cases hk
  | cons a l ih =>
    cases k with
    | zero => exact (Nat.zero_add a).le.trans (Nat.le_add_right a (nsum l))
    | succ k =>
      rw [List.take_succ_cons, nsum_cons, nsum_cons, Nat.add_assoc]
      exact Nat.add_le_add_left (ih k (Nat.lt_of_succ_lt_succ hk)) a

theorem locate_spec (sizes : List Nat) (i0 k j : Nat) (hk : k < sizes.length) (hj : j < sizes[k]) :
    locate sizes i0 (nsum (sizes.take k) + j) = some (i0 + k, j) := by
  induction sizes generalizing i0 k with
  | nil => cases hk
  | cons a l ih =>
    cases k with
    | zero => rw [List.take_zero, nsum_nil, Nat.zero_add, locate]; exact if_pos hj
    | succ k =>
      rw [List.take_succ_cons, nsum_cons, Nat.add_assoc, locate, if_neg (Nat.not_lt.2 (Nat.le_add_right _ _)),
        Nat.add_sub_cancel_left, ih (i0 + 1) k (Nat.lt_of_succ_lt_succ hk) hj, Nat.add_assoc, Nat.add_comm 1]

theorem locate_some (sizes : List Nat) (i0 mid : Nat) (h : mid < nsum sizes) :
    ∃ k j, ∃ hk : k < sizes.length, locate sizes i0 mid = some (i0 + k, j) ∧ j < sizes[k] ∧
      nsum (sizes.take k) + j = mid := by
  induction sizes generalizing i0 mid with
  | nil => cases h
  | cons a l ih =>
    by_cases hlt : mid < a
    · exact ⟨0, mid, Nat.succ_pos _, by rw [locate, if_pos hlt]; rfl, hlt, Nat.zero_add _⟩
    · obtain ⟨k, j, hk, h1, h2, h3⟩ := ih (i0 + 1) (mid - a) (by rw [nsum_cons] at h; omega)
      refine ⟨k + 1, j, Nat.succ_lt_succ hk, ?_, h2, ?_⟩
      · rw [locate, if_neg hlt, h1, Nat.add_assoc, Nat.add_comm 1]
      · rw [List.take_succ_cons, nsum_cons, Nat.add_assoc, h3]; omega

/-- the total indices of one mode are the interval `[first, first + nsum sizes)` of `[0, total)`, and
`modeOfTotal` recognises it -/
theorem modeOfTotal_of_mem (S : Sizes) (mode : Nat) (sizes : List Nat) (hm : S.ofMode mode = some sizes) :
    S.first mode + nsum sizes ≤ S.total ∧
      ∀ t, S.first mode ≤ t → t < S.first mode + nsum sizes → modeOfTotal S t = some mode := by
  have h12 : S.first 1 ≤ S.first 2 := Nat.le_add_right _ _
  have h23 : S.first 2 ≤ S.first 3 := Nat.le_add_right _ _
  unfold modeOfTotal
  match mode, hm with
  | 0, rfl => exact ⟨by simp only [Sizes.total, Sizes.first]; omega, fun t _ h =>
      if_pos (by simpa only [Sizes.first, Nat.zero_add] using h)⟩
  | 1, rfl => exact ⟨by simp only [Sizes.total, Sizes.first]; omega, fun t h1 h2 =>
      (if_neg (Nat.not_lt.2 h1)).trans (if_pos ⟨h1, h2⟩)⟩
  | 2, rfl => exact ⟨by simp only [Sizes.total, Sizes.first]; omega, fun t h1 h2 =>
      (if_neg (Nat.not_lt.2 (Nat.le_trans h12 h1))).trans
        ((if_neg fun h => Nat.not_lt.2 h1 h.2).trans (if_pos ⟨h1, h2⟩))⟩
  | 3, rfl => exact ⟨Nat.le_refl _, fun t h1 h2 =>
      (if_neg (Nat.not_lt.2 (Nat.le_trans h12 (Nat.le_trans h23 h1)))).trans
        ((if_neg fun h => Nat.not_lt.2 (Nat.le_trans h23 h1) h.2).trans
          ((if_neg fun h => Nat.not_lt.2 h1 h.2).trans (if_pos ⟨h1, h2⟩)))⟩

theorem exists_mode_of_lt_total (S : Sizes) (t : Nat) (ht : t < S.total) :
    ∃ mode sizes, S.ofMode mode = some sizes ∧ S.first mode ≤ t ∧ t < S.first mode + nsum sizes := by
  unfold Sizes.total at ht
  by_cases h0 : t < nsum S.state
  · exact ⟨0, _, rfl, Nat.zero_le _, by simpa only [Sizes.first, Nat.zero_add] using h0⟩
  by_cases h1 : t < nsum S.state + nsum S.gate
  · exact ⟨1, _, rfl, Nat.le_of_not_lt h0, h1⟩
  by_cases h2 : t < nsum S.state + nsum S.gate + nsum S.povm
  · exact ⟨2, _, rfl, Nat.le_of_not_lt h1, h2⟩
  · exact ⟨3, _, rfl, Nat.le_of_not_lt h2, ht⟩

theorem totalFromLocal_eq (S : Sizes) (mode k j : Nat) (sizes : List Nat) (hm : S.ofMode mode = some sizes)
    (hk : k ≤ sizes.length) : totalFromLocal S mode k j = some (S.first mode + nsum (sizes.take k) + j) := by
  simp only [totalFromLocal, hm, itemFirst, hk, ↓reduceIte, Option.bind_eq_bind, Option.bind_some]

theorem localFromTotal_eq (S : Sizes) (mode k j t : Nat) (sizes : List Nat) (hm : S.ofMode mode = some sizes)
    (h1 : S.first mode ≤ t) (h2 : t < S.first mode + nsum sizes)
    (hloc : locate sizes 0 (t - S.first mode) = some (k, j)) : localFromTotal S t = some (mode, k, j) := by
  simp only [localFromTotal, (modeOfTotal_of_mem S mode sizes hm).2 t h1 h2, hm, hloc, Option.bind_eq_bind,
    Option.bind_some]

theorem splitBy_flatten (B : List (List K)) : splitBy (B.map List.length) B.flatten = B := by
  induction B with
  | nil => rfl
  | cons a B ih => simp [splitBy, ih]

theorem flatten_len_nsum (B : List (List K)) : B.flatten.length = nsum (B.map List.length) := by
  induction B with
  | nil => rfl
  | cons a t ih => simp [nsum_cons, ih]

theorem flatten_points_at (B : List (List K)) (k j : Nat) (hk : k < B.length) (hj : j < B[k].length) :
    B.flatten[nsum ((B.map List.length).take k) + j]? = some (B[k][j]) := by
  have hsplit : B.flatten = (B.take k).flatten ++ (B[k] ++ (B.drop (k + 1)).flatten) := by
    conv_lhs => rw [← List.take_append_drop k B, List.drop_eq_getElem_cons hk]
    rw [List.flatten_append, List.flatten_cons]
  rw [hsplit, ← List.map_take, ← flatten_len_nsum, List.getElem?_append_right (Nat.le_add_right _ _),
    Nat.add_sub_cancel_left, List.getElem?_append_left hj, List.getElem?_eq_getElem hj]

/-! ## variable blocks of a set of operations (spec side of the SetQOperations theorems) -/
/-- the variable blocks of a set of operations, in the order of `var_total` -/
structure Blocks (K : Type) where
  state : List (List K)
  gate : List (List K)
  povm : List (List K)
  mprocess : List (List K)

def Blocks.sizes (B : Blocks K) : Sizes :=
  ⟨B.state.map List.length, B.gate.map List.length, B.povm.map List.length, B.mprocess.map List.length⟩
def Blocks.varTotal (B : Blocks K) : List K :=
  B.state.flatten ++ B.gate.flatten ++ B.povm.flatten ++ B.mprocess.flatten
def Blocks.ofMode (B : Blocks K) : Nat → Option (List (List K))
  | 0 => some B.state | 1 => some B.gate | 2 => some B.povm | 3 => some B.mprocess | _ => none

/-- `var_total` is the blocks of one mode between what precedes them (`Sizes.first` entries) and what follows -/
theorem Blocks.varTotal_split (B : Blocks K) (mode : Nat) (blk : List (List K)) (hb : B.ofMode mode = some blk) :
    B.sizes.ofMode mode = some (blk.map List.length) ∧
      ∃ pre post, pre.length = B.sizes.first mode ∧ B.varTotal = pre ++ (blk.flatten ++ post) := by
  unfold Blocks.varTotal
  match mode, hb with
  | 0, rfl =>
    exact ⟨rfl, [], B.gate.flatten ++ (B.povm.flatten ++ B.mprocess.flatten), rfl,
      by simp only [List.nil_append, List.append_assoc]⟩
  | 1, rfl =>
    exact ⟨rfl, B.state.flatten, B.povm.flatten ++ B.mprocess.flatten, flatten_len_nsum _,
      by simp only [List.append_assoc]⟩
  | 2, rfl =>
    exact ⟨rfl, B.state.flatten ++ B.gate.flatten, B.mprocess.flatten,
      by rw [List.length_append, flatten_len_nsum, flatten_len_nsum]; rfl, by simp only [List.append_assoc]⟩
  | 3, rfl =>
    exact ⟨rfl, B.state.flatten ++ B.gate.flatten ++ B.povm.flatten, [],
      by rw [List.length_append, List.length_append, flatten_len_nsum, flatten_len_nsum, flatten_len_nsum]; rfl,
      by rw [List.append_nil]⟩

/-! ## perturbations and one-hot vectors (gradient and derivative theorems) -/
/-- `t • l` -/
def lsmul [Mul K] (t : K) (l : List K) : List K := l.map (t * ·)
/-- `v + t·e_i` -/
def perturb [Add K] [Mul K] [Zero K] [One K] (v : List K) (i : Nat) (t : K) : List K :=
  vadd v (lsmul t (oneHot v.length i))

theorem oneHot_length [Zero K] [One K] (n i : Nat) : (oneHot n i : List K).length = n := by
  unfold oneHot; rw [List.length_map, List.length_range]
theorem lsmul_length [Mul K] (t : K) (l : List K) : (lsmul t l).length = l.length := List.length_map _
theorem perturb_length [Add K] [Mul K] [Zero K] [One K] (v : List K) (i : Nat) (t : K) :
    (perturb v i t).length = v.length := by
  unfold perturb; rw [vadd_length, lsmul_length, oneHot_length, Nat.min_self]

theorem oneHot_eq_replicate [Zero K] [One K] (n i : Nat) (h : n ≤ i) : (oneHot n i : List K) = List.replicate n 0 := by
  apply List.ext_getElem (by rw [oneHot_length, List.length_replicate])
  intro k h1 _
  rw [oneHot_length] at h1
  simp only [oneHot, List.getElem_map, List.getElem_range, List.getElem_replicate]
  exact if_neg (by omega)

theorem oneHot_take [Zero K] [One K] (L n i : Nat) (hn : n ≤ L) : (oneHot L i : List K).take n = oneHot n i := by
  unfold oneHot; rw [← List.map_take, List.take_range, Nat.min_eq_left hn]

theorem oneHot_drop [Zero K] [One K] (L n i : Nat) (hi : n ≤ i) :
    (oneHot L i : List K).drop n = oneHot (L - n) (i - n) := by
  apply List.ext_getElem (by rw [List.length_drop, oneHot_length, oneHot_length])
  intro k h1 _
  simp only [oneHot, List.getElem_drop, List.getElem_map, List.getElem_range]
  by_cases h : n + k = i
  · rw [if_pos h, if_pos (by omega)]
  · rw [if_neg h, if_neg (by omega)]

theorem oneHot_drop_of_lt [Zero K] [One K] (L n i : Nat) (hi : i < n) :
    (oneHot L i : List K).drop n = List.replicate (L - n) 0 := by
  apply List.ext_getElem (by rw [List.length_drop, oneHot_length, List.length_replicate])
  intro k h1 _
  simp only [oneHot, List.getElem_drop, List.getElem_map, List.getElem_range, List.getElem_replicate]
  exact if_neg (by omega)

theorem oneHot_shift [Zero K] [One K] (k n i : Nat) :
    (oneHot (k + n) (k + i) : List K) = List.replicate k 0 ++ oneHot n i := by
  rw [← List.take_append_drop k (oneHot (k + n) (k + i)), oneHot_take _ _ _ (Nat.le_add_right k n),
    oneHot_eq_replicate _ _ (Nat.le_add_right k i), oneHot_drop _ _ _ (Nat.le_add_right k i),
    Nat.add_sub_cancel_left, Nat.add_sub_cancel_left]

theorem vadd_lsmul_zeros [CommRing K] (w : List K) (t : K) (L : Nat) (h : L = w.length) :
    vadd w (lsmul t (List.replicate L 0)) = w := by
  subst h
  unfold vadd lsmul
  induction w with
  | nil => rfl
  | cons x a ih => simp at ih; simp [List.replicate_succ, ih]

/-- a fixed block in front of the variables: perturbing variable `i` moves entry `pre.length + i` of the whole -/
theorem append_perturb [CommRing K] (pre v : List K) (i : Nat) (t : K) :
    pre ++ perturb v i t = vadd (pre ++ v) (lsmul t (oneHot (pre.length + v.length) (pre.length + i))) := by
  unfold perturb
  rw [oneHot_shift]; unfold lsmul
  rw [List.map_append, vadd_append _ _ _ _ (by rw [List.length_map, List.length_replicate])]
  exact congrArg (· ++ _) (vadd_lsmul_zeros pre t _ rfl).symm

theorem vadd_comm [CommRing K] (a b : List K) : vadd a b = vadd b a := by
  unfold vadd; exact List.zipWith_comm_of_comm fun x y => add_comm x y

theorem vadd_assoc [CommRing K] (a b c : List K) : vadd a (vadd b c) = vadd (vadd a b) c := by
  unfold vadd
  induction a generalizing b c with
  | nil => simp
  | cons x a ih =>
    cases b with
    | nil => simp
    | cons y b =>
      cases c with
      | nil => simp
      | cons z c => simp [ih]; ring

theorem vsub_vadd_smul [CommRing K] (a b e : List K) (t : K) :
    vsub a (vadd b (lsmul t e)) = vadd (vsub a b) (lsmul (-t) e) := by
  unfold vsub vadd lsmul
  induction a generalizing b e with
  | nil => simp
  | cons x a ih =>
    cases b with
    | nil => simp
    | cons y b =>
      cases e with
      | nil => simp
      | cons z e => simp [ih]; ring

/-- the slice `[a, a+n)` of `t·e_i` (length `L`) -/
theorem slice_oneHot [CommRing K] (L a n i : Nat) (t : K) (h : a + n ≤ L) :
    ((lsmul t (oneHot L i : List K)).drop a).take n =
      lsmul t (if a ≤ i then oneHot n (i - a) else List.replicate n 0) := by
  unfold lsmul
  rw [← List.map_drop, ← List.map_take]
  congr 1
  by_cases h1 : a ≤ i
  · rw [if_pos h1, oneHot_drop L a i h1, oneHot_take _ _ _ (by omega)]
  · rw [if_neg h1, oneHot_drop_of_lt L a i (by omega), List.take_replicate, Nat.min_eq_left (by omega)]

theorem mod_of_window (H c i : Nat) (h1 : H * c ≤ i) (h2 : i < H * c + H) : i % H = i - H * c := by
  have : i = (i - H * c) + H * c := by omega
  conv_lhs => rw [this, Nat.add_mul_mod_self_left]
  exact Nat.mod_eq_of_lt (by omega)

/-- column sum of the slices `[H·o, H·o + n)`, `o < cnt`, of a vector perturbed by `t` in coordinate `i`: entry `i mod H` moves if
coordinate `i` lies in one of the blocks (and that entry exists: `oneHot n j` is zero for `j ≥ n`) -/
theorem stridedSum_perturb [CommRing K] (H n cnt : Nat) (hnH : n ≤ H) (v : List K) (i : Nat) (t : K)
    (hv : H * cnt ≤ v.length) :
    colSum n ((List.range cnt).map fun o => ((perturb v i t).drop (H * o)).take n) =
      vadd (colSum n ((List.range cnt).map fun o => (v.drop (H * o)).take n))
        (lsmul t (if i < H * cnt then oneHot n (i % H) else List.replicate n 0)) := by
  unfold colSum perturb
  induction cnt with
  | zero => exact (vadd_lsmul_zeros _ t n (List.length_replicate ..).symm).symm
  | succ c ih =>
    rw [Nat.mul_succ] at hv ⊢
    rw [List.range_succ, List.map_append, List.map_append, List.foldl_append, List.foldl_append, ih (by omega)]
    simp only [List.map_cons, List.map_nil, List.foldl_cons, List.foldl_nil]
    rw [drop_vadd, take_vadd, slice_oneHot v.length (H * c) n i t (by omega)]
    generalize List.foldl vadd (List.replicate n 0) (List.map (fun o => List.take n (List.drop (H * o) v)) (List.range c)) = A
    generalize List.take n (List.drop (H * c) v) = S
    rw [vadd_assoc, ← vadd_assoc A, vadd_comm _ S, vadd_assoc A, ← vadd_assoc]
    congr 1
    -- the two perturbations never overlap: one of them is zero
    have hz : ∀ x : List K, x.length = n → vadd (lsmul t x) (lsmul t (List.replicate n 0)) = lsmul t x :=
      fun x hx => vadd_lsmul_zeros _ t n (by rw [lsmul_length, hx])
    by_cases hlt : i < H * c
    · rw [if_pos hlt, if_neg (by omega : ¬ H * c ≤ i), if_pos (by omega : i < H * c + H)]
      exact hz _ (oneHot_length ..)
    · rw [if_neg hlt, if_pos (by omega : H * c ≤ i), vadd_comm]
      by_cases hin : i < H * c + H
      · rw [if_pos hin, mod_of_window H c i (by omega) hin]; exact hz _ (oneHot_length ..)
      · rw [if_neg hin, oneHot_eq_replicate _ _ (by omega)]; exact hz _ (List.length_replicate ..)

theorem ite_oneHot [Zero K] [One K] (p : Prop) [Decidable p] (n j : Nat) :
    (if p ∧ j < n then (oneHot n j : List K) else List.replicate n 0) = if p then oneHot n j else List.replicate n 0 := by
  by_cases hp : p
  · by_cases hj : j < n
    · rw [if_pos ⟨hp, hj⟩, if_pos hp]
    · rw [if_neg (fun h => hj h.2), if_pos hp, oneHot_eq_replicate _ _ (Nat.le_of_not_lt hj)]
  · rw [if_neg (fun h => hp h.1), if_neg hp]

end QM.C03
