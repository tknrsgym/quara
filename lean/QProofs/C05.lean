import QModel.C05
import QProofs.C04
/-! helper lemmas for C05: the Dykstra loop of `QModel.C05` over a linearly ordered field. -/
open Finset
set_option linter.unusedSectionVars false
namespace QM.C05
open QM.C04

variable {K : Type} [Field K] [LinearOrder K] [IsStrictOrderedRing K] {N : Nat}

@[simp] theorem add_get (u v : Vec K N) (i : Fin N) : (u.add v).get i = u.get i + v.get i := by simp [Vec.add]
@[simp] theorem sub_get (u v : Vec K N) (i : Fin N) : (u.sub v).get i = u.get i - v.get i := by simp [Vec.sub]
@[simp] theorem zero_get (i : Fin N) : (Vec.zero : Vec K N).get i = 0 := by simp [Vec.zero]

/-- `x + p + q` of a state -/
def St.total (s : St K N) : Vec K N := (s.x.add s.p).add s.q

theorem St.ext' {s t : St K N} (hx : s.x = t.x) (hp : s.p = t.p) (hq : s.q = t.q) : s = t := by
  cases s; cases t; simp_all

/-- the stopping value is `‖p − p'‖² + ‖q − q'‖²` -/
theorem errVal_eq (s s' : St K N) : errVal s s' = sqd1 s.p s'.p + sqd1 s.q s'.q := by
  rw [sqd1_eq, sqd1_eq, ← Finset.sum_add_distrib]; exact fsum_eq_sum _ _

theorem errVal_nonneg (s s' : St K N) : 0 ≤ errVal s s' := by
  rw [errVal_eq]; exact add_nonneg (sqd1_nonneg _ _) (sqd1_nonneg _ _)

theorem errVal_eq_zero (s s' : St K N) (h : errVal s s' = 0) : s'.p = s.p ∧ s'.q = s.q := by
  rw [errVal_eq] at h
  obtain ⟨hp, hq⟩ := (add_eq_zero_iff_of_nonneg (sqd1_nonneg _ _) (sqd1_nonneg _ _)).1 h
  exact ⟨(sqd1_eq_zero _ _ hp).symm, (sqd1_eq_zero _ _ hq).symm⟩

theorem errVal_self (s : St K N) : errVal s s = 0 := by
  simp [errVal_eq, sqd1_eq]

section loopind
variable (eps : K) (P1 P2 : Nat → Vec K N → Vec K N)

/-- the record written by sweep `k` from state `s` -/
def recOf (k : Nat) (s : St K N) : Rec K N :=
  ⟨k, s, (sweep (P1 k) (P2 k) s).1, (sweep (P1 k) (P2 k) s).2,
    if 1 ≤ k then some (errVal s (sweep (P1 k) (P2 k) s).1) else none⟩

/-- `is_stopping` of one sweep -/
def stopB (err : Option K) : Bool :=
  match err with
  | some e => decide (e < eps)
  | none => false

theorem loop_succ (r k : Nat) (s : St K N) (acc : List (Rec K N)) :
    loop eps P1 P2 (r + 1) k s acc =
      if (stopB eps (recOf P1 P2 k s).err || r == 0) = true
      then ⟨(sweep (P1 k) (P2 k) s).1.x, recOf P1 P2 k s :: acc, k, r == 0⟩
      else loop eps P1 P2 r (k + 1) (sweep (P1 k) (P2 k) s).1 (recOf P1 P2 k s :: acc) := by
  rfl

end loopind
/-! ### metric projections, normal cones, the Boyle–Dykstra potential, iterates -/

/-- a map is the metric projection onto the set `A` (characterised by membership + variational inequality) -/
def IsProj (A : Vec K N → Prop) (P : Vec K N → Vec K N) : Prop :=
  ∀ u, A (P u) ∧ ∀ z, A z → ip1 (u.sub (P u)) (z.sub (P u)) ≤ 0


/-- `p` is an outward normal of the set `A` at `y` -/
def NormalAt (A : Vec K N → Prop) (y p : Vec K N) : Prop := ∀ w, A w → ip1 p (w.sub y) ≤ 0

/-- Boyle–Dykstra potential of a state w.r.t. a point `z`: `‖x − z‖² + 2⟪p, y − z⟫ + 2⟪q, x − z⟫`
(`y` = the point at which the correction `p` is normal) -/
def lyap (z y : Vec K N) (s : St K N) : K :=
  sqd1 s.x z + 2 * ip1 s.p (y.sub z) + 2 * ip1 s.q (s.x.sub z)

/-- states after `k` sweeps, together with the last intermediate point `y` -/
def iterSY (P1 P2 : Nat → Vec K N → Vec K N) (x0 : Vec K N) : Nat → St K N × Vec K N
  | 0 => (⟨x0, Vec.zero, Vec.zero⟩, x0)
  | k + 1 => sweep (P1 k) (P2 k) (iterSY P1 P2 x0 k).1

theorem sweep_normal (A B : Vec K N → Prop) (P1 P2 : Vec K N → Vec K N) (h1 : IsProj A P1) (h2 : IsProj B P2)
    (s : St K N) :
    A (sweep P1 P2 s).2 ∧ B (sweep P1 P2 s).1.x ∧
      NormalAt A (sweep P1 P2 s).2 (sweep P1 P2 s).1.p ∧ NormalAt B (sweep P1 P2 s).1.x (sweep P1 P2 s).1.q :=
  ⟨(h1 _).1, (h2 _).1, fun w hw => (h1 _).2 w hw, fun w hw => (h2 _).2 w hw⟩

/-- at a fixed point of the sweep both (shifted) projections return `x` -/
theorem sweep_fix (P1 P2 : Vec K N → Vec K N) (s : St K N) (hfix : (sweep P1 P2 s).1 = s) :
    P1 (s.x.add s.p) = s.x ∧ P2 (s.x.add s.q) = s.x := by
  have hy : P1 (s.x.add s.p) = s.x := by
    apply Vec.ext'; intro i
    have := congrArg (fun t => t.p.get i) hfix
    simp only [sweep, sub_get, add_get] at this
    linarith
  have hx := congrArg St.x hfix
  simp only [sweep] at hx; rw [hy] at hx
  exact ⟨hy, hx⟩

/-- one-sweep identity behind Boyle–Dykstra: potential before = potential after + stopping value + two non-negative terms -/
theorem lyap_identity (P1 P2 : Vec K N → Vec K N) (s : St K N) (y z : Vec K N) :
    lyap z y s = lyap z (sweep P1 P2 s).2 (sweep P1 P2 s).1 + errVal s (sweep P1 P2 s).1
      - 2 * ip1 s.p ((sweep P1 P2 s).2.sub y) - 2 * ip1 s.q ((sweep P1 P2 s).1.x.sub s.x) := by
  simp only [lyap, errVal_eq, sqd1_eq, ip1, sweep, sub_get, add_get, Finset.mul_sum, ← Finset.sum_add_distrib,
    ← Finset.sum_sub_distrib]
  apply Finset.sum_congr rfl; intro i _; ring

theorem ip1_sub_swap (p y z : Vec K N) : ip1 p (y.sub z) = - ip1 p (z.sub y) := by
  simp only [ip1, sub_get, ← Finset.sum_neg_distrib]; exact Finset.sum_congr rfl fun i _ => by ring

theorem ip1_zero_left (v : Vec K N) : ip1 (Vec.zero : Vec K N) v = 0 := by simp [ip1]

theorem ip1_self_nonneg (u : Vec K N) : 0 ≤ ip1 u u := Finset.sum_nonneg fun i _ => mul_self_nonneg _

theorem ip1_sq_le (u v : Vec K N) : ip1 u v * ip1 u v ≤ ip1 u u * ip1 v v := by
  simp only [ip1, ← pow_two]
  exact Finset.sum_mul_sq_le_sq_mul_sq _ _ _

theorem lyap_ge (A B : Vec K N → Prop) (z y : Vec K N) (s : St K N) (hzA : A z) (hzB : B z)
    (hp : NormalAt A y s.p) (hq : NormalAt B s.x s.q) : sqd1 s.x z ≤ lyap z y s := by
  have h1 := hp z hzA
  have h2 := hq z hzB
  rw [lyap, ip1_sub_swap s.p, ip1_sub_swap s.q]; linarith

/-- the stopping value of sweep `j` (between the states after `j` and `j+1` sweeps) -/
def errAt (P1 P2 : Nat → Vec K N → Vec K N) (x0 : Vec K N) (j : Nat) : K :=
  errVal (iterSY P1 P2 x0 j).1 (iterSY P1 P2 x0 (j + 1)).1

/-- `error_value` of sweep `j` as recorded (None for sweep 0) -/
def errOpt (P1 P2 : Nat → Vec K N → Vec K N) (x0 : Vec K N) (j : Nat) : Option K :=
  if 1 ≤ j then some (errAt P1 P2 x0 j) else none

/-- `stop at sweep j` as coded: `j ≥ 1` and the stopping value is `< eps` -/
def StopAt (eps : K) (P1 P2 : Nat → Vec K N → Vec K N) (x0 : Vec K N) (j : Nat) : Prop :=
  1 ≤ j ∧ errAt P1 P2 x0 j < eps

theorem stopB_errOpt (eps : K) (P1 P2 : Nat → Vec K N → Vec K N) (x0 : Vec K N) (j : Nat) :
    stopB eps (errOpt P1 P2 x0 j) = true ↔ StopAt eps P1 P2 x0 j := by
  unfold errOpt StopAt
  split <;> simp [stopB, *]


/-- the loop started at the `k`-th iterate with `r + 1` sweeps left stops at the first sweep `j ≥ k` whose stopping criterion
holds, or at `j = k + r`; it has then recorded the sweeps `k … j` and returns the `x` after sweep `j` -/
theorem loop_eq (eps : K) (P1 P2 : Nat → Vec K N → Vec K N) (x0 : Vec K N) (r k : Nat) (acc : List (Rec K N)) :
    ∃ j, k ≤ j ∧ j ≤ k + r ∧ (∀ i, k ≤ i → i < j → ¬ StopAt eps P1 P2 x0 i) ∧ (StopAt eps P1 P2 x0 j ∨ j = k + r) ∧
      loop eps P1 P2 (r + 1) k (iterSY P1 P2 x0 k).1 acc =
        ⟨(iterSY P1 P2 x0 (j + 1)).1.x,
         ((List.range' k (j + 1 - k)).map fun i => recOf P1 P2 i (iterSY P1 P2 x0 i).1).reverse ++ acc, j, j == k + r⟩ := by
  have hb : ∀ k, stopB eps (recOf P1 P2 k (iterSY P1 P2 x0 k).1).err = true ↔ StopAt eps P1 P2 x0 k :=
    stopB_errOpt eps P1 P2 x0
  induction r generalizing k acc with
  | zero =>
    exact ⟨k, le_rfl, le_rfl, fun i _ h2 => absurd h2 (by omega), Or.inr rfl, by rw [loop_succ]; simp [iterSY]⟩
  | succ r ih =>
    rw [loop_succ]
    by_cases hc : StopAt eps P1 P2 x0 k
    · rw [if_pos (by rw [(hb k).2 hc]; rfl)]
      exact ⟨k, le_rfl, by omega, fun i _ h2 => absurd h2 (by omega), Or.inl hc, by simp [iterSY]⟩
    · rw [if_neg (by simp [hb, hc])]
      obtain ⟨j, h1, h2, h3, h4, h5⟩ := ih (k + 1) (recOf P1 P2 k (iterSY P1 P2 x0 k).1 :: acc)
      refine ⟨j, by omega, by omega, fun i hi hij => ?_, h4.imp_right (by omega), ?_⟩
      · rcases Nat.eq_or_lt_of_le hi with rfl | hlt
        · exact hc
        · exact h3 i hlt hij
      · rw [show j + 1 - k = (j + 1 - (k + 1)) + 1 by omega, List.range'_succ]
        exact h5.trans (by simp [show k + 1 + r = k + (r + 1) by omega])

/-- the whole routine: it stops at the first sweep `j` whose stopping criterion holds, or at `j = max_iteration − 1`; the history
holds the sweeps `0 … j` of the sequence of iterates, and the `x` after sweep `j` is returned -/
theorem run_eq (eps : K) (P1 P2 : Nat → Vec K N → Vec K N) (maxIter : Nat) (x0 : Vec K N) (o : Out K N)
    (h : run eps P1 P2 maxIter x0 = some o) :
    ∃ j, j + 1 ≤ maxIter ∧ (∀ i, i < j → ¬ StopAt eps P1 P2 x0 i) ∧ (StopAt eps P1 P2 x0 j ∨ j + 1 = maxIter) ∧
      o = ⟨(iterSY P1 P2 x0 (j + 1)).1.x,
           ((List.range (j + 1)).map fun i => recOf P1 P2 i (iterSY P1 P2 x0 i).1).reverse, j, j + 1 == maxIter⟩ := by
  unfold run at h
  split at h
  · cases h
  · obtain ⟨r, rfl⟩ : ∃ r, maxIter = r + 1 := ⟨maxIter - 1, by omega⟩
    obtain ⟨j, _, h2, h3, h4, h5⟩ := loop_eq eps P1 P2 x0 r 0 []
    injection h with h
    refine ⟨j, by omega, fun i hi => h3 i (Nat.zero_le _) hi, h4.imp_right (by omega), ?_⟩
    rw [← h]
    exact h5.trans (by simp [List.range_eq_range'])

/-- every history record is the record of a sweep of the sequence of iterates -/
theorem mem_recs (eps : K) (P1 P2 : Nat → Vec K N → Vec K N) (maxIter : Nat) (x0 : Vec K N)
    (o : Out K N) (h : run eps P1 P2 maxIter x0 = some o) (rec : Rec K N) (hrec : rec ∈ o.recs) :
    ∃ i, rec = recOf P1 P2 i (iterSY P1 P2 x0 i).1 := by
  obtain ⟨j, _, _, _, rfl⟩ := run_eq eps P1 P2 maxIter x0 o h
  obtain ⟨i, _, rfl⟩ := List.mem_map.1 (List.mem_reverse.1 hrec)
  exact ⟨i, rfl⟩

/-! ### congruence: only the values of the projections at the arguments actually passed matter -/

theorem loop_congr (eps : K) (P1 P2 P1' P2' : Nat → Vec K N → Vec K N) (x0 : Vec K N)
    (hs : ∀ k, sweep (P1 k) (P2 k) (iterSY P1' P2' x0 k).1 = sweep (P1' k) (P2' k) (iterSY P1' P2' x0 k).1)
    (r k : Nat) (acc : List (Rec K N)) :
    loop eps P1 P2 r k (iterSY P1' P2' x0 k).1 acc = loop eps P1' P2' r k (iterSY P1' P2' x0 k).1 acc := by
  induction r generalizing k acc with
  | zero => rfl
  | succ r ih =>
    have hrec : recOf P1 P2 k (iterSY P1' P2' x0 k).1 = recOf P1' P2' k (iterSY P1' P2' x0 k).1 := by
      simp only [recOf, hs k]
    rw [loop_succ, loop_succ, hrec, hs k]
    have e : (sweep (P1' k) (P2' k) (iterSY P1' P2' x0 k).1).1 = (iterSY P1' P2' x0 (k + 1)).1 := rfl
    rw [e, ih (k + 1)]

/-- the argument handed to the first / second projection in sweep `k` of the run driven by `P1' P2'` -/
def arg1 (P1' P2' : Nat → Vec K N → Vec K N) (x0 : Vec K N) (k : Nat) : Vec K N :=
  (iterSY P1' P2' x0 k).1.x.add (iterSY P1' P2' x0 k).1.p
def arg2 (P1' P2' : Nat → Vec K N → Vec K N) (x0 : Vec K N) (k : Nat) : Vec K N :=
  (P1' k (arg1 P1' P2' x0 k)).add (iterSY P1' P2' x0 k).1.q

/-! ### instances for the examples: two projections on ℚ² (`clip1`: second coordinate clipped at 0; `projH`: half plane) with a fixed
point of their sweeps; the trace-preserving set of a gate on the flat vector -/
def clip1 (v : Vec Rat 2) : Vec Rat 2 := Vec.ofFn fun i => if i.val = 1 ∧ v.get i < 0 then 0 else v.get i

theorem clip1_get (v : Vec Rat 2) (i : Fin 2) : (clip1 v).get i = if i.val = 1 ∧ v.get i < 0 then 0 else v.get i := by
  simp [clip1]

theorem isProj_clip : IsProj (fun v : Vec Rat 2 => 0 ≤ v.get 1) clip1 := by
  intro u
  refine ⟨?_, fun z hz => ?_⟩
  · show 0 ≤ (clip1 u).get 1
    rw [clip1_get]; split
    · exact le_refl _
    · rename_i h; simp at h; exact h
  · simp only [ip1, sub_get, clip1_get, Fin.sum_univ_two]
    by_cases h : u.get 1 < 0
    · simp [h]
      exact mul_nonpos_of_nonpos_of_nonneg h.le hz
    · simp [h]

/-- the trace-preserving set of a gate on the flat HS vector: first row `e0` -/
def GateFlatFeas (n : Nat) (v : Vec K (n * n)) : Prop :=
  ∀ k : Fin (n * n), k.val < n → v.get k = if k.val = 0 then 1 else 0

theorem peqGate_get (n : Nat) (v : Vec K (n * n)) (k : Fin (n * n)) :
    (peqGate v).get k = if k.val = 0 then 1 else if k.val < n then 0 else v.get k := by
  simp [peqGate, Gate.projEqVar]


/-- projection of ℚ² onto the half plane `v₀ ≤ v₁` (does not commute with the trace-one projection) -/
def projH (v : Vec Rat 2) : Vec Rat 2 :=
  if v.get 0 ≤ v.get 1 then v else Vec.ofFn fun _ => (v.get 0 + v.get 1) / 2

theorem isProj_half : IsProj (fun v : Vec Rat 2 => v.get 0 ≤ v.get 1) projH := by
  intro u
  unfold projH
  by_cases h : u.get 0 ≤ u.get 1
  · rw [if_pos h]
    exact ⟨h, fun z _ => by simp [ip1]⟩
  · rw [if_neg h]
    refine ⟨by simp, fun z hz => ?_⟩
    simp only [ip1, sub_get, Vec.get_ofFn, Fin.sum_univ_two]
    calc _ = (u.get 0 - u.get 1) / 2 * (z.get 0 - z.get 1) := by ring
      _ ≤ 0 := mul_nonpos_of_nonneg_of_nonpos (by linarith) (sub_nonpos.2 hz)

/-- a non-trivial fixed point of the sweep for these two sets (x = (1/2,0), p = (5/2,0), q = (0,−1); total (3,−1)) -/
def exFix : St Rat 2 := ⟨#v[1/2, 0], #v[5/2, 0], #v[0, -1]⟩
/-- … and of the other projection order -/
def exFix' : St Rat 2 := ⟨#v[1/2, 0], #v[0, -1], #v[5/2, 0]⟩

theorem exFix_fixed : (sweep (peqState (n := 2) (1/2 : Rat)) clip1 exFix).1 = exFix :=
  St.ext' (by decide +kernel) (by decide +kernel) (by decide +kernel)
theorem exFix'_fixed : (sweep clip1 (peqState (n := 2) (1/2 : Rat)) exFix').1 = exFix' :=
  St.ext' (by decide +kernel) (by decide +kernel) (by decide +kernel)


/-! ### stacked (flat) vectors vs shaped objects -/
section flat
variable {m n : Nat}
theorem unflatten_get (v : Vec K (m * n)) (i : Fin m) (j : Fin n) :
    (unflatten v).get i j = v.get ⟨i.val * n + j.val, idx_lt i j⟩ := by simp [unflatten]

theorem flatten_get (A : Mat K m n) (i : Fin m) (j : Fin n) :
    (flatten A).get ⟨i.val * n + j.val, idx_lt i j⟩ = A.get i j := by
  have hn : 0 < n := j.pos
  simp only [flatten, Vec.get_ofFn]
  congr 1
  · apply Fin.ext; simp [Nat.add_comm, Nat.add_mul_div_right _ _ hn, Nat.div_eq_of_lt j.isLt]
  · apply Fin.ext; simp [Nat.add_mod, Nat.mod_eq_of_lt j.isLt]

theorem unflatten_flatten (A : Mat K m n) : unflatten (flatten A) = A := by
  apply Mat.ext'; intro i j; rw [unflatten_get, flatten_get]

theorem sum_flat (f : Fin (m * n) → K) : ∑ k, f k = ∑ i : Fin m, ∑ j : Fin n, f ⟨i.val * n + j.val, idx_lt i j⟩ := by
  rw [← Fintype.sum_prod_type', ← Equiv.sum_comp finProdFinEquiv f]
  apply Finset.sum_congr rfl; intro p _
  congr 1; apply Fin.ext; simp [finProdFinEquiv, Nat.mul_comm, Nat.add_comm]

theorem ip1_flat (u w : Vec K (m * n)) : ip1 u w = ip2 (unflatten u) (unflatten w) := by
  unfold ip1 ip2; rw [sum_flat]; simp [unflatten_get]

theorem unflatten_sub (u w : Vec K (m * n)) : unflatten (u.sub w) = (unflatten u).sub (unflatten w) := by
  apply Mat.ext'; intro i j; simp [unflatten_get, Mat.sub]

theorem ip2_rows (X Y : Mat K m n) : ip2 X Y = ∑ k : Fin m, ip1 (X.row k) (Y.row k) := rfl

theorem sub_row (A B : Mat K m n) (k : Fin m) : (A.sub B).row k = Vec.sub (A.row k) (B.row k) := by
  simp only [Mat.row, Mat.sub, Mat.ofFn, Vector.getElem_ofFn]; rfl

/-- products of sets: applying a metric projection to each of the `m` blocks of a flat vector is the metric projection onto the
product set (inner products add up over the blocks) -/
theorem isProj_blocks (A : Vec K n → Prop) (P : Vec K n → Vec K n) (hP : IsProj A P) (m : Nat) :
    IsProj (fun v : Vec K (m * n) => ∀ k : Fin m, A ((unflatten v).row k))
      (fun v => flatten (Vector.ofFn fun k : Fin m => P ((unflatten v).row k) : Mat K m n)) := by
  intro u
  have hrow : ∀ k : Fin m, Mat.row (Vector.ofFn fun k : Fin m => P ((unflatten u).row k)) k = P ((unflatten u).row k) :=
    fun k => Vector.getElem_ofFn _
  refine ⟨fun k => ?_, fun z hz => ?_⟩
  · rw [unflatten_flatten, hrow]; exact (hP _).1
  · rw [ip1_flat, unflatten_sub, unflatten_sub, unflatten_flatten, ip2_rows]
    refine Finset.sum_nonpos fun k _ => ?_
    rw [sub_row, sub_row, hrow]; exact (hP _).2 _ (hz k)

theorem tenOfVec_get (v : Vec K (m * (n * n))) (x : Fin m) (a b : Fin n) :
    (tenOfVec v).get x a b = (unflatten ((unflatten v).row x)).get a b := by
  simp [tenOfVec, Ten.get]

theorem tenOfVec_vecOfTen (T : Ten K m n n) : tenOfVec (vecOfTen T) = T := by
  apply Ten.ext'; intro x a b
  rw [tenOfVec_get]
  unfold vecOfTen
  rw [unflatten_flatten]
  simp only [Vector.getElem_ofFn, Fin.getElem_fin]
  rw [unflatten_flatten]
  rfl

theorem ip1_ten (u w : Vec K (m * (n * n))) : ip1 u w = ip3 (tenOfVec u) (tenOfVec w) := by
  rw [ip1_flat, ip2_rows]
  simp only [ip1_flat, ip2, ip3, tenOfVec_get]

theorem tenOfVec_sub (u w : Vec K (m * (n * n))) : tenOfVec (u.sub w) = Ten.sub (tenOfVec u) (tenOfVec w) := by
  apply Ten.ext'; intro x a b
  rw [tenOfVec_get, unflatten_sub, sub_row, unflatten_sub]
  simp only [Ten.sub, Ten.get_ofFn, tenOfVec_get, Mat.sub, Mat.get_ofFn]
end flat

end QM.C05
