import QModel.C02
import QGen.C02
import QProofs.Bridge
import Mathlib.Algebra.Star.Basic
import Mathlib.Logic.Equiv.Fin.Basic
import Mathlib.LinearAlgebra.Matrix.NonsingularInverse
import Mathlib.LinearAlgebra.Matrix.ConjTranspose
import Mathlib.Tactic.Ring
import Mathlib.Tactic.Linarith
import Mathlib.Tactic.FieldSimp
import Mathlib.Algebra.Ring.MinimalAxioms
import Mathlib.Algebra.Field.Rat
import Mathlib.Algebra.Order.Ring.Rat
/-!
# helper lemmas for C02

The model's polymorphic definitions are instantiated at a commutative star-ring `K`
(conjugation = `star`); `toM` / `toV` of QProofs.Bridge turn the flattened matrix–vector
forms into Mathlib matrix identities.  A basis `B` enters through its two tables `M = basisT B`
and `M^† = basisConj B`: orthonormal is `M^† M = 1`, complete is `M M^† = 1`, the Gram matrix of two
bases is `basisConj T * basisT F`.  The gate-level conversions are the state-level ones for the
product basis `bbcBasis B`.
-/
open Matrix
set_option linter.unusedSectionVars false
set_option linter.unusedSimpArgs false
namespace QM.C02

/-- at a Mathlib star-ring the model's conjugation is `star` -/
instance (priority := low) hasConjOfStar {K : Type} [Star K] : HasConj K := ⟨star⟩

theorem conj_eq_star {K : Type} [Star K] (x : K) : (conj x : K) = star x := rfl

/-- `pidx` is Mathlib's `finProdFinEquiv`; `x ↦ (pdiv x, pmod x)` is, definitionally, its inverse -/
theorem pidx_eq {a b : Nat} (i : Fin a) (j : Fin b) : pidx i j = finProdFinEquiv (i, j) :=
  Fin.ext ((Nat.add_comm _ _).trans (congrArg _ (Nat.mul_comm _ _)))

@[simp] theorem pdiv_pidx {a b : Nat} (i : Fin a) (j : Fin b) : pdiv (pidx i j) = i := by
  rw [pidx_eq]; exact congrArg Prod.fst (finProdFinEquiv.symm_apply_apply (i, j))

@[simp] theorem pmod_pidx {a b : Nat} (i : Fin a) (j : Fin b) : pmod (pidx i j) = j := by
  rw [pidx_eq]; exact congrArg Prod.snd (finProdFinEquiv.symm_apply_apply (i, j))

@[simp] theorem pidx_pdiv_pmod {a b : Nat} (x : Fin (a * b)) : pidx (pdiv x) (pmod x) = x := by
  rw [pidx_eq]; exact finProdFinEquiv.apply_symm_apply x

theorem pidx_inj {a b : Nat} {i i' : Fin a} {j j' : Fin b} :
    pidx i j = pidx i' j' ↔ i = i' ∧ j = j' := by
  rw [pidx_eq, pidx_eq, finProdFinEquiv.apply_eq_iff_eq, Prod.mk.injEq]

theorem flat_idx_eq_iff {a b : Nat} (x y : Fin (a * b)) :
    (pdiv x = pdiv y ∧ pmod x = pmod y) ↔ x = y := by
  rw [← pidx_inj, pidx_pdiv_pmod, pidx_pdiv_pmod]

theorem eq_pidx_iff {a b : Nat} (y : Fin (a * b)) (i : Fin a) (j : Fin b) :
    y = pidx i j ↔ pdiv y = i ∧ pmod y = j := by
  rw [← flat_idx_eq_iff, pdiv_pidx, pmod_pidx]

section sums
variable {M : Type} [AddCommMonoid M]

theorem sum_flat {a b : Nat} (f : Fin (a * b) → M) :
    ∑ x, f x = ∑ i : Fin a, ∑ j : Fin b, f (pidx i j) := by
  rw [← Equiv.sum_comp finProdFinEquiv f, Fintype.sum_prod_type]
  simp only [pidx_eq]

theorem fsum_flat {a b : Nat} (f : Fin (a * b) → M) :
    fsum (a * b) f = ∑ i : Fin a, ∑ j : Fin b, f (pidx i j) := by
  rw [fsum_eq_sum, sum_flat]

theorem sum_map_flatMap {α β : Type} (l : List α) (g : α → List β) (f : β → M) :
    ((l.flatMap g).map f).sum = (l.map fun a => ((g a).map f).sum).sum := by
  induction l with
  | nil => rfl
  | cons a l ih => simp [List.flatMap_cons, ih]

theorem sum_pairs {n : Nat} (f : Fin n × Fin n → M) :
    ((pairs n).map f).sum = ∑ a : Fin n, ∑ b : Fin n, f (a, b) := by
  unfold pairs
  rw [sum_map_flatMap, Fin.sum_univ_def]
  congr 1
  apply List.map_congr_left
  intro a _
  rw [Fin.sum_univ_def, List.map_map]
  rfl

theorem foldl_add_eq_sum {α : Type} (l : List α) (f : α → M) (z : M) :
    l.foldl (fun acc t => acc + f t) z = z + (l.map f).sum := by
  induction l generalizing z with
  | nil => simp
  | cons a l ih => simp [ih, add_assoc]
end sums

section plumbing
variable {K : Type}

@[simp] theorem flat_get {a b : Nat} (A : Mat K a b) (x : Fin (a * b)) :
    (flat A).get x = A.get (pdiv x) (pmod x) := by simp [flat]

@[simp] theorem unflat_get {a b : Nat} (v : Vec K (a * b)) (i : Fin a) (j : Fin b) :
    (unflat v).get i j = v.get (pidx i j) := by simp [unflat]

@[simp] theorem unflat_flat {a b : Nat} (A : Mat K a b) : unflat (flat A) = A := by
  apply Mat.ext'; intro i j; simp

@[simp] theorem flat_unflat {a b : Nat} (v : Vec K (a * b)) : flat (unflat v) = v := by
  apply Vec.ext'; intro x; simp

theorem flat_injective {a b : Nat} : Function.Injective (flat : Mat K a b → Vec K (a * b)) :=
  Function.LeftInverse.injective unflat_flat

/-- an entry of a left fold of matrix additions (`density += …`, `sum(…)`, `reduce(add, …)`) -/
theorem foldl_addF_get [AddCommMonoid K] {α : Type} {m n : Nat} (l : List α) (F : α → Mat K m n)
    (z : Mat K m n) (i : Fin m) (j : Fin n) :
    (l.foldl (fun acc k => acc.add (F k)) z).get i j = z.get i j + (l.map fun k => (F k).get i j).sum := by
  rw [← foldl_add_eq_sum]
  exact (List.foldl_hom (Mat.get · i j) fun A k => by simp [Mat.add]).symm

theorem reduceAdd_eq_some [AddCommMonoid K] {m n : Nat} (l : List (Mat K m n)) (hl : l ≠ [])
    (R : Mat K m n) (hR : ∀ i j, R.get i j = (l.map fun A => A.get i j).sum) : reduceAdd l = some R := by
  cases l with
  | nil => exact absurd rfl hl
  | cons t ts =>
    refine congrArg some (Mat.ext' fun i j => ?_)
    rw [hR, List.map_cons, List.sum_cons]
    exact foldl_addF_get ts id t i j

theorem pairs_ne_nil {n : Nat} (hn : 0 < n) : pairs n ≠ [] := fun h =>
  List.ne_nil_of_mem (List.mem_finRange ⟨0, hn⟩)
    (List.map_eq_nil_iff.1 (List.flatMap_eq_nil_iff.1 h ⟨0, hn⟩ (List.mem_finRange _)))

theorem forall_mem_toList {α : Type} {n : Nat} (v : Vec α n) (P : α → Prop) :
    (∀ z ∈ v.toList, P z) ↔ ∀ a, P (v.get a) := by
  simp only [Vector.mem_toList_iff, Vector.mem_iff_getElem]
  exact ⟨fun h a => h _ ⟨a.1, a.2, rfl⟩, fun h z ⟨i, hi, e⟩ => e ▸ h ⟨i, hi⟩⟩

end plumbing

section frames
variable {K : Type} [CommRing K] [StarRing K] {d n : Nat}

/-- orthonormality of the basis, in the `np.vdot` form: `tr(B_a^† B_b) = δ_ab` -/
def Orthonormal (B : Basis K d n) : Prop :=
  ∀ a b, vdot (B.get a) (B.get b) = if a = b then 1 else 0

/-- completeness (resolution of the identity): `Σ_a B_a[x] conj(B_a[y]) = δ_xy` on flattened indices -/
def Complete (B : Basis K d n) : Prop :=
  ∀ x y : Fin (d * d),
    ∑ a, (B.get a).get (pdiv x) (pmod x) * star ((B.get a).get (pdiv y) (pmod y)) = if x = y then 1 else 0

/-- Hermitian basis elements -/
def HermitianBasis (B : Basis K d n) : Prop :=
  ∀ a i j, star ((B.get a).get j i) = (B.get a).get i j

theorem vdot_eq {a b : Nat} (A C : Mat K a b) :
    vdot A C = ∑ x, star (A.get (pdiv x) (pmod x)) * C.get (pdiv x) (pmod x) :=
  fsum_eq_sum _ _

theorem vdot_eq_double {a b : Nat} (A C : Mat K a b) :
    vdot A C = ∑ i, ∑ j, star (A.get i j) * C.get i j := by
  rw [vdot_eq, sum_flat]; simp only [pdiv_pidx, pmod_pidx]

theorem vdot_eq_trace {a b : Nat} (A C : Mat K a b) : vdot A C = ((ctransp A).mul C).trace := by
  rw [vdot_eq_double]
  simp only [Mat.trace, Mat.mul, ctransp, Mat.get_ofFn, fsum_eq_sum, conj_eq_star]
  exact Finset.sum_comm

@[simp] theorem basisT_get (B : Basis K d n) (x : Fin (d * d)) (a : Fin n) :
    (basisT B).get x a = (B.get a).get (pdiv x) (pmod x) := Mat.get_ofFn _ x a

@[simp] theorem basisConj_get (B : Basis K d n) (a : Fin n) (x : Fin (d * d)) :
    (basisConj B).get a x = star ((B.get a).get (pdiv x) (pmod x)) := Mat.get_ofFn _ a x

@[simp] theorem transU_get (F T : Basis K d n) (a b : Fin n) :
    (transU F T).get a b = vdot (T.get a) (F.get b) := Mat.get_ofFn _ a b

/-- the Gram matrix `U[a, b] = vdot(T_a, F_b)` is the product of the two flattened tables -/
theorem toM_transU (F T : Basis K d n) :
    (transU F T).toM = (basisConj T).toM * (basisT F).toM := by
  ext a b
  simp only [Mat.toM_apply, transU_get, vdot_eq, Matrix.mul_apply, basisConj_get, basisT_get]

theorem orthonormal_iff (B : Basis K d n) :
    Orthonormal B ↔ (basisConj B).toM * (basisT B).toM = 1 := by
  rw [← toM_transU, ← Matrix.ext_iff]
  simp only [Mat.toM_apply, transU_get, Matrix.one_apply]
  rfl

theorem complete_iff (B : Basis K d n) :
    Complete B ↔ (basisT B).toM * (basisConj B).toM = 1 := by
  rw [← Matrix.ext_iff]
  simp only [Matrix.mul_apply, Mat.toM_apply, basisT_get, basisConj_get, Matrix.one_apply]
  rfl

/-- an orthonormal family of `d²` matrices of size `d × d` is complete (dimension count) -/
theorem complete_of_orthonormal (B : Basis K d (d * d)) (h : Orthonormal B) : Complete B :=
  (complete_iff B).2 (mul_eq_one_comm.1 ((orthonormal_iff B).1 h))

theorem orthonormal_of_complete (B : Basis K d (d * d)) (h : Complete B) : Orthonormal B := by
  rw [orthonormal_iff]
  exact mul_eq_one_comm.1 ((complete_iff B).1 h)

theorem toM_basisT_conjTranspose (B : Basis K d n) : ((basisT B).toM)ᴴ = (basisConj B).toM := by
  ext a x; simp only [Matrix.conjTranspose_apply, Mat.toM_apply, basisT_get, basisConj_get]

theorem toM_basisConj_conjTranspose (B : Basis K d n) : ((basisConj B).toM)ᴴ = (basisT B).toM := by
  rw [← toM_basisT_conjTranspose, Matrix.conjTranspose_conjTranspose]

theorem toM_ctransp {m n : Nat} (A : Mat K m n) : (ctransp A).toM = (A.toM)ᴴ := by
  ext i j; simp [ctransp, conj_eq_star, Matrix.conjTranspose_apply]

theorem toV_densitySparse_flat (B : Basis K d n) (v : Vec K n) :
    Vec.toV (flat (densitySparse B v)) = (basisT B).toM *ᵥ Vec.toV v := by
  rw [densitySparse, flat_unflat, Mat.toV_mulVec]

theorem toV_vecOfDensityRaw (B : Basis K d n) (rho : Mat K d d) :
    Vec.toV (vecOfDensityRaw B rho) = (basisConj B).toM *ᵥ Vec.toV (flat rho) :=
  Mat.toV_mulVec _ _

theorem vecOfDensityRaw_get (B : Basis K d n) (rho : Mat K d d) (a : Fin n) :
    (vecOfDensityRaw B rho).get a = vdot (B.get a) rho := by
  simp only [vecOfDensityRaw, Mat.mulVec, Vec.get_ofFn, basisConj_get, flat_get]
  rfl

theorem densitySparse_vecOfDensityRaw (B : Basis K d n) (h : Complete B) (rho : Mat K d d) :
    densitySparse B (vecOfDensityRaw B rho) = rho := by
  apply flat_injective
  apply Vec.toV_injective
  rw [toV_densitySparse_flat, toV_vecOfDensityRaw, Matrix.mulVec_mulVec, (complete_iff B).1 h,
    Matrix.one_mulVec]

theorem densityLoop_get (B : Basis K d n) (v : Vec K n) (i j : Fin d) :
    (densityLoop B v).get i j = ∑ a, v.get a * (B.get a).get i j := by
  rw [densityLoop, foldl_addF_get, Fin.sum_univ_def]
  simp [Mat.zero, Mat.smul]

theorem densitySparse_get (B : Basis K d n) (v : Vec K n) (i j : Fin d) :
    (densitySparse B v).get i j = ∑ a, v.get a * (B.get a).get i j := by
  simp only [densitySparse, unflat_get, Mat.mulVec, Vec.get_ofFn, fsum_eq_sum, basisT_get, pdiv_pidx,
    pmod_pidx, mul_comm]

end frames

/-! ## gate: Choi <-> HS

`to_choi_from_hs_with_sparsity` and `to_hs_from_choi_with_sparsity` are the vec → matrix and matrix → vec
conversions of the state section for the product basis `B_α ⊗ conj B_β` of the `d² × d²` matrices. -/
section gate
variable {K : Type} [CommRing K] [StarRing K] {d : Nat}

@[simp] theorem kron_get {a b c e : Nat} (A : Mat K a b) (C : Mat K c e) (x : Fin (a * c)) (y : Fin (b * e)) :
    (kron A C).get x y = A.get (pdiv x) (pdiv y) * C.get (pmod x) (pmod y) := Mat.get_ofFn _ x y

@[simp] theorem conjM_get {m n : Nat} (A : Mat K m n) (i : Fin m) (j : Fin n) :
    (conjM A).get i j = star (A.get i j) := Mat.get_ofFn _ i j

theorem transpose_conjM {m n : Nat} (A : Mat K m n) : Mat.transpose (conjM A) = ctransp A := by
  apply Mat.ext'; intro i j; simp [Mat.transpose, conjM, ctransp]

theorem conjM_transpose {m n : Nat} (A : Mat K m n) : conjM (Mat.transpose A) = ctransp A := by
  apply Mat.ext'; intro i j; simp [Mat.transpose, conjM, ctransp]

@[simp] theorem bbc_get (B : Basis K d (d * d)) (al be i j : Fin (d * d)) :
    (bbc B al be).get i j = bbcEntry B al be i j := by
  simp only [bbc, kron_get, conjM_get, bbcEntry, conj_eq_star]

theorem vdot_kron {a b c e : Nat} (A A' : Mat K a b) (C C' : Mat K c e) :
    vdot (kron A C) (kron A' C') = vdot A A' * vdot C C' := by
  simp only [vdot_eq_double, sum_flat, kron_get, pdiv_pidx, pmod_pidx]
  rw [Finset.sum_mul_sum]
  refine Finset.sum_congr rfl fun i _ => Finset.sum_congr rfl fun i' _ => ?_
  rw [Finset.sum_mul_sum]
  refine Finset.sum_congr rfl fun j _ => Finset.sum_congr rfl fun j' _ => ?_
  rw [star_mul']; ring

theorem vdot_conjM {m n : Nat} (A C : Mat K m n) : vdot (conjM A) (conjM C) = vdot C A := by
  simp only [vdot_eq, conjM_get, star_star, mul_comm]

/-- the product basis `B_α ⊗ conj B_β`, in `itertools.product` order -/
def bbcBasis (B : Basis K d (d * d)) : Basis K (d * d) ((d * d) * (d * d)) :=
  Vec.ofFn fun y => bbc B (pdiv y) (pmod y)

@[simp] theorem bbcBasis_get (B : Basis K d (d * d)) (y : Fin ((d * d) * (d * d))) :
    (bbcBasis B).get y = bbc B (pdiv y) (pmod y) := Vec.get_ofFn _ y

theorem bbcBasis_orthonormal (B : Basis K d (d * d)) (h : Orthonormal B) : Orthonormal (bbcBasis B) := by
  intro y y'
  simp only [bbcBasis_get, bbc, vdot_kron, vdot_conjM, h _ _, ite_zero_mul_ite_zero, mul_one,
    ← flat_idx_eq_iff y y', @eq_comm _ (pmod y')]

theorem bbcT_eq (B : Basis K d (d * d)) : bbcT B = basisT (bbcBasis B) := by
  apply Mat.ext'; intro x y
  simp only [bbcT, Mat.get_ofFn, basisT_get, bbcBasis_get, bbc_get]

theorem bbcConj_eq (B : Basis K d (d * d)) : bbcConj B = basisConj (bbcBasis B) := by
  apply Mat.ext'; intro y x
  simp only [bbcConj, Mat.get_ofFn, basisConj_get, bbcBasis_get, bbc_get, conj_eq_star]

theorem choiSparse_eq (B : Basis K d (d * d)) (hs : Mat K (d * d) (d * d)) :
    choiSparse B hs = densitySparse (bbcBasis B) (flat hs) := by
  rw [choiSparse, bbcT_eq]; rfl

theorem hsOfChoiSparseRaw_eq (B : Basis K d (d * d)) (c : Mat K (d * d) (d * d)) :
    hsOfChoiSparseRaw B c = unflat (vecOfDensityRaw (bbcBasis B) c) := by
  rw [hsOfChoiSparseRaw, bbcConj_eq]; rfl

theorem choiSparse_get (B : Basis K d (d * d)) (hs : Mat K (d * d) (d * d)) (i j : Fin (d * d)) :
    (choiSparse B hs).get i j = ∑ al, ∑ be, hs.get al be * bbcEntry B al be i j := by
  rw [choiSparse_eq, densitySparse_get, sum_flat]
  simp only [flat_get, bbcBasis_get, bbc_get, pdiv_pidx, pmod_pidx]

theorem hsOfChoiSparseRaw_get (B : Basis K d (d * d)) (c : Mat K (d * d) (d * d)) (al be : Fin (d * d)) :
    (hsOfChoiSparseRaw B c).get al be = ∑ i, ∑ j, star (bbcEntry B al be i j) * c.get i j := by
  rw [hsOfChoiSparseRaw_eq, unflat_get, vecOfDensityRaw_get, vdot_eq_double]
  simp only [bbcBasis_get, bbc_get, pdiv_pidx, pmod_pidx]

/-- a table of the non-zero coefficients, folded with a term that vanishes at coefficient `0`, is the full sum
(`_with_dict` implementations) -/
theorem foldl_dict [DecidableEq K] {α β : Type} (l : List (α × β)) (c : α × β → K) (w : α → β → K → K)
    (hw : ∀ a b, w a b 0 = 0) :
    (l.filterMap fun p => if c p = 0 then none else some (p.1, p.2, c p)).foldl
        (fun acc t => acc + w t.1 t.2.1 t.2.2) 0
      = (l.map fun p => w p.1 p.2 (c p)).sum := by
  rw [foldl_add_eq_sum, zero_add]
  induction l with
  | nil => rfl
  | cons p l ih =>
    rw [List.map_cons, List.sum_cons, ← ih, List.filterMap_cons]
    by_cases hc : c p = 0
    · rw [if_pos hc, hc, hw, zero_add]
    · rw [if_neg hc]; rfl

theorem choiLoop_eq (B : Basis K d (d * d)) (hs : Mat K (d * d) (d * d)) (hd : 0 < d) :
    choiLoop B hs = some (choiSparse B hs) := by
  refine reduceAdd_eq_some _ (fun h => pairs_ne_nil (Nat.mul_pos hd hd) (List.map_eq_nil_iff.1 h)) _
    fun i j => ?_
  rw [choiSparse_get, List.map_map, ← sum_pairs fun p => hs.get p.1 p.2 * bbcEntry B p.1 p.2 i j]
  congr 1
  apply List.map_congr_left
  intro p _
  simp [Mat.smul]

end gate

section change
variable {K : Type} [CommRing K] [StarRing K] {d n : Nat}

theorem toM_transU_conjTranspose (F T : Basis K d n) :
    ((transU F T).toM)ᴴ = (transU T F).toM := by
  rw [toM_transU, toM_transU, Matrix.conjTranspose_mul, toM_basisT_conjTranspose,
    toM_basisConj_conjTranspose]

theorem toM_convertHs (F T : Basis K d n) (hs : Mat K n n) :
    (convertHs F T hs).toM = (transU F T).toM * hs.toM * (transU T F).toM := by
  rw [convertHs, Mat.toM_mul, Mat.toM_mul, toM_ctransp, toM_transU_conjTranspose]

theorem toV_convertVec (F T : Basis K d n) (v : Vec K n) :
    Vec.toV (convertVec F T v) = (transU F T).toM *ᵥ Vec.toV v :=
  Mat.toV_mulVec (transU F T) v

theorem transU_comp (F T S : Basis K d n) (hT : Complete T) :
    (transU T S).toM * (transU F T).toM = (transU F S).toM := by
  rw [toM_transU, toM_transU, toM_transU, Matrix.mul_assoc, ← Matrix.mul_assoc (basisT T).toM,
    (complete_iff T).1 hT, Matrix.one_mul]

theorem transU_self (F : Basis K d n) (hF : Orthonormal F) : (transU F F).toM = 1 := by
  rw [toM_transU]; exact (orthonormal_iff F).1 hF

theorem convertHs_comp (F T S : Basis K d n) (hT : Complete T) (hs : Mat K n n) :
    convertHs T S (convertHs F T hs) = convertHs F S hs := by
  apply Mat.toM_injective
  rw [toM_convertHs, toM_convertHs, toM_convertHs, ← transU_comp F T S hT, ← transU_comp S T F hT]
  simp only [Matrix.mul_assoc]

theorem convertHs_self (F : Basis K d n) (hF : Orthonormal F) (hs : Mat K n n) : convertHs F F hs = hs := by
  apply Mat.toM_injective
  rw [toM_convertHs, transU_self F hF, Matrix.one_mul, Matrix.mul_one]

theorem convertVec_comp (F T S : Basis K d n) (hT : Complete T) (v : Vec K n) :
    convertVec T S (convertVec F T v) = convertVec F S v := by
  apply Vec.toV_injective
  rw [toV_convertVec, toV_convertVec, toV_convertVec, Matrix.mulVec_mulVec, transU_comp F T S hT]

theorem convertVec_self (F : Basis K d n) (hF : Orthonormal F) (v : Vec K n) : convertVec F F v = v := by
  apply Vec.toV_injective
  rw [toV_convertVec, transU_self F hF, Matrix.one_mulVec]

theorem eMat_get {d : Nat} (r c i j : Fin d) :
    (eMat r c : Mat K d d).get i j = if i = r ∧ j = c then 1 else 0 := by simp [eMat]

theorem toM_basisT_comp (d : Nat) : (basisT (compBasis d true : Basis K d (d * d))).toM = 1 := by
  ext x a
  simp only [basisT, compBasis, Mat.toM_apply, Mat.get_ofFn, Vec.get_ofFn, if_true, eMat_get,
    Matrix.one_apply, flat_idx_eq_iff]

theorem toM_basisConj_comp (d : Nat) : (basisConj (compBasis d true : Basis K d (d * d))).toM = 1 := by
  rw [← toM_basisT_conjTranspose, toM_basisT_comp, Matrix.conjTranspose_one]

theorem comp_orthonormal (d : Nat) : Orthonormal (compBasis d true : Basis K d (d * d)) := by
  rw [orthonormal_iff, toM_basisT_comp, toM_basisConj_comp, Matrix.mul_one]

theorem toM_convertHs_toComp (B : Basis K d (d * d)) (hs : Mat K (d * d) (d * d)) :
    (convertHs B (compBasis d true) hs).toM = (basisT B).toM * hs.toM * (basisConj B).toM := by
  rw [toM_convertHs, toM_transU, toM_transU, toM_basisT_comp, toM_basisConj_comp, Matrix.one_mul,
    Matrix.mul_one]

theorem toM_convertHs_fromComp (B : Basis K d (d * d)) (X : Mat K (d * d) (d * d)) :
    (convertHs (compBasis d true) B X).toM = (basisConj B).toM * X.toM * (basisT B).toM := by
  rw [toM_convertHs, toM_transU, toM_transU, toM_basisT_comp, toM_basisConj_comp, Matrix.one_mul,
    Matrix.mul_one]

end change

section linear
variable {K : Type} [CommRing K] [StarRing K] {d n : Nat}

theorem flat_add {a b : Nat} (A C : Mat K a b) : flat (A.add C) = (flat A).add (flat C) := by
  apply Vec.ext'; intro x; simp [Mat.add, Vec.add]

theorem flat_smul {a b : Nat} (c : K) (A : Mat K a b) : flat (A.smul c) = (flat A).smul c := by
  apply Vec.ext'; intro x; simp [Mat.smul, Vec.smul]

theorem add_mulVec {m n : Nat} (A C : Mat K m n) (v : Vec K n) :
    (A.add C).mulVec v = (A.mulVec v).add (C.mulVec v) := by
  apply Vec.toV_injective; simp [Matrix.add_mulVec]

end linear

/-! ## Choi matrix = reshuffled computational-basis HS matrix; Kraus forms -/
section kraus
variable {K : Type} [CommRing K] [StarRing K] {d : Nat}

theorem choiSparse_eq_reshuffle (B : Basis K d (d * d)) (hs : Mat K (d * d) (d * d)) (i j : Fin (d * d)) :
    (choiSparse B hs).get i j =
      ((basisT B).toM * hs.toM * (basisConj B).toM) (pidx (pdiv i) (pdiv j)) (pidx (pmod i) (pmod j)) := by
  rw [choiSparse_get]
  simp only [Matrix.mul_apply, Mat.toM_apply, basisT, basisConj, Mat.get_ofFn, pdiv_pidx, pmod_pidx,
    conj_eq_star, bbcEntry, Finset.sum_mul]
  rw [Finset.sum_comm]
  apply Finset.sum_congr rfl; intro be _
  apply Finset.sum_congr rfl; intro al _
  ring

/-- the Choi matrix of the identity map is `|1⟫⟪1|`, for every complete basis -/
theorem choiSparse_one (B : Basis K d (d * d)) (hC : Complete B) :
    choiSparse B Mat.one
      = Mat.ofFn fun i j => if pidx (pdiv i) (pdiv j) = pidx (pmod i) (pmod j) then 1 else 0 := by
  apply Mat.ext'; intro i j
  rw [choiSparse_eq_reshuffle, Mat.toM_one, Matrix.mul_one, (complete_iff B).1 hC, Matrix.one_apply,
    Mat.get_ofFn]

theorem krausTensorSum_get (ks : List (Mat K d d)) (x y : Fin (d * d)) :
    (krausTensorSum ks).get x y
      = (ks.map fun k => k.get (pdiv x) (pdiv y) * star (k.get (pmod x) (pmod y))).sum := by
  unfold krausTensorSum
  rw [foldl_addF_get]
  simp [Mat.zero, kron, conjM, conj_eq_star]

theorem kron_conj_action (k rho : Mat K d d) :
    (kron k (conjM k)).mulVec (flat rho) = flat ((k.mul rho).mul (ctransp k)) := by
  apply Vec.ext'; intro x
  simp only [Mat.mulVec, Vec.get_ofFn, fsum_eq_sum, kron_get, conjM_get, Mat.get_ofFn, flat_get, conj_eq_star,
    Mat.mul, ctransp]
  rw [sum_flat]
  simp only [pdiv_pidx, pmod_pidx, Finset.sum_mul]
  rw [Finset.sum_comm]
  refine Finset.sum_congr rfl fun l _ => Finset.sum_congr rfl fun kk _ => ?_
  ring

/-- the channel `ρ ↦ Σ_K K ρ K^†` (specification; same fold as `krausTensorSum`) -/
def krausApply (ks : List (Mat K d d)) (rho : Mat K d d) : Mat K d d :=
  ks.foldl (fun acc k => acc.add ((k.mul rho).mul (ctransp k))) Mat.zero

/-- `Σ_K |K⟫⟪K|` of a list of operators (row-major flattening) -/
def choiOfKraus (ks : List (Mat K d d)) : Mat K (d * d) (d * d) :=
  Mat.ofFn fun i j => (ks.map fun k => (flat k).get i * star ((flat k).get j)).sum

theorem krausTensorSum_action (ks : List (Mat K d d)) (rho : Mat K d d) :
    (krausTensorSum ks).mulVec (flat rho) = flat (krausApply ks rho) := by
  -- the two folds keep `Z · vec(ρ) = vec(R)` between their accumulators
  suffices ∀ (Z : Mat K (d * d) (d * d)) (R : Mat K d d), Z.mulVec (flat rho) = flat R →
      (ks.foldl (fun acc k => acc.add (kron k (conjM k))) Z).mulVec (flat rho)
        = flat (ks.foldl (fun acc k => acc.add ((k.mul rho).mul (ctransp k))) R) from
    this _ _ (Vec.ext' fun x => by
      simp only [Mat.mulVec, Mat.zero, Vec.get_ofFn, Mat.get_ofFn, flat_get, fsum_eq_sum, zero_mul,
        Finset.sum_const_zero])
  induction ks with
  | nil => exact fun Z R h => h
  | cons k ks ih => exact fun Z R h => ih _ _ (by rw [add_mulVec, h, kron_conj_action, flat_add])

end kraus

section procmat
variable {K : Type} [CommRing K] [StarRing K] {d n : Nat}

/-! matrix units: `E_α^† ⊗ E_β^T` is a single matrix unit, and the trace against it picks one entry -/

theorem ctransp_eMat (r c : Fin d) : ctransp (eMat r c : Mat K d d) = eMat c r := by
  apply Mat.ext'; intro i j
  simp only [ctransp, Mat.get_ofFn, eMat_get, conj_eq_star, apply_ite star, star_one, star_zero, and_comm]

theorem transpose_eMat (r c : Fin d) : (eMat r c : Mat K d d).transpose = eMat c r := by
  apply Mat.ext'; intro i j
  simp only [Mat.transpose, Mat.get_ofFn, eMat_get, and_comm]

theorem kron_eMat {a b : Nat} (r c : Fin a) (r' c' : Fin b) :
    kron (eMat r c : Mat K a a) (eMat r' c' : Mat K b b) = eMat (pidx r r') (pidx c c') := by
  apply Mat.ext'; intro x y
  simp only [kron_get, eMat_get, ite_zero_mul_ite_zero, mul_one, eq_pidx_iff, and_and_and_comm]

theorem trace_eMat_mul (r c : Fin n) (H : Mat K n n) : ((eMat r c : Mat K n n).mul H).trace = H.get c r := by
  simp only [Mat.trace, Mat.mul, Mat.get_ofFn, fsum_eq_sum, eMat_get, ite_mul, one_mul, zero_mul, ite_and]
  rw [Finset.sum_comm]
  simp only [Finset.sum_ite_eq', Finset.mem_univ, if_true]

/-- on a matrix unit either gate conversion reads off one coefficient of `B_α ⊗ conj B_β` -/
theorem choiSparse_eMat (B : Basis K d (d * d)) (al be i j : Fin (d * d)) :
    (choiSparse B (eMat al be)).get i j = bbcEntry B al be i j := by
  rw [choiSparse_get]
  simp only [eMat_get, ite_and, ite_mul, one_mul, zero_mul, Finset.sum_ite_irrel, Finset.sum_const_zero,
    Finset.sum_ite_eq', Finset.mem_univ, if_true]

theorem hsOfChoiSparseRaw_eMat (B : Basis K d (d * d)) (al be i j : Fin (d * d)) :
    (hsOfChoiSparseRaw B (eMat i j)).get al be = star (bbcEntry B al be i j) := by
  rw [hsOfChoiSparseRaw_get]
  simp only [eMat_get, ite_and, mul_ite, mul_one, mul_zero, Finset.sum_ite_irrel, Finset.sum_const_zero,
    Finset.sum_ite_eq', Finset.mem_univ, if_true]

/-! column-major computational basis: the row-major one permuted by `swapIdx`; `flatten('F')` -/

/-- the index permutation `(i, j) ↦ (j, i)` on flattened indices -/
def swapIdx {d : Nat} (x : Fin (d * d)) : Fin (d * d) := pidx (pmod x) (pdiv x)

theorem swapIdx_involutive {d : Nat} : Function.Involutive (swapIdx : Fin (d * d) → Fin (d * d)) :=
  fun x => by simp [swapIdx]

theorem compBasis_col_get (d : Nat) (x : Fin (d * d)) :
    (compBasis d false : Basis K d (d * d)).get x = (compBasis d true : Basis K d (d * d)).get (swapIdx x) := by
  simp [compBasis, swapIdx]

theorem comp_col_orthonormal (d : Nat) : Orthonormal (compBasis d false : Basis K d (d * d)) := fun a b => by
  rw [compBasis_col_get, compBasis_col_get, comp_orthonormal d (swapIdx a) (swapIdx b)]
  exact if_congr swapIdx_involutive.injective.eq_iff rfl rfl

theorem convertHs_reindex (F T T' : Basis K d n) (σ : Fin n → Fin n)
    (h : ∀ x, T'.get x = T.get (σ x)) (hs : Mat K n n) (x y : Fin n) :
    (convertHs F T' hs).get x y = (convertHs F T hs).get (σ x) (σ y) := by
  simp [convertHs, Mat.mul, ctransp, transU, h]

/-- `matrix.flatten('F')` (column-major flattening) -/
def flatCol {d : Nat} (A : Mat K d d) : Vec K (d * d) := Vec.ofFn fun x => A.get (pmod x) (pdiv x)

theorem flatCol_get {d : Nat} (A : Mat K d d) (x : Fin (d * d)) :
    (flatCol A).get x = (flat A).get (swapIdx x) := by simp [flatCol, swapIdx]

theorem sum_swapIdx {d : Nat} (g : Fin (d * d) → K) : ∑ y, g (swapIdx y) = ∑ y, g y :=
  Equiv.sum_comp (swapIdx_involutive.toPerm) g

end procmat

/-! ## Gaussian rationals form a commutative star-ring: the theorems hold literally for the executed instance -/
namespace CRat
theorem ext' {a b : CRat} (h1 : a.re = b.re) (h2 : a.im = b.im) : a = b := by
  cases a; cases b; simp_all
@[simp] theorem add_re (a b : CRat) : (a + b).re = a.re + b.re := rfl
@[simp] theorem add_im (a b : CRat) : (a + b).im = a.im + b.im := rfl
@[simp] theorem mul_re (a b : CRat) : (a * b).re = a.re * b.re - a.im * b.im := rfl
@[simp] theorem mul_im (a b : CRat) : (a * b).im = a.re * b.im + a.im * b.re := rfl
@[simp] theorem neg_re (a : CRat) : (-a).re = -a.re := rfl
@[simp] theorem neg_im (a : CRat) : (-a).im = -a.im := rfl
@[simp] theorem zero_re : (0 : CRat).re = 0 := rfl
@[simp] theorem zero_im : (0 : CRat).im = 0 := rfl
@[simp] theorem one_re : (1 : CRat).re = 1 := rfl
@[simp] theorem one_im : (1 : CRat).im = 0 := rfl
@[simp] theorem conj_re (a : CRat) : (conj a).re = a.re := rfl
@[simp] theorem conj_im (a : CRat) : (conj a).im = -a.im := rfl

instance : CommRing CRat := CommRing.ofMinimalAxioms
  (by intro a b c; apply ext' <;> simp [add_assoc])
  (by intro a; apply ext' <;> simp)
  (by intro a; apply ext' <;> simp)
  (by intro a b c; apply ext' <;> simp <;> ring)
  (by intro a b; apply ext' <;> simp <;> ring)
  (by intro a; apply ext' <;> simp)
  (by intro a b c; apply ext' <;> simp <;> ring)

instance : StarRing CRat where
  star := conj
  star_involutive := by intro a; apply ext' <;> simp
  star_mul := by intro a b; apply ext' <;> simp <;> ring
  star_add := by intro a b; apply ext' <;> simp <;> ring
end CRat

section trunc

/-- `truncate_hs` on one entry: the guard on the imaginary part, then `.real` and the fluctuation cut -/
theorem truncEntry_eq (eps : Rat) (z : CRat) :
    truncEntry eps z = if rabs z.im < eps ∨ z.im = 0 then .ok (if rabs z.re < eps then 0 else z.re)
      else .error .imagNonZero := by
  unfold truncEntry
  by_cases h1 : rabs z.im < eps <;> by_cases h2 : z.im = 0 <;> simp [h1, h2]

theorem cut_cases (eps x : Rat) : ((if rabs x < eps then 0 else x) = x ∧ ¬ rabs x < eps) ∨
    ((if rabs x < eps then 0 else x) = 0 ∧ rabs x < eps) := by
  by_cases h : rabs x < eps
  · exact Or.inr ⟨if_pos h, h⟩
  · exact Or.inl ⟨if_neg h, h⟩

theorem truncEntry_isOk_iff (eps : Rat) (z : CRat) :
    (∃ r, truncEntry eps z = .ok r) ↔ (rabs z.im < eps ∨ z.im = 0) := by
  rw [truncEntry_eq]; split
  · exact iff_of_true ⟨_, rfl⟩ ‹_›
  · exact iff_of_false (fun ⟨_, h⟩ => by cases h) ‹_›

/-- `truncate_hs` on a list: every entry passes the guard, then the entrywise cut -/
theorem truncList_eq (eps : Rat) (l : List CRat) :
    truncList eps l = if ∀ z ∈ l, rabs z.im < eps ∨ z.im = 0
      then .ok (l.map fun z => if rabs z.re < eps then 0 else z.re) else .error .imagNonZero := by
  induction l with
  | nil => rfl
  | cons z l ih =>
    rw [truncList, List.mapM_cons, ← truncList, ih, truncEntry_eq]
    simp only [List.forall_mem_cons, ite_and]
    by_cases h1 : rabs z.im < eps ∨ z.im = 0
    · rw [if_pos h1, if_pos h1]
      by_cases h2 : ∀ z ∈ l, rabs z.im < eps ∨ z.im = 0
      · rw [if_pos h2, if_pos h2]; rfl
      · rw [if_neg h2, if_neg h2]; rfl
    · rw [if_neg h1, if_neg h1]; rfl

theorem truncList_isOk_iff (eps : Rat) (l : List CRat) :
    (∃ r, truncList eps l = .ok r) ↔ ∀ z ∈ l, rabs z.im < eps ∨ z.im = 0 := by
  rw [truncList_eq]; split
  · exact iff_of_true ⟨_, rfl⟩ ‹_›
  · exact iff_of_false (fun ⟨_, h⟩ => by cases h) ‹_›

theorem truncList_error (eps : Rat) (l : List CRat) (e : Err) (h : truncList eps l = .error e) :
    e = .imagNonZero := by
  rw [truncList_eq] at h; split at h <;> cases h; rfl

theorem truncList_ok (eps : Rat) (l : List CRat) (r : List Rat) (h : truncList eps l = .ok r) :
    (∀ z ∈ l, rabs z.im < eps ∨ z.im = 0) ∧ r = l.map fun z => if rabs z.re < eps then 0 else z.re := by
  rw [truncList_eq] at h; split at h <;> cases h; exact ⟨‹_›, rfl⟩

theorem CRat.star_eq_iff (z : CRat) : star z = z ↔ z.im = 0 :=
  ⟨fun h => neg_eq_self.1 (congrArg CRat.im h),
    fun h => CRat.ext' rfl ((congrArg Neg.neg h).trans (neg_zero.trans h.symm))⟩

theorem rabs_not_lt_zero (x : Rat) : ¬ rabs x < 0 := by
  unfold rabs; split <;> linarith

end trunc

/-! ## Hermitian matrices have real coefficients in a Hermitian basis, and conversely -/
section hermcoef
variable {K : Type} [CommRing K] [StarRing K] {d n : Nat}

/-- `ρ` Hermitian (entrywise) -/
def IsHermitianMat (rho : Mat K d d) : Prop := ∀ i j, star (rho.get j i) = rho.get i j

theorem coeff_real_of_hermitian (B : Basis K d n) (hB : HermitianBasis B) (rho : Mat K d d)
    (hr : IsHermitianMat rho) (a : Fin n) :
    star ((vecOfDensityRaw B rho).get a) = (vecOfDensityRaw B rho).get a := by
  rw [vecOfDensityRaw_get, vdot_eq_double, star_sum]
  simp only [star_sum, star_mul', star_star]
  rw [Finset.sum_comm]
  apply Finset.sum_congr rfl; intro i _
  apply Finset.sum_congr rfl; intro j _
  rw [← hB a i j, ← hr i j, star_star]

theorem densitySparse_hermitian (B : Basis K d n) (hB : HermitianBasis B) (v : Vec K n)
    (hv : ∀ a, star (v.get a) = v.get a) : IsHermitianMat (densitySparse B v) := by
  intro i j
  rw [densitySparse_get, densitySparse_get, star_sum]
  apply Finset.sum_congr rfl; intro a _
  rw [star_mul', hv a, hB a i j]

theorem hermitian_of_coeff_real (B : Basis K d n) (hB : HermitianBasis B) (hC : Complete B) (rho : Mat K d d)
    (hc : ∀ a, star ((vecOfDensityRaw B rho).get a) = (vecOfDensityRaw B rho).get a) :
    IsHermitianMat rho := by
  rw [← densitySparse_vecOfDensityRaw B hC rho]
  exact densitySparse_hermitian B hB _ hc

theorem bbcBasis_hermitian {d : Nat} (B : Basis K d (d * d)) (hB : HermitianBasis B) :
    HermitianBasis (bbcBasis B) := by
  intro y i j
  simp only [bbcBasis_get, bbc_get, bbcEntry, conj_eq_star, star_mul', star_star]
  rw [hB _ (pdiv i) (pdiv j), ← hB _ (pmod j) (pmod i)]

end hermcoef

section contract

/-- the contract of numpy's kernels used by `to_kraus_matrices_from_hs`, as one hypothesis:
`eigh` returned a spectral decomposition of the Choi matrix (`C = Σ_e λ_e v_e v_e^†`; orthonormality of the
`v_e` is not required), `sqrt` is exact on the eigenvalues that pass the zero filter, and the eigenvalues
inside the filter are exactly zero. -/
structure EighContract {d : Nat} (B : Basis CRat d (d * d)) (hs : Mat CRat (d * d) (d * d))
    (eigs : List (EigPair d)) (atolS : Rat) : Prop where
  spec : ∀ i j, (choiSparse B hs).get i j
      = (eigs.map fun e => CRat.ofRat e.val * (e.vec.get i * conj (e.vec.get j))).sum
  sqrt_exact : ∀ e ∈ eigs, closeZero e.val atolS = false → e.sqrtVal * e.sqrtVal = e.val
  filtered_zero : ∀ e ∈ eigs, closeZero e.val atolS = true → e.val = 0

end contract

/-! ## Kraus extraction: filter / sort / scaling of `krausRaw` under the `eigh` contract -/
section krauslink
variable {d : Nat}

theorem ofRat_mul_ofRat (a b : Rat) : CRat.ofRat a * CRat.ofRat b = CRat.ofRat (a * b) := by
  apply CRat.ext' <;> simp [CRat.ofRat]

theorem star_ofRat (a : Rat) : star (CRat.ofRat a) = CRat.ofRat a := by
  apply CRat.ext' <;> simp [CRat.ofRat, Star.star]

theorem insertDesc_perm (e : EigPair d) (l : List (EigPair d)) : (insertDesc e l).Perm (e :: l) := by
  induction l with
  | nil => simp [insertDesc]
  | cons x xs ih =>
    unfold insertDesc
    split
    · exact List.Perm.refl _
    · exact (List.Perm.cons x ih).trans (List.Perm.swap e x xs)

theorem sortDesc_perm (l : List (EigPair d)) : (sortDesc l).Perm l := by
  suffices ∀ acc, (l.foldl (fun acc e => insertDesc e acc) acc).Perm (l ++ acc) by
    simpa [sortDesc] using this []
  induction l with
  | nil => exact fun acc => .refl _
  | cons a l ih =>
    exact fun acc => (ih _).trans ((List.Perm.append_left l (insertDesc_perm a acc)).trans List.perm_middle)

theorem sum_map_filter {α : Type} (l : List α) (p : α → Bool) (g f : α → CRat)
    (hkept : ∀ e ∈ l, p e = true → g e = f e) (hdropped : ∀ e ∈ l, p e = false → f e = 0) :
    ((l.filter p).map g).sum = (l.map f).sum := by
  induction l with
  | nil => rfl
  | cons a l ih =>
    rw [List.forall_mem_cons] at hkept hdropped
    rw [List.filter_cons, List.map_cons, List.sum_cons, ← ih hkept.2 hdropped.2]
    cases hp : p a
    · rw [if_neg Bool.false_ne_true, hdropped.1 hp, zero_add]
    · rw [if_pos rfl, List.map_cons, List.sum_cons, hkept.1 hp]

theorem choiOfKraus_krausRaw (B : Basis CRat d (d * d)) (hs : Mat CRat (d * d) (d * d))
    (eigs : List (EigPair d)) (atol atolS : Rat) (hcp : isCp (choiSparse B hs) eigs atol = true)
    (hc : EighContract B hs eigs atolS) : choiOfKraus (krausRaw B hs eigs atol atolS) = choiSparse B hs := by
  apply Mat.ext'; intro i j
  rw [hc.spec, choiOfKraus, Mat.get_ofFn, krausRaw, hcp, if_neg (by decide), List.map_map,
    ((sortDesc_perm _).map _).sum_eq]
  refine sum_map_filter _ _ _ _ (fun e he hp => ?_) fun e he hp => ?_
  · simp only [Function.comp, flat_get, Mat.smul, Mat.get_ofFn, unflat_get, pidx_pdiv_pmod]
    rw [star_mul', star_ofRat, ← hc.sqrt_exact e he (by simpa using hp), ← ofRat_mul_ofRat]
    exact mul_mul_mul_comm _ _ _ _
  · rw [hc.filtered_zero e he (by simpa using hp)]
    exact zero_mul _

end krauslink

section phase
variable {K : Type} [CommRing K] [StarRing K] {d : Nat}

/-- multiplying every Kraus operator by a unit-modulus scalar (the phase convention of step 3) -/
def phased (ps : List K) (ks : List (Mat K d d)) : List (Mat K d d) :=
  List.zipWith (fun p k => k.smul p) ps ks

/-- a unit-modulus factor cancels in `k[i,j] · conj k[i',j']` -/
theorem smul_get_mul_star {m n : Nat} (p : K) (hp : p * star p = 1) (k : Mat K m n) (i i' : Fin m)
    (j j' : Fin n) :
    (k.smul p).get i j * star ((k.smul p).get i' j') = k.get i j * star (k.get i' j') := by
  rw [Mat.smul, Mat.get_ofFn, Mat.get_ofFn, star_mul', mul_mul_mul_comm, hp, one_mul]

theorem phased_sum (ps : List K) (ks : List (Mat K d d)) (hp : ∀ p ∈ ps, p * star p = 1)
    (hlen : ps.length = ks.length) (i j i' j' : Fin d) :
    ((phased ps ks).map fun k => k.get i j * star (k.get i' j')).sum
      = (ks.map fun k => k.get i j * star (k.get i' j')).sum := by
  induction ps generalizing ks with
  | nil => rw [List.length_eq_zero_iff.1 hlen.symm]; rfl
  | cons p ps ih =>
    cases ks with
    | nil => cases hlen
    | cons k ks =>
      simp only [phased, List.zipWith_cons_cons, List.map_cons, List.sum_cons] at ih ⊢
      rw [ih ks (fun q hq => hp q (List.mem_cons_of_mem p hq)) (Nat.succ.inj hlen),
        smul_get_mul_star p (hp p List.mem_cons_self)]

end phase

section phasefix
variable {d : Nat}

theorem cInv_unit (e : CRat) (h : e.re * e.re + e.im * e.im = 1) : cInv e * star (cInv e) = 1 := by
  apply CRat.ext'
  · simp only [cInv, h, CRat.mul_re, Star.star, CRat.conj_re, CRat.conj_im, CRat.one_re]
    simp only [div_one]; linarith
  · simp only [cInv, h, CRat.mul_im, Star.star, CRat.conj_re, CRat.conj_im, CRat.one_im]
    simp only [div_one]; ring

theorem CRat.normSq_mul_inv_abs (v : CRat) (a : Rat) (hv : v ≠ 0)
    (ha : a * a = v.re * v.re + v.im * v.im) :
    (v * CRat.ofRat (1 / a)).re * (v * CRat.ofRat (1 / a)).re
      + (v * CRat.ofRat (1 / a)).im * (v * CRat.ofRat (1 / a)).im = 1 := by
  have ha0 : a ≠ 0 := by
    rintro rfl
    rw [zero_mul] at ha
    obtain ⟨hr, hi⟩ := mul_self_add_mul_self_eq_zero.1 ha.symm
    exact hv (CRat.ext' hr hi)
  simp only [CRat.mul_re, CRat.mul_im, CRat.ofRat, mul_zero, sub_zero, zero_add]
  calc v.re * (1 / a) * (v.re * (1 / a)) + v.im * (1 / a) * (v.im * (1 / a))
      = (v.re * v.re + v.im * v.im) * (a * a)⁻¹ := by ring
    _ = 1 := by rw [← ha, mul_inv_cancel₀ (mul_self_ne_zero.2 ha0)]

/-- the phase factor has modulus one when numpy's `abs` is exact on the entry it is applied to -/
theorem phaseFactor_unit (k : Mat CRat d d) (absFlat : Vec Rat (d * d))
    (habs : ∀ x, ((flat k).get x) ≠ 0 →
      absFlat.get x * absFlat.get x = ((flat k).get x).re * ((flat k).get x).re + ((flat k).get x).im * ((flat k).get x).im) :
    phaseFactor k absFlat * star (phaseFactor k absFlat) = 1 := by
  unfold phaseFactor
  split
  · rw [star_one, mul_one]
  · rename_i x hx
    have hne : (flat k).get x ≠ 0 := by simpa using List.find?_some hx
    dsimp only
    split
    · exact cInv_unit _ (CRat.normSq_mul_inv_abs _ _ hne (habs x hne))
    · rw [star_one, mul_one]

/-- numpy's `abs` is exact on the scaled eigenvectors (contract of the phase step) -/
def AbsContract (eigs : List (EigPair d)) : Prop :=
  ∀ e ∈ eigs, ∀ x : Fin (d * d),
    let z := CRat.ofRat e.sqrtVal * e.vec.get x
    e.absScaled.get x * e.absScaled.get x = z.re * z.re + z.im * z.im

/-- the operators of `krausFull` (phase convention included) have the same `Σ |K⟫⟪K|` as those of `krausRaw` -/
theorem choiOfKraus_krausFull (B : Basis CRat d (d * d)) (hs : Mat CRat (d * d) (d * d))
    (eigs : List (EigPair d)) (atol atolS : Rat) (habs : AbsContract eigs) :
    choiOfKraus (krausFull B hs eigs atol atolS) = choiOfKraus (krausRaw B hs eigs atol atolS) := by
  unfold krausFull krausRaw
  split
  · rfl
  · apply Mat.ext'; intro i j
    simp only [choiOfKraus, Mat.get_ofFn, List.map_map, Function.comp_def, flat_get, phaseFix]
    refine congrArg List.sum (List.map_congr_left fun e he => smul_get_mul_star _ ?_ _ _ _ _ _)
    have he' : e ∈ eigs := (List.mem_filter.1 ((sortDesc_perm _).mem_iff.1 he)).1
    apply phaseFactor_unit
    intro x _
    rw [flat_get, Mat.smul, Mat.get_ofFn, unflat_get, pidx_pdiv_pmod]
    exact habs e he' x

end phasefix

section executed

/-- real matrix / vector as complex data (`x ↦ x + 0i`) -/
def ofRatMat {m n : Nat} (A : Mat Rat m n) : Mat CRat m n := Mat.ofFn fun i j => CRat.ofRat (A.get i j)
def ofRatVec {n : Nat} (v : Vec Rat n) : Vec CRat n := Vec.ofFn fun i => CRat.ofRat (v.get i)

theorem toList_ofFn_comp {α β : Type} {n : Nat} (v : Vec α n) (f : α → β) :
    (Vec.ofFn fun i => f (v.get i)).toList = v.toList.map f := by
  rw [← Vector.toList_map]
  exact congrArg Vector.toList (Vector.ext fun i hi => by simp [Vec.ofFn, Vec.get])

theorem matList_ofRatMat {m n : Nat} (A : Mat Rat m n) : matList (ofRatMat A) = (matList A).map CRat.ofRat := by
  unfold matList
  rw [← toList_ofFn_comp (flat A) CRat.ofRat]
  exact congrArg Vector.toList (Vec.ext' fun x => by simp [ofRatMat])

/-- `truncate_hs` is the identity on real data whose entries are 0 or at least `eps` in modulus -/
theorem truncList_ofRat (eps : Rat) (xs : List Rat) (h : ∀ x ∈ xs, x = 0 ∨ ¬ rabs x < eps) :
    truncList eps (xs.map CRat.ofRat) = .ok xs := by
  rw [truncList_eq, if_pos fun z hz => by obtain ⟨x, _, rfl⟩ := List.mem_map.1 hz; exact Or.inr rfl,
    List.map_map]
  refine congrArg Except.ok ((List.map_congr_left fun x hx => ?_).trans (List.map_id xs))
  rcases h x hx with rfl | h'
  · exact ite_self _
  · exact if_neg h'

theorem mapM_map_eq_ok {α β γ ε : Type} (F : γ → α) (f : α → Except ε β) (g : γ → β) (l : List γ)
    (h : ∀ c ∈ l, f (F c) = .ok (g c)) : (l.map F).mapM f = .ok (l.map g) := by
  induction l with
  | nil => rfl
  | cons c l ih =>
    rw [List.map_cons, List.mapM_cons, h c List.mem_cons_self, ih fun c hc => h c (List.mem_cons_of_mem _ hc)]
    rfl

theorem truncList_ofRatMat {m n : Nat} (eps : Rat) (A : Mat Rat m n)
    (hbig : ∀ x ∈ matList A, x = 0 ∨ ¬ rabs x < eps) : truncList eps (matList (ofRatMat A)) = .ok (matList A) := by
  rw [matList_ofRatMat, truncList_ofRat eps _ hbig]

theorem hsOfKraus_eq {d : Nat} (eps : Rat) (B : Basis CRat d (d * d)) (ks : List (Mat CRat d d)) (hne : ks ≠ []) :
    hsOfKraus eps B ks = truncList eps (matList (hsOfKrausRaw B ks)) :=
  if_neg (by rwa [List.isEmpty_iff])

theorem realList_map_ofRat (xs : List Rat) : realList (xs.map CRat.ofRat) = xs :=
  List.map_map.trans (List.map_id xs)

/-- `convert_hs_to_var(…, True)` on the flattened list: deleting row 0 drops the first `n` entries -/
theorem matList_drop_eq {α : Type} {n : Nat} (M : Mat α n n) : (matList M).drop n = (hsToVarEq M).toList := by
  apply List.ext_getElem
  · rw [List.length_drop, matList, Vector.length_toList, Vector.length_toList, Nat.sub_mul, Nat.one_mul]
  · intro k h1 h2
    have hn : 0 < n := by
      rw [Vector.length_toList] at h2
      exact Nat.pos_of_ne_zero fun h => by rw [h] at h2; exact Nat.not_lt_zero _ h2
    simp only [List.getElem_drop, matList, Vector.getElem_toList, hsToVarEq, Vec.ofFn, Vector.getElem_ofFn, flat]
    congr 1 <;> apply Fin.ext
    · simp only [pdiv]
      rw [Nat.add_comm, Nat.add_div_right _ hn]
    · simp only [pmod]
      rw [Nat.add_comm, Nat.add_mod_right]

theorem varToHsEq_ofRat {n : Nat} (w : Vec Rat ((n - 1) * n)) : varToHsEq (ofRatVec w) = ofRatMat (varToHsEq w) := by
  apply Mat.ext'; intro i j
  simp only [varToHsEq, ofRatMat, ofRatVec, Mat.get_ofFn, Vec.get_ofFn]
  by_cases h : i.val = 0
  · by_cases h2 : j.val = 0 <;> simp [h, h2, CRat.ofRat] <;> rfl
  · simp [h]

theorem unflat_ofRatVec {a b : Nat} (v : Vec Rat (a * b)) : (unflat (ofRatVec v) : Mat CRat a b) = ofRatMat (unflat v) := by
  apply Mat.ext'; intro i j; simp [ofRatMat, ofRatVec]

end executed

/-- `Povm._md_index2serial_index`: every component in range, then the row-major (Horner) value -/
theorem mdSerialAux_eq : ∀ (lens idx : List Nat) (acc : Nat), lens.length = idx.length →
    mdSerialAux lens idx acc = if ∀ p ∈ lens.zip idx, p.2 < p.1
      then .ok ((lens.zip idx).foldl (fun acc p => acc * p.1 + p.2) acc) else .error .indexError
  | [], [], _, _ => rfl
  | l :: ls, i :: is, acc, hlen => by
    rw [mdSerialAux, mdSerialAux_eq ls is _ (Nat.succ.inj hlen), List.zip_cons_cons, List.foldl_cons]
    simp only [List.forall_mem_cons, ite_and]

section frob
variable {K : Type} [CommRing K] [StarRing K] {d : Nat}

/-- squared Frobenius norm `Σ conj(m_ij) m_ij` -/
def frobSq {m n : Nat} (A : Mat K m n) : K := ∑ x, star ((flat A).get x) * (flat A).get x

/-- Parseval: for a complete family the coefficient vector has the Frobenius norm of the matrix -/
theorem frobSq_vecOfDensityRaw {n : Nat} (B : Basis K d n) (h : Complete B) (rho : Mat K d d) :
    ∑ a, star ((vecOfDensityRaw B rho).get a) * (vecOfDensityRaw B rho).get a = frobSq rho := by
  change star (Vec.toV (vecOfDensityRaw B rho)) ⬝ᵥ Vec.toV (vecOfDensityRaw B rho)
    = star (Vec.toV (flat rho)) ⬝ᵥ Vec.toV (flat rho)
  rw [toV_vecOfDensityRaw, Matrix.star_mulVec, Matrix.dotProduct_mulVec, Matrix.vecMul_vecMul,
    toM_basisConj_conjTranspose, (complete_iff B).1 h, Matrix.vecMul_one]

theorem frobSq_hsOfChoi (B : Basis K d (d * d)) (h : Orthonormal B) (c : Mat K (d * d) (d * d)) :
    frobSq (hsOfChoiSparseRaw B c) = frobSq c := by
  rw [hsOfChoiSparseRaw_eq, frobSq, flat_unflat]
  exact frobSq_vecOfDensityRaw _ (complete_of_orthonormal _ (bbcBasis_orthonormal B h)) c

theorem choiOfKraus_hermitian (ks : List (Mat K d d)) : IsHermitianMat (choiOfKraus ks) := by
  intro i j
  simp only [choiOfKraus, Mat.get_ofFn]
  induction ks with
  | nil => exact star_zero _
  | cons k ks ih => rw [List.map_cons, List.sum_cons, star_add, ih, star_mul', star_star, mul_comm]; rfl

theorem hsOfChoiSparseRaw_sub (B : Basis K d (d * d)) (x y : Mat K (d * d) (d * d)) :
    hsOfChoiSparseRaw B (x.sub y) = (hsOfChoiSparseRaw B x).sub (hsOfChoiSparseRaw B y) := by
  apply Mat.ext'; intro al be
  simp only [Mat.sub, Mat.get_ofFn, hsOfChoiSparseRaw_get, mul_sub, Finset.sum_sub_distrib]

end frob

end QM.C02
