import QProofs.Psd
/-! C04 toolbox: eigenvalue clipping is the Frobenius-nearest PSD matrix (existence, uniqueness,
fixed points, idempotence), and the transfer of these statements to real coefficient space over an
orthonormal family of matrices. -/
open Matrix
namespace QM.Psd
open scoped MatrixOrder ComplexOrder
set_option linter.unusedSectionVars false

variable {n : Type*} [Fintype n] [DecidableEq n] {𝕜 : Type*} [RCLike 𝕜]
variable {ι : Type*} [Fintype ι] [DecidableEq ι]

/-- real Hilbert–Schmidt inner product `re tr(Mᴴ N)` -/
noncomputable def hsr (M N : Matrix n n 𝕜) : ℝ := RCLike.re (Mᴴ * N).trace

/-- squared Frobenius norm -/
noncomputable def frobSq (M : Matrix n n 𝕜) : ℝ := RCLike.re (Mᴴ * M).trace

lemma frobSq_eq_hsr (M : Matrix n n 𝕜) : frobSq M = hsr M M := rfl

lemma hsr_comm (M N : Matrix n n 𝕜) : hsr M N = hsr N M := by
  unfold hsr
  have h : Nᴴ * M = (Mᴴ * N)ᴴ := by
    rw [conjTranspose_mul, conjTranspose_conjTranspose]
  rw [h, trace_conjTranspose, RCLike.star_def, RCLike.conj_re]

lemma hsr_sub_left (M N K : Matrix n n 𝕜) : hsr (M - N) K = hsr M K - hsr N K := by
  rw [hsr, conjTranspose_sub, Matrix.sub_mul, trace_sub, map_sub]; rfl

lemma hsr_sub_right (M N K : Matrix n n 𝕜) : hsr K (M - N) = hsr K M - hsr K N := by
  rw [hsr, Matrix.mul_sub, trace_sub, map_sub]; rfl

lemma frobSq_sub (M N : Matrix n n 𝕜) : frobSq (M - N) = frobSq M + frobSq N - 2 * hsr M N := by
  rw [frobSq_eq_hsr, frobSq_eq_hsr, frobSq_eq_hsr, hsr_sub_left, hsr_sub_right, hsr_sub_right,
    hsr_comm N M]
  ring

/-- Pythagoras with the cross term -/
lemma frobSq_expand (A P X : Matrix n n 𝕜) :
    frobSq (A - X) = frobSq (A - P) + frobSq (X - P) - 2 * hsr (A - P) (X - P) := by
  rw [← frobSq_sub]; congr 1; abel

theorem frobSq_nonneg (M : Matrix n n 𝕜) : 0 ≤ frobSq M := by
  have h : (0 : 𝕜) ≤ (Mᴴ * M).trace := (posSemidef_conjTranspose_mul_self M).trace_nonneg
  exact (RCLike.nonneg_iff.mp h).1

theorem frobSq_eq_zero_iff (M : Matrix n n 𝕜) : frobSq M = 0 ↔ M = 0 := by
  have h := RCLike.nonneg_iff.mp (posSemidef_conjTranspose_mul_self M).trace_nonneg
  rw [← trace_conjTranspose_mul_self_eq_zero_iff, RCLike.ext_iff (K := 𝕜), map_zero, map_zero]
  exact ⟨fun h0 => ⟨h0, h.2⟩, fun h0 => h0.1⟩

theorem clip_posSemidef (U : Matrix n n 𝕜) (d : n → ℝ) : (clip U d).PosSemidef :=
  conj_diag_psd U _ (fun _ => le_max_right _ _)

theorem clip_isHermitian (U : Matrix n n 𝕜) (d : n → ℝ) : (clip U d).IsHermitian :=
  (clip_posSemidef U d).isHermitian

lemma conj_diag_isHermitian (U : Matrix n n 𝕜) (d : n → ℝ) :
    (U * diagonal (fun i => ((d i : ℝ) : 𝕜)) * Uᴴ).IsHermitian :=
  isHermitian_mul_mul_conjTranspose U
    (isHermitian_diagonal_of_self_adjoint _ (funext fun i => RCLike.conj_ofReal (d i)))

/-- variational inequality in real-inner-product form -/
theorem clip_vi_re (U : Matrix n n 𝕜) (hU : Uᴴ * U = 1) (d : n → ℝ) (A : Matrix n n 𝕜)
    (hA : A = U * diagonal (fun i => ((d i : ℝ) : 𝕜)) * Uᴴ)
    {X : Matrix n n 𝕜} (hX : X.PosSemidef) :
    hsr (A - clip U d) (X - clip U d) ≤ 0 := by
  have hAh : Aᴴ = A := by rw [hA]; exact conj_diag_isHermitian U d
  rw [hsr, conjTranspose_sub, hAh, (clip_isHermitian U d).eq]
  exact (RCLike.nonpos_iff.mp (clip_vi U hU d A hA hX)).1

/-- eigenvalue clipping is the Frobenius-nearest PSD matrix -/
theorem clip_nearest (U : Matrix n n 𝕜) (hU : Uᴴ * U = 1) (d : n → ℝ) (A : Matrix n n 𝕜)
    (hA : A = U * diagonal (fun i => ((d i : ℝ) : 𝕜)) * Uᴴ)
    {X : Matrix n n 𝕜} (hX : X.PosSemidef) :
    frobSq (A - clip U d) ≤ frobSq (A - X) := by
  have hvi := clip_vi_re U hU d A hA hX
  have := frobSq_nonneg (X - clip U d)
  rw [frobSq_expand A (clip U d) X]
  linarith

/-- ... and the only one at that distance -/
theorem clip_nearest_unique (U : Matrix n n 𝕜) (hU : Uᴴ * U = 1) (d : n → ℝ) (A : Matrix n n 𝕜)
    (hA : A = U * diagonal (fun i => ((d i : ℝ) : 𝕜)) * Uᴴ)
    {X : Matrix n n 𝕜} (hX : X.PosSemidef)
    (h : frobSq (A - X) ≤ frobSq (A - clip U d)) : X = clip U d := by
  have hvi := clip_vi_re U hU d A hA hX
  have h0 := frobSq_nonneg (X - clip U d)
  rw [frobSq_expand A (clip U d) X] at h
  exact sub_eq_zero.mp ((frobSq_eq_zero_iff _).mp (by linarith))

/-- a PSD matrix is reproduced by clipping ANY of its unitary eigendecompositions -/
theorem clip_fix (U : Matrix n n 𝕜) (hU : Uᴴ * U = 1) (d : n → ℝ) (A : Matrix n n 𝕜)
    (hA : A = U * diagonal (fun i => ((d i : ℝ) : 𝕜)) * Uᴴ) (hpsd : A.PosSemidef) :
    clip U d = A := by
  have hD : Uᴴ * A * U = diagonal (fun i => ((d i : ℝ) : 𝕜)) := by
    rw [hA, ← Matrix.mul_assoc, ← Matrix.mul_assoc, hU, Matrix.one_mul, Matrix.mul_assoc, hU, Matrix.mul_one]
  have hDpsd : (diagonal (fun i => ((d i : ℝ) : 𝕜))).PosSemidef := by
    rw [← hD]; exact hpsd.conjTranspose_mul_mul_same U
  have hd : ∀ i, 0 ≤ d i := by
    intro i
    have h := hDpsd.diag_nonneg (i := i)
    rw [diagonal_apply_eq] at h
    exact RCLike.ofReal_nonneg.mp h
  rw [hA, clip]
  congr 3
  funext i
  rw [max_eq_left (hd i)]

/-- idempotence: clipping any unitary eigendecomposition `(U', d')` of a clipped matrix gives the
same matrix -/
theorem clip_idem (U : Matrix n n 𝕜) (d : n → ℝ) (U' : Matrix n n 𝕜) (hU' : U'ᴴ * U' = 1)
    (d' : n → ℝ) (h : clip U d = U' * diagonal (fun i => ((d' i : ℝ) : 𝕜)) * U'ᴴ) :
    clip U' d' = clip U d :=
  clip_fix U' hU' d' (clip U d) h (clip_posSemidef U d)

/-- `Σ_α v_α • B_α` -/
noncomputable def synth (B : ι → Matrix n n 𝕜) (v : ι → ℝ) : Matrix n n 𝕜 :=
  ∑ α, ((v α : ℝ) : 𝕜) • B α

/-- `α ↦ re tr(B_αᴴ H)` -/
noncomputable def coeff (B : ι → Matrix n n 𝕜) (H : Matrix n n 𝕜) : ι → ℝ :=
  fun α => RCLike.re ((B α)ᴴ * H).trace

/-- orthonormal w.r.t. the Hilbert–Schmidt inner product -/
def OrthoN (B : ι → Matrix n n 𝕜) : Prop :=
  ∀ α β, ((B α)ᴴ * B β).trace = if α = β then 1 else 0

theorem synth_sub (B : ι → Matrix n n 𝕜) (x y : ι → ℝ) :
    synth B x - synth B y = synth B (x - y) := by
  simp only [synth, ← Finset.sum_sub_distrib, Pi.sub_apply, RCLike.ofReal_sub, sub_smul]

/-- `hsr` against a synthesised matrix, term by term: `coeff B` is the adjoint of `synth B` -/
theorem hsr_synth_left (B : ι → Matrix n n 𝕜) (y : ι → ℝ) (H : Matrix n n 𝕜) :
    hsr (synth B y) H = ∑ α, y α * coeff B H α := by
  unfold hsr coeff synth
  rw [conjTranspose_sum, Finset.sum_mul, trace_sum, map_sum]
  refine Finset.sum_congr rfl (fun α _ => ?_)
  rw [conjTranspose_smul, Matrix.smul_mul, trace_smul, RCLike.star_def, RCLike.conj_ofReal,
    smul_eq_mul, RCLike.re_ofReal_mul]

theorem coeff_synth (B : ι → Matrix n n 𝕜) (hB : OrthoN B) (v : ι → ℝ) :
    coeff B (synth B v) = v := by
  funext β
  have h : coeff B (synth B v) β = hsr (synth B v) (B β) := hsr_comm _ _
  rw [h, hsr_synth_left]
  simp only [coeff, hB _ _, apply_ite RCLike.re, RCLike.one_re, map_zero, mul_ite, mul_one, mul_zero,
    Finset.sum_ite_eq', Finset.mem_univ, if_true]

/-- polarised form of `frobSq_synth` -/
lemma hsr_synth (B : ι → Matrix n n 𝕜) (hB : OrthoN B) (u w : ι → ℝ) :
    hsr (synth B u) (synth B w) = ∑ α, u α * w α := by
  rw [hsr_synth_left, coeff_synth B hB]

theorem frobSq_synth (B : ι → Matrix n n 𝕜) (hB : OrthoN B) (v : ι → ℝ) :
    frobSq (synth B v) = ∑ α, (v α) ^ 2 := by
  rw [frobSq_eq_hsr, hsr_synth B hB]
  exact Finset.sum_congr rfl (fun α _ => (sq _).symm)

/-- parameter-space variational inequality: if the operator of `p` is the clipped matrix, then `⟪x − p, y − p⟫ ≤ 0` for every
`y` with PSD operator (`synth B` is an isometry from coefficient space, so this is `clip_vi_re`) -/
theorem param_vi (B : ι → Matrix n n 𝕜) (hB : OrthoN B) (U : Matrix n n 𝕜) (hU : Uᴴ * U = 1)
    (d : n → ℝ) (x : ι → ℝ) (hA : synth B x = U * diagonal (fun i => ((d i : ℝ) : 𝕜)) * Uᴴ)
    (p : ι → ℝ) (hp : synth B p = clip U d) (y : ι → ℝ) (hy : (synth B y).PosSemidef) :
    ∑ α, (x α - p α) * (y α - p α) ≤ 0 := by
  have h := clip_vi_re U hU d (synth B x) hA hy
  rwa [← hp, synth_sub, synth_sub, hsr_synth B hB] at h

theorem param_nearest (B : ι → Matrix n n 𝕜) (hB : OrthoN B) (U : Matrix n n 𝕜)
    (hU : Uᴴ * U = 1) (d : n → ℝ) (x : ι → ℝ)
    (hA : synth B x = U * diagonal (fun i => ((d i : ℝ) : 𝕜)) * Uᴴ)
    (hspan : synth B (coeff B (clip U d)) = clip U d)
    (y : ι → ℝ) (hy : (synth B y).PosSemidef) :
    ∑ α, (x α - coeff B (clip U d) α) ^ 2 ≤ ∑ α, (x α - y α) ^ 2 := by
  have h := clip_nearest U hU d (synth B x) hA hy
  rwa [← hspan, synth_sub, synth_sub, frobSq_synth B hB, frobSq_synth B hB] at h

theorem param_feasible (B : ι → Matrix n n 𝕜) (U : Matrix n n 𝕜) (d : n → ℝ)
    (hspan : synth B (coeff B (clip U d)) = clip U d) :
    (synth B (coeff B (clip U d))).PosSemidef := by
  rw [hspan]; exact clip_posSemidef U d

end QM.Psd
