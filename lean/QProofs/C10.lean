import QModel.C10
import Mathlib.Analysis.Convex.Basic
import Mathlib.Algebra.Order.Field.Basic
import Mathlib.Tactic.Linarith
import Mathlib.Tactic.Ring
import QProofs.Bridge
import Mathlib.Algebra.Order.BigOperators.Ring.Finset
/-! helper lemmas for C10: the invariant rules of the Dykstra loop and of the backtracking loop, the step sizes the line search returns -/
namespace QM.C10

section dykstra
variable {K V : Type} [Add V] [Sub V] [Add K] [LT K] [DecidableLT K]

/-- Invariant rule of `dykLoop`: the returned state is one sweep from a state `s0` at which every predicate that the sweeps
preserve still holds, and the Birgin–Raydan value of that sweep is below `eps` if the loop stopped on it -/
theorem dykLoop_rule (P1 P2 : V → V) (normSq : V → K) (eps : K) (Inv : DykState V → Prop)
    (hstep : ∀ s, Inv s → Inv (dykSweep P1 P2 s)) :
    ∀ (fuel k : Nat) (s : DykState V), 0 < fuel → Inv s →
      ∃ s0, Inv s0 ∧ (dykLoop P1 P2 normSq eps fuel k s).1 = dykSweep P1 P2 s0 ∧
        ((dykLoop P1 P2 normSq eps fuel k s).2 = true →
          brValue normSq s0 (dykSweep P1 P2 s0) < eps) := by
  intro fuel
  induction fuel with
  | zero => intro k s h; omega
  | succ fuel ih =>
    intro k s _ hI
    unfold dykLoop
    by_cases hstop : 1 ≤ k ∧ brValue normSq s (dykSweep P1 P2 s) < eps
    · simp only [hstop, and_self, if_true]
      exact ⟨s, hI, rfl, fun _ => hstop.2⟩
    · simp only [hstop, if_false]
      cases fuel with
      | zero => exact ⟨s, hI, rfl, fun h => by simp at h⟩
      | succ f => exact ih (k + 1) (dykSweep P1 P2 s) (Nat.succ_pos f) (hstep s hI)

end dykstra

theorem dykSweep_q_diff {V : Type} [AddCommGroup V] (P1 P2 : V → V) (s : DykState V) :
    s.q - (dykSweep P1 P2 s).q = (dykSweep P1 P2 s).x - (dykSweep P1 P2 s).y := by
  simp only [dykSweep]; abel

theorem dykSweep_sum {V : Type} [AddCommGroup V] (P1 P2 : V → V) (s : DykState V) :
    (dykSweep P1 P2 s).x + (dykSweep P1 P2 s).p + (dykSweep P1 P2 s).q = s.x + s.p + s.q := by
  simp only [dykSweep]; abel

section backtrack
variable {K V : Type} [Field K] [LinearOrder K] [IsStrictOrderedRing K] [Add V] [SMul K V]

/-- The last clause — unless the first step size was accepted, twice the returned one was tried and rejected — is what bounds
the accepted step size from below on a smooth loss. -/
theorem backtrack_range (f : V → K) (grad : V → V) (dot : V → V → K) (x y : V) (gamma : K) :
    ∀ (fuel : Nat) (a0 a : K), 0 < a0 → a0 ≤ 1 → backtrack f grad dot x y gamma fuel a0 = some a →
      0 < a ∧ a ≤ a0 ∧ isDoingForAlpha f grad dot x y a gamma = false ∧
        (a = a0 ∨ isDoingForAlpha f grad dot x y (2 * a) gamma = true ∧ 2 * a ≤ a0) := by
  intro fuel
  induction fuel with
  | zero => intro a0 a _ _ h; cases h
  | succ fuel ih =>
    intro a0 a h0 h1 h
    unfold backtrack at h
    by_cases hd : isDoingForAlpha f grad dot x y a0 gamma = true
    · rw [if_pos hd, one_add_one_eq_two] at h
      have hle : (1 / 2 : K) * a0 ≤ a0 := mul_le_of_le_one_left h0.le one_half_lt_one.le
      obtain ⟨ha, hb, hacc, hprev⟩ := ih _ a (mul_pos one_half_pos h0) (hle.trans h1) h
      refine ⟨ha, hb.trans hle, hacc, Or.inr ?_⟩
      rcases hprev with h1 | ⟨h1, h2⟩
      · rw [h1, ← mul_assoc, mul_one_div_cancel two_ne_zero, one_mul]; exact ⟨hd, le_rfl⟩
      · exact ⟨h1, h2.trans hle⟩
    · rw [if_neg hd] at h
      cases h
      exact ⟨h0, le_rfl, (Bool.not_eq_true _).mp hd, Or.inl rfl⟩

end backtrack

section pgd
variable {K V : Type} [Add V] [Sub V] [SMul K V] [Add K] [Sub K] [Mul K] [Div K] [Neg K] [Zero K] [One K] [LT K]
  [DecidableLT K] {proj : V → V} {f : V → K} {grad : V → V} {dot : V → V → K} {sqrt : K → K} {mu gamma eps : K}
  {mode : StopMode} {numHist btFuel : Nat}

theorem pgdbStep_spec {x : V} {it : PgdbIter K V} (h : pgdbStep proj f grad dot sqrt mu gamma mode btFuel x = some it) :
    backtrack f grad dot x (pgdbDir proj grad mu x) gamma btFuel 1 = some it.alpha ∧ it.y = pgdbDir proj grad mu x ∧
      it.xNext = x + it.alpha • it.y ∧ it.err = errorValue mode f sqrt (fun v => dot v v) x it.xNext it.y := by
  unfold pgdbStep at h
  cases hb : backtrack f grad dot x (pgdbDir proj grad mu x) gamma btFuel 1 with
  | none => simp [hb] at h
  | some a => simp only [hb, Option.some.injEq] at h; subst h; exact ⟨rfl, rfl, rfl, rfl⟩

/-- Invariant rule of `pgdbLoop`: a predicate of the loop head (current point, error values, visited points) that every iteration
after which the loop continues preserves holds of the head the result was produced from — the result is that head itself (iteration
limit reached) or one more iteration from it (stopping rule met). -/
theorem pgdbLoop_rule (Inv : V → List K → List V → Prop)
    (hcont : ∀ x errs xs it, Inv x errs xs → pgdbStep proj f grad dot sqrt mu gamma mode btFuel x = some it →
      isDoing (errs ++ [it.err]) numHist eps = true → Inv it.xNext (errs ++ [it.err]) (it.xNext :: xs)) :
    ∀ (fuel : Nat) (x : V) (errs : List K) (xs : List V) (res : List V × List K), Inv x errs xs →
      pgdbLoop proj f grad dot sqrt mu gamma eps mode numHist btFuel fuel x errs xs = some res →
      ∃ x' errs' xs', Inv x' errs' xs' ∧ (res = (xs', errs') ∨
        ∃ it, pgdbStep proj f grad dot sqrt mu gamma mode btFuel x' = some it ∧ res = (it.xNext :: xs', errs' ++ [it.err])) := by
  intro fuel
  induction fuel with
  | zero =>
    intro x errs xs res hI h
    simp only [pgdbLoop, Option.some.injEq] at h
    exact ⟨x, errs, xs, hI, Or.inl h.symm⟩
  | succ fuel ih =>
    intro x errs xs res hI h
    unfold pgdbLoop at h
    cases hs : pgdbStep proj f grad dot sqrt mu gamma mode btFuel x with
    | none => simp [hs] at h
    | some it =>
      simp only [hs] at h
      by_cases hd : isDoing (errs ++ [it.err]) numHist eps = true
      · rw [if_pos hd] at h
        exact ih _ _ _ res (hcont x errs xs it hI hs hd) h
      · rw [if_neg hd] at h
        exact ⟨x, errs, xs, hI, Or.inr ⟨it, hs, (Option.some.inj h).symm⟩⟩

theorem pgdbLoop_invariant (Inv : V → List K → List V → Prop)
    (hstep : ∀ x errs xs it, Inv x errs xs → pgdbStep proj f grad dot sqrt mu gamma mode btFuel x = some it →
      Inv it.xNext (errs ++ [it.err]) (it.xNext :: xs))
    {fuel : Nat} {x : V} {errs : List K} {xs : List V} {res : List V × List K} (hI : Inv x errs xs)
    (h : pgdbLoop proj f grad dot sqrt mu gamma eps mode numHist btFuel fuel x errs xs = some res) :
    ∃ x', Inv x' res.2 res.1 := by
  obtain ⟨x', errs', xs', hI', rfl | ⟨it, hs, rfl⟩⟩ :=
    pgdbLoop_rule Inv (fun x errs xs it hI hs _ => hstep x errs xs it hI hs) fuel x errs xs res hI h
  · exact ⟨x', hI'⟩
  · exact ⟨_, hstep _ _ _ _ hI' hs⟩

theorem pgdbOptimize_eq_some {maxIter : Nat} {xStart x : V} {hist : List V} {errs : List K}
    (h : pgdbOptimize proj f grad dot sqrt mu gamma eps mode numHist btFuel maxIter xStart = some (x, hist, errs)) :
    ∃ xs, hist = x :: xs ∧
      pgdbLoop proj f grad dot sqrt mu gamma eps mode numHist btFuel maxIter xStart [] [xStart] = some (x :: xs, errs) := by
  unfold pgdbOptimize at h
  split at h
  · split at h
    · cases h
    · cases h; exact ⟨_, rfl, by assumption⟩
  · cases h

end pgd

end QM.C10

namespace QM.C10.Drv
open QM

theorem seValue_nonneg {m n : Nat} (A : Mat Rat m n) (c : Vec Rat m) (x : Vec Rat n) : 0 ≤ seValue A c x := by
  unfold seValue
  simp only [Vec.dot_eq, dotProduct]
  exact Finset.sum_nonneg fun i _ => mul_self_nonneg _

theorem dot_eq_zero_of_left {m : Nat} {r : Vec Rat m} (h : ∀ i, r.get i = 0) (w : Vec Rat m) : r.dot w = 0 := by
  rw [Vec.dot_eq, show Vec.toV r = 0 from funext h, zero_dotProduct]

end QM.C10.Drv
